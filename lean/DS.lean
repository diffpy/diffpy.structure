-- Root of the `DS` library: every module that `lake build DS` must check.
import DS.Model.Sym
import DS.Model.SymSpec
import DS.Model.Lin
import DS.Gen.Index
import DS.Gen.DIndex
import DS.Lemmas.OpCode
import DS.Lemmas.Group
import DS.Lemmas.ListAux
import DS.Lemmas.CharAux
import DS.Lemmas.Assoc
import DS.Lemmas.Mat3
import DS.Lemmas.RealElem
import DS.Props.C03
import DS.Model.SymType
import DS.Gen.SIndex
import DS.Lemmas.SymType
import DS.Props.C03c
import DS.Model.SymEquiv
import DS.Gen.EIndex
import DS.Lemmas.EquivCode
import DS.Lemmas.SymEquiv
import DS.Props.C03d
import DS.Model.Sched
import DS.Gen.Protocol
import DS.Lemmas.Sched
import DS.Props.C19
import DS.Model.Adp
import DS.Lemmas.Adp
import DS.Props.C09
import DS.Gen.SrcAtom
import DS.Props.SrcAtom
import DS.Model.Orbit
import DS.Lemmas.Orbit
import DS.Lemmas.OrbitExact
import DS.Props.C02
import DS.Model.Lattice
import DS.Lemmas.Lattice
import DS.Props.C01
import DS.Props.C10
import DS.Gen.SrcLattice
import DS.Props.SrcLattice
import DS.Props.C14
import DS.Gen.SrcStructure
import DS.Props.SrcStructure
import DS.Lemmas.Expand
import DS.Props.C15
import DS.Gen.SrcExpand
import DS.Props.SrcExpand
import DS.Props.SrcExpandGeom
import DS.Gen.SrcShape
import DS.Props.SrcShape
import DS.Props.C18
import DS.Gen.Registry
import DS.Model.Load
import DS.Lemmas.Load
import DS.Props.C12
import DS.Lemmas.C12Matrix
import DS.Props.C12Matrix
import DS.Props.C16
import DS.Lemmas.Dec
import DS.Lemmas.Formats
import DS.Lemmas.FormatsX
import DS.Lemmas.FormatsC
import DS.Lemmas.FormatsI
import DS.Props.C04
import DS.Model.Cli
import DS.Gen.Formats
import DS.Props.C20
import DS.Gen.SrcLoad
import DS.Props.SrcLoad
import DS.Model.Parsers
import DS.Gen.Handlers
import DS.Lemmas.Parsers
import DS.Props.C13
import DS.Lemmas.Constraints
import DS.Props.C05
import DS.Props.C06
import DS.Model.World
import DS.Lemmas.World
import DS.Lemmas.WorldAlias
import DS.Props.C08
import DS.Gen.SrcContainer
import DS.Props.SrcContainer
import DS.Model.Column
import DS.Props.C08Column
import DS.Model.SymText
import DS.Model.Sinks
import DS.Gen.Sinks
import DS.Lemmas.SymText
import DS.Props.C17
import DS.Model.Cif
import DS.Model.CifNum
import DS.Lemmas.Cif
import DS.Props.C07
import DS.Gen.SrcCif
import DS.Props.SrcCif
import DS.Model.LatRule
import DS.Gen.LatIndex
import DS.Lemmas.LatRule
import DS.Props.C03b
import DS.Props.C03bFull
import DS.Model.Lookup
import DS.Lemmas.Lookup
import DS.Props.C11
import DS.Model.Partition
import DS.Lemmas.Partition
import DS.Props.C05Partition
import DS.Lemmas.OrbitGap
import DS.Props.C02Gap
import DS.Lemmas.LatBridge
import DS.Props.Bridge
import DS.Gen.SrcLookup
import DS.Props.SrcLookup
import DS.Model.SymReal
import DS.Gen.SrcSym
import DS.Lemmas.SrcSym
import DS.Props.SrcSym
import DS.Model.CifRow
import DS.Lemmas.CifRow
import DS.Props.C07Row
import DS.Gen.SrcCifRow
import DS.Props.SrcCifRow
import DS.Model.CifSym
import DS.Props.C07Sym
import DS.Gen.SrcCifSym
import DS.Props.SrcCifSym
import DS.Props.C07SymTables
import DS.Props.SrcCifExpand
import DS.Model.ConReal
import DS.Gen.SrcConstraints
import DS.Lemmas.SrcConstraints
import DS.Props.SrcConstraints
import DS.Model.Rx
import DS.Gen.SrcSymOp
import DS.Lemmas.SrcSymOp
import DS.Lemmas.SrcSymOp2
import DS.Lemmas.SrcSymOp3
import DS.Lemmas.SrcSymOp5
import DS.Lemmas.SrcSymOp4
import DS.Props.SrcSymOp
import DS.Props.SrcReaders
import DS.Model.PyFormat
import DS.Gen.SrcWriters
import DS.Props.SrcWriters
import DS.Gen.SrcMsd
import DS.Props.SrcMsd

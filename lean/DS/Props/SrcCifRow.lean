import DS.Gen.SrcCifRow
import DS.Model.CifRow
/-!
# Source tie for the atom-site row phase of the CIF reader (serves C07)

`DS/Gen/SrcCifRow.lean` is regenerated on every run by `translate/src_cifrow.py` from the *current*
`parsers/p_cif.py` (and the attributes of `Atom` it writes, from `atom.py`; `Structure.addNewAtom` from `structure.py`).

1. **Transliterated** (Lean definitions, compared with the model as functions): `P_cif.BtoU`; the body of every
   `_tr_*` setter (25 bodies; one attribute is an alias, 26 in all); the dictionary `_atom_setters` as it is after the class body has run; the binding of every
   `_tr_*` class attribute (`getattr`); `_get_atom_setters`.  The theorems say that `DS.CifRow.applySetter`,
   `setterTable`, `setterAttrs`, `fncName`, `itemOfName?` — the objects of the theorems of `DS.Props.C07Row` — *are* that
   transliteration, for every scalar type (hence for ℝ and for `Float`).
   The two loop methods `_parse_atom_site_label` and `_parse_atom_site_aniso_label` (section 1b): transliterated statement by
   statement (`continue` / `break` / the exception kinds kept); `parse_atom_site_label_eq` and `parse_atom_site_aniso_label_eq`
   say that the model's `parseSite` / `parseAniso` (`siteLoop`, `anisoLoop`) are those transliterations for every input, with
   every exception kind collapsed to the model's `none` (`_parseCifDataSource` turns all of them into `StructureFormatError`);
   `attrs_chk_eq`: the setters that can raise are those the model marks `needsNum`, on the values `valueOK` rejects.
2. **Recorded as text** (compared verbatim): the pattern of `_psymb` (which `DS.CifRow.symbolMatch` transcribes; the
   matcher itself is validated by the `cifrow.symbol` correspondence stream), the statements
   of `_parseCifBlock` (which `parseAtoms` transcribes: fresh structure and dictionaries, the order of the two loops), of `Atom.xyz_cartn`,
   `_AtomCartesianCoordinates.__init__/__setitem__` (which `setCartnIx` transcribes), `Structure.addNewAtom`,
   `getLastAtom` and the defaults of `Atom` (which `Atom.fresh` transcribes).

Any edit of these pieces of source breaks the corresponding theorem (a harmless one too — then the check widens its
search and reports `no-failing-input-found` at most).
-/
namespace DS.Props.SrcCifRow
open DS DS.CifRow
set_option linter.unusedSectionVars false

/-! ## 1. transliterated -/

section
variable {α : Type} [Add α] [Mul α] [Sub α] [Neg α] [Div α] [OfNat α 0] [OfNat α 1]
  [OfNat α 2] [OfNat α 3] [OfNat α 8] [LT α] [DecidableLT α] [Elem α] [AdpConst α]

/-- `P_cif.BtoU` is the constant `_BtoU` of `atom.py` (model `DS.BtoU`) -/
theorem BtoU_eq : (Src.CifRow.BtoU : α) = DS.BtoU := rfl

variable (a : Atom α) (v : Value α)

theorem tr_ignore_eq : Src.CifRow.tr_ignore a v = applySetter .ignore v a := rfl
/-- element symbol: group 0 of `_psymb` or the whole text, first character upper case, the rest lower case -/
theorem tr_type_symbol_eq : Src.CifRow.tr_atom_site_type_symbol a v = applySetter .typeSymbol v a := rfl
/-- the label is stored; the element is derived from it only when the atom has none yet -/
theorem tr_label_eq : Src.CifRow.tr_atom_site_label a v = applySetter .label v a := by
  unfold Src.CifRow.tr_atom_site_label
  show (if (a.element == "") = true then Src.CifRow.tr_atom_site_type_symbol (Atom.setLabel v.text a) v else Atom.setLabel v.text a) =
    ({ a with element := (labelNames v.text a.element a.label).1, label := (labelNames v.text a.element a.label).2 } : Atom α)
  unfold labelNames
  cases (a.element == "") <;> rfl
theorem tr_fract_x_eq : Src.CifRow.tr_atom_site_fract_x a v = applySetter (.fract .i0) v a := rfl
theorem tr_fract_y_eq : Src.CifRow.tr_atom_site_fract_y a v = applySetter (.fract .i1) v a := rfl
theorem tr_fract_z_eq : Src.CifRow.tr_atom_site_fract_z a v = applySetter (.fract .i2) v a := rfl
theorem tr_cartn_x_eq : Src.CifRow.tr_atom_site_cartn_x a v = applySetter (.cartn .i0) v a := rfl
theorem tr_cartn_y_eq : Src.CifRow.tr_atom_site_cartn_y a v = applySetter (.cartn .i1) v a := rfl
theorem tr_cartn_z_eq : Src.CifRow.tr_atom_site_cartn_z a v = applySetter (.cartn .i2) v a := rfl
theorem tr_U_iso_eq : Src.CifRow.tr_atom_site_U_iso_or_equiv a v = applySetter .uiso v a := rfl
theorem tr_B_iso_eq : Src.CifRow.tr_atom_site_B_iso_or_equiv a v = applySetter .biso v a := rfl
/-- `value not in ("Uiso", "Biso")` -/
theorem tr_adp_type_eq : Src.CifRow.tr_atom_site_adp_type a v = applySetter .adpType v a := rfl
/-- default occupancy `1.0` for `.` and `?` -/
theorem tr_occupancy_eq : Src.CifRow.tr_atom_site_occupancy a v = applySetter .occupancy v a := rfl
theorem tr_aniso_U_11_eq : Src.CifRow.tr_atom_site_aniso_U_11 a v = applySetter (.anisoU .p11) v a := rfl
theorem tr_aniso_U_22_eq : Src.CifRow.tr_atom_site_aniso_U_22 a v = applySetter (.anisoU .p22) v a := rfl
theorem tr_aniso_U_33_eq : Src.CifRow.tr_atom_site_aniso_U_33 a v = applySetter (.anisoU .p33) v a := rfl
theorem tr_aniso_U_12_eq : Src.CifRow.tr_atom_site_aniso_U_12 a v = applySetter (.anisoU .p12) v a := rfl
theorem tr_aniso_U_13_eq : Src.CifRow.tr_atom_site_aniso_U_13 a v = applySetter (.anisoU .p13) v a := rfl
theorem tr_aniso_U_23_eq : Src.CifRow.tr_atom_site_aniso_U_23 a v = applySetter (.anisoU .p23) v a := rfl
theorem tr_aniso_B_11_eq : Src.CifRow.tr_atom_site_aniso_B_11 a v = applySetter (.anisoB .p11) v a := rfl
theorem tr_aniso_B_22_eq : Src.CifRow.tr_atom_site_aniso_B_22 a v = applySetter (.anisoB .p22) v a := rfl
theorem tr_aniso_B_33_eq : Src.CifRow.tr_atom_site_aniso_B_33 a v = applySetter (.anisoB .p33) v a := rfl
theorem tr_aniso_B_12_eq : Src.CifRow.tr_atom_site_aniso_B_12 a v = applySetter (.anisoB .p12) v a := rfl
theorem tr_aniso_B_13_eq : Src.CifRow.tr_atom_site_aniso_B_13 a v = applySetter (.anisoB .p13) v a := rfl
theorem tr_aniso_B_23_eq : Src.CifRow.tr_atom_site_aniso_B_23 a v = applySetter (.anisoB .p23) v a := rfl

omit a v

/-- the setter of an item together with the condition under which its call returns (`valueOK`) -/
def setterOf (it : Item) : Src.CifRow.Setter α := { ok := valueOK it, run := fun a v => applySetter it v a }

/-- `leading_float(value, d)` returns iff the text starts with a number or is `.` / `?` -/
theorem leadingFloat_isSome (d : α) : (fun v : Value α => (leadingFloat? v d).isSome) = fun v => v.num.isSome || isUnknown v.text := by
  funext v
  unfold leadingFloat?
  cases v.num with
  | some x => rfl
  | none => cases isUnknown v.text <;> rfl

/-- which setters can raise: exactly those the model marks `needsNum`, on exactly the values `valueOK` rejects -/
theorem attrs_chk_eq : (Src.CifRow.attrs_chk : List (String × Src.CifRow.Setter α)) = setterAttrs.map (fun p => (p.1, setterOf p.2)) := by
  simp only [Src.CifRow.attrs_chk, setterAttrs, List.map_cons, List.map_nil]
  have h : (Src.CifRow.tr_atom_site_label : Atom α → Value α → Atom α) = fun a v => applySetter .label v a :=
    funext fun a => funext fun v => tr_label_eq a v
  rw [h]
  unfold Src.CifRow.tr_atom_site_fract_x_ok Src.CifRow.tr_atom_site_fract_y_ok Src.CifRow.tr_atom_site_fract_z_ok
    Src.CifRow.tr_atom_site_cartn_x_ok Src.CifRow.tr_atom_site_cartn_y_ok Src.CifRow.tr_atom_site_cartn_z_ok
    Src.CifRow.tr_atom_site_U_iso_or_equiv_ok Src.CifRow.tr_atom_site_B_iso_or_equiv_ok Src.CifRow.tr_atom_site_occupancy_ok
    Src.CifRow.tr_atom_site_aniso_U_11_ok Src.CifRow.tr_atom_site_aniso_U_22_ok Src.CifRow.tr_atom_site_aniso_U_33_ok
    Src.CifRow.tr_atom_site_aniso_U_12_ok Src.CifRow.tr_atom_site_aniso_U_13_ok Src.CifRow.tr_atom_site_aniso_U_23_ok
    Src.CifRow.tr_atom_site_aniso_B_11_ok Src.CifRow.tr_atom_site_aniso_B_22_ok Src.CifRow.tr_atom_site_aniso_B_33_ok
    Src.CifRow.tr_atom_site_aniso_B_12_ok Src.CifRow.tr_atom_site_aniso_B_13_ok Src.CifRow.tr_atom_site_aniso_B_23_ok
  simp only [leadingFloat_isSome]
  rfl

/-- `getattr(P_cif, name)`: every `_tr_*` attribute is bound to the function of the item the model gives it
(`_tr_atom_site_thermal_displace_type` is the adp-type setter) -/
theorem attrs_eq : (Src.CifRow.attrs : List (String × (Atom α → Value α → Atom α))) =
    setterAttrs.map (fun p => (p.1, fun a v => applySetter p.2 v a)) := by
  rw [show (Src.CifRow.attrs : List (String × (Atom α → Value α → Atom α))) =
    Src.CifRow.attrs_chk.map (fun p => (p.1, p.2.run)) from rfl, attrs_chk_eq, List.map_map]
  rfl

theorem lookup_map_snd {β γ : Type} (f : β → γ) (k : String) :
    ∀ l : List (String × β), (l.map (fun p => (p.1, f p.2))).lookup k = (l.lookup k).map f
  | [] => rfl
  | (k', b) :: l => by
    simp only [List.map_cons, List.lookup_cons]
    split
    · rfl
    · exact lookup_map_snd f k l

theorem mapM_map_option {κ β γ : Type} (F : κ → Option β) (f : β → γ) :
    ∀ keys : List κ, keys.mapM (fun k => (F k).map f) = (keys.mapM F).map (List.map f)
  | [] => rfl
  | k :: ks => by
    simp only [List.mapM_cons, mapM_map_option F f ks]
    cases F k with
    | none => rfl
    | some b => cases ks.mapM F <;> rfl

end

/-- the dictionary `_atom_setters` (every method name and its lower-case form) -/
theorem atom_setters_eq : Src.CifRow.atom_setters = setterTable := rfl

/-- `"_tr" + p.lower()`, looked up with the default `"_tr_ignore"` -/
theorem fncName_eq (p : String) : Src.CifRow.fncName p = fncName p := rfl

section
variable {α : Type} [Add α] [Mul α] [Sub α] [Neg α] [Div α] [OfNat α 0] [OfNat α 1]
  [OfNat α 2] [OfNat α 3] [OfNat α 8] [LT α] [DecidableLT α] [Elem α] [AdpConst α]

/-- `_get_atom_setters`, one loop item: the setter selected is the setter of the item the model selects -/
theorem get_atom_setter_eq (p : String) :
    (Src.CifRow.get_atom_setter p : Option (Atom α → Value α → Atom α)) =
      (itemOfName? p).map (fun it a v => applySetter it v a) := by
  unfold Src.CifRow.get_atom_setter itemOfName?
  rw [attrs_eq, fncName_eq]
  exact lookup_map_snd (fun it a v => applySetter it v a) (fncName p) setterAttrs

/-- `_get_atom_setters(cifloop)`: the setters in the order of `cifloop.keys()` -/
theorem get_atom_setters_eq (keys : List String) :
    (Src.CifRow.get_atom_setters keys : Option (List (Atom α → Value α → Atom α))) =
      (keys.mapM itemOfName?).map (List.map (fun it a v => applySetter it v a)) := by
  unfold Src.CifRow.get_atom_setters
  rw [funext (get_atom_setter_eq (α := α))]
  exact mapM_map_option _ _ keys
end


/-! ## 1b. the two loop methods, transliterated -/

section
variable {α : Type} [Add α] [Mul α] [Sub α] [Neg α] [Div α] [OfNat α 0] [OfNat α 1]
  [OfNat α 2] [OfNat α 3] [OfNat α 8] [LT α] [DecidableLT α] [Elem α] [AdpConst α]


/-- `_get_atom_setters(cifloop)` with the raise conditions = the model's items -/
theorem get_atom_setters_chk_eq (keys : List String) :
    (Src.CifRow.get_atom_setters_chk keys : Option (List (Src.CifRow.Setter α))) = (keys.mapM itemOfName?).map (List.map setterOf) := by
  unfold Src.CifRow.get_atom_setters_chk
  simp only [attrs_chk_eq, fncName_eq, lookup_map_snd (setterOf (α := α))]
  exact mapM_map_option itemOfName? setterOf keys

/-- the inner loop `for fset, val in zip(prop_setters, values): fset(a, val)`: the setters run in column order; a `ValueError`
of any of them is the failure of the model's `colsValid` test (which the model makes before the first setter runs) -/
theorem runSetters_eq : ∀ (its : List Item) (vals : List (Value α)) (a : Atom α),
    Src.CifRow.runSetters (its.map setterOf) vals a =
      if colsValid (its.zip vals) then .ok (applyCols (its.zip vals) a) else .error Src.CifRow.Exc.ValueError
  | [], vals, a => by simp [Src.CifRow.runSetters, Src.CifRow.forLoop, colsValid, applyCols]
  | it :: its, [], a => by simp [Src.CifRow.runSetters, Src.CifRow.forLoop, colsValid, applyCols]
  | it :: its, v :: vals, a => by
    have ih := runSetters_eq its vals (applySetter it v a)
    unfold Src.CifRow.runSetters at ih ⊢
    simp only [List.map_cons, List.zip_cons_cons, Src.CifRow.forLoop, setterOf] at ih ⊢
    cases hv : valueOK it v with
    | false => simp [colsValid, hv]
    | true =>
      simp only [if_true]
      rw [ih]
      simp only [colsValid, applyCols, List.all_cons, List.foldl_cons, hv, Bool.true_and]
      rfl

/-- `Src.CifRow.Flow` seen through the model's loop state -/
def collapse {σ : Type} : Src.CifRow.Flow σ → LoopSt σ
  | .next s => .run s
  | .brk s => .done s
  | .raise _ => .err

/-- a round function on running states, as a step of a fold over `LoopSt` (the shape of `anisoStep`) -/
def liftStep {σ β : Type} (step : σ → β → LoopSt σ) : LoopSt σ → β → LoopSt σ
  | .run s, x => step s x
  | y, _ => y

theorem foldl_liftStep_done {σ β : Type} (step : σ → β → LoopSt σ) (s : σ) : ∀ l : List β, l.foldl (liftStep step) (.done s) = .done s
  | [] => rfl
  | _ :: l => foldl_liftStep_done step s l

theorem foldl_liftStep_err {σ β : Type} (step : σ → β → LoopSt σ) : ∀ l : List β, l.foldl (liftStep step) .err = .err
  | [] => rfl
  | _ :: l => foldl_liftStep_err step l

/-- a `for` loop with `continue` / `break` / exceptions is the fold of its rounds over the model's loop state -/
theorem forLoop_foldl {σ β : Type} (body : σ → β → Src.CifRow.Flow σ) (step : σ → β → LoopSt σ) (h : ∀ s x, collapse (body s x) = step s x) :
    ∀ (xs : List β) (s : σ), (Src.CifRow.forLoop body s xs).toOption = (xs.foldl (liftStep step) (.run s)).result
  | [], s => rfl
  | x :: xs, s => by
    have hx := h s x
    simp only [Src.CifRow.forLoop, List.foldl_cons, liftStep]
    rw [← hx]
    cases hb : body s x with
    | next s' => simp only [collapse]; exact forLoop_foldl body step h xs s'
    | brk s' => simp only [collapse]; rw [foldl_liftStep_done]; rfl
    | raise e => simp only [collapse]; rw [foldl_liftStep_err]; rfl

theorem forLoop_siteLoop (lat : Option (LatData α)) (its : List Item) (ilb : Nat) (doesAdp : Bool)
    (body : PState α → List (Value α) → Src.CifRow.Flow (PState α))
    (h : ∀ s v, collapse (body s v) = match siteRow lat its ilb doesAdp s v with | some s' => LoopSt.run s' | none => LoopSt.err) :
    ∀ (rows : List (List (Value α))) (s : PState α), (Src.CifRow.forLoop body s rows).toOption = siteLoop lat its ilb doesAdp s rows
  | [], s => rfl
  | v :: rows, s => by
    have hv := h s v
    simp only [Src.CifRow.forLoop, siteLoop]
    cases hb : body s v <;> cases hr : siteRow lat its ilb doesAdp s v <;> rw [hb, hr] at hv <;> cases hv
    · exact forLoop_siteLoop lat its ilb doesAdp body h rows _
    · rfl

/-- **`P_cif._parse_atom_site_label`** (transliterated statement by statement) **is the model's `parseSite`**: `does_adp_type` from the two
`in atom_site_loop` tests, the setters of `_get_atom_setters`, `ilb = keys().index("_atom_site_label")` (a `ValueError` here is kept
as an error on both sides; after the `in block` test of `_parseCifBlock` it does not occur), and per row: `?` label → `continue`,
`labelindex[label] = len(stru)`, a fresh atom appended, the setters in column order, `anisotropy[label] = a.anisotropy` iff
`does_adp_type`.  Every exception kind (`IndexError`, `ValueError`, `AttributeError`) is the model's `none`.  Stated for the parser state at
the start of a block (`PState.empty`), which is where `_parseCifBlock` calls the method. -/
theorem parse_atom_site_label_eq (lat : Option (LatData α)) (lp : Loop α) :
    (Src.CifRow.parse_atom_site_label lat lp PState.empty).toOption = parseSite lat lp := by
  unfold Src.CifRow.parse_atom_site_label parseSite
  simp only [get_atom_setters_chk_eq]
  cases hm : lp.names.mapM itemOfName? with
  | none => rfl
  | some its =>
    cases hi : lp.names.idxOf? "_atom_site_label" with
    | none => rfl
    | some ilb =>
      simp only [Option.map_some]
      refine forLoop_siteLoop lat its ilb _ _ ?_ lp.rows PState.empty
      intro s v
      simp only [siteRow, rowLabel]
      cases v[ilb]? with
      | none => rfl
      | some c =>
        simp only [Option.map_some, runSetters_eq]
        cases hq : (c.text == "?") with
        | true => rfl
        | false =>
          simp only [Bool.false_eq_true, if_false]
          cases hc : colsValid (its.zip v) with
          | false => rfl
          | true =>
            simp only [if_true, Bool.not_true, Bool.false_eq_true, if_false, collapse]
            cases (lp.names.contains "_atom_site_adp_type" || lp.names.contains "_atom_site_thermal_displace_type") <;> rfl

/-- **`P_cif._parse_atom_site_aniso_label`** (transliterated statement by statement) **is the model's `parseAniso`**:
`"_atom_site_aniso_label" not in block` → nothing happens; per row: `?` label → `break` (the remaining rows are not read),
`idx = labelindex[lb]` (`KeyError` for a label the site loop did not record — an error kind of the transliteration, `none` in the
model, `StructureFormatError` in `_parseCifDataSource`), `a = stru[idx]`, `lb not in anisotropy` → `a.anisotropy = True;
anisotropy[lb] = True` (the dictionary consulted is `anisotropy`, and it is consulted before the setters run), the setters in column
order, the atom written back at `idx`. -/
theorem parse_atom_site_aniso_label_eq (lat : Option (LatData α)) (lp : Option (Loop α)) (st : PState α) :
    (Src.CifRow.parse_atom_site_aniso_label lat lp st).toOption = parseAniso lp st := by
  unfold Src.CifRow.parse_atom_site_aniso_label parseAniso
  cases lp with
  | none => rfl
  | some lp =>
    simp only [get_atom_setters_chk_eq]
    cases hi : lp.names.idxOf? "_atom_site_aniso_label" with
    | none => cases lp.names.mapM itemOfName? <;> rfl
    | some ilb =>
      cases hm : lp.names.mapM itemOfName? with
      | none => rfl
      | some its =>
        simp only [Option.map_some, anisoLoop]
        have hstep : anisoStep its ilb = liftStep (anisoRow (α := α) its ilb) := by
          funext x vals; cases x <;> rfl
        rw [hstep]
        refine forLoop_foldl _ _ ?_ lp.rows st
        intro s v
        simp only [anisoRow, rowLabel]
        cases v[ilb]? with
        | none => rfl
        | some c =>
          simp only [Option.map_some, runSetters_eq]
          cases hq : (c.text == "?") with
          | true => rfl
          | false =>
            simp only [Bool.false_eq_true, if_false]
            cases s.labelindex c.text with
            | none => rfl
            | some idx =>
              simp only []
              cases s.atoms[idx]? with
              | none => rfl
              | some a0 =>
                simp only []
                cases hk : (s.anisotropy c.text).isSome <;>
                  cases hc : colsValid (its.zip v) <;> rfl

/-- the loop item each method fetches with `block.GetLoop` (what the `Loop` argument of the two definitions stands for) -/
theorem loop_items_eq : Src.CifRow.parse_atom_site_label_item = "_atom_site_label" ∧
    Src.CifRow.parse_atom_site_aniso_label_item = "_atom_site_aniso_label" := ⟨rfl, rfl⟩

end

/-- the error kind of an outcome (`none`: the method returned) -/
def excOf {σ : Type} : Except Src.CifRow.Exc σ → Option Src.CifRow.Exc
  | .ok _ => none
  | .error e => some e

/-- the error kind is kept by the transliteration: an aniso row whose label the site loop did not record is a `KeyError` -/
example : excOf (Src.CifRow.parse_atom_site_aniso_label (α := Float) none
    (some { names := ["_atom_site_aniso_label"], rows := [[{ text := "X1", num := none }]] }) PState.empty)
    = some .KeyError := by decide +kernel
/-- … and a `?` label ends the loop before that row is looked at -/
example : excOf (Src.CifRow.parse_atom_site_aniso_label (α := Float) none
    (some { names := ["_atom_site_aniso_label"], rows := [[{ text := "?", num := none }], [{ text := "X1", num := none }]] }) PState.empty)
    = none := by decide +kernel

/-! ## 2. recorded as text -/

theorem leading_float_default_eq : Src.CifRow.leading_float_default = "0.0" := rfl

/-- the regular expression `DS.CifRow.symbolMatch` transcribes -/
theorem psymb_pattern_eq : Src.CifRow.psymb_pattern = psymbPattern := rfl

/-- `_parseCifBlock` (model `DS.CifRow.parseAtoms`): fresh structure and dictionaries, lattice, site loop, aniso loop, symmetry -/
theorem parseCifBlock_eq : Src.CifRow.parseCifBlock =
  ["(self, blockname)",
   "block = self.ciffile[blockname]",
   "if '_atom_site_label' not in block:",
   "    return",
   "self.stru = Structure()",
   "self.labelindex.clear()",
   "self.anisotropy.clear()",
   "self._parse_lattice(block)",
   "self._parse_atom_site_label(block)",
   "self._parse_atom_site_aniso_label(block)",
   "self._parse_space_group_symop_operation_xyz(block)",
   "return"] := rfl

/-- `Atom.xyz_cartn` and `_AtomCartesianCoordinates` (model `DS.CifRow.setCartnIx`): without a lattice the array is `xyz`
itself; with one, `a.xyz_cartn[k] = v` recomputes the Cartesian triple, replaces component `k` and assigns
`xyz[:] = lattice.fractional(triple)` -/
theorem xyz_cartn_eq :
    Src.CifRow.xyz_cartn_get = ["(self)", "if not self.lattice:", "    rv = self.xyz", "else:",
      "    rv = _AtomCartesianCoordinates(self)", "return rv"] ∧
    Src.CifRow.xyz_cartn_set = ["(self, value)", "if not self.lattice:", "    self.xyz[:] = value", "else:",
      "    self.xyz[:] = self.lattice.fractional(value)", "return"] ∧
    Src.CifRow.cartn_init = ["(self, atom)", "self._atom = atom", "self.asarray[:] = atom.lattice.cartesian(atom.xyz)", "return"] ∧
    Src.CifRow.cartn_setitem = ["(self, idx, value)", "self.asarray[idx] = value",
      "self._atom.xyz[:] = self._atom.lattice.fractional(self)", "return"] := ⟨rfl, rfl, rfl, rfl⟩

/-- the atom a site row starts from (model `DS.CifRow.Atom.fresh`): `Atom()` defaults, linked to the structure's lattice -/
theorem fresh_atom_eq :
    Src.CifRow.atom_defaults = [("element", "''"), ("label", "''"), ("occupancy", "1.0"), ("_anisotropy", "False"), ("lattice", "None")] ∧
    Src.CifRow.atom_init_arrays = ["self.xyz = numpy.zeros(3, dtype=float)", "self._U = numpy.zeros((3, 3), dtype=float)"] ∧
    Src.CifRow.addNewAtom = ["(self, *args, **kwargs)", "kwargs['lattice'] = self.lattice", "a = Atom(*args, **kwargs)",
      "self.append(a, copy=False)", "return"] ∧
    Src.CifRow.getLastAtom = ["(self)", "last_atom = self[-1]", "return last_atom"] := ⟨rfl, rfl, rfl, rfl⟩

end DS.Props.SrcCifRow

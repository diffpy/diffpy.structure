import DS.Lemmas.SymEquiv
import DS.Gen.EIndex
/-!
# C03 (d) — the International Tables number agrees with the TYPE the operations imply: explicit equivalence certificates

Two settings are settings of the same space-group type iff an orientation-preserving affine change of coordinates
`x' = P x + p` (`P` rational with `det P > 0`, `p` an origin shift) conjugates the one group onto the other,
`(R, t) ↦ (P R P⁻¹, P t + p − P R P⁻¹ p)`; `det P > 0` because the 230 types of International Tables are the classes under
orientation-preserving maps (an improper `P` would identify P4₁ with P4₃).

The group a tabulated operation list describes is `SymEquiv.Grp ops`: every listed operation combined with every
translation of the lattice generated by the unit translations and the listed centring translations (rational affine maps,
translations in 24ths).  `SymEquiv.Equivalent gops rops P P⁻¹ p` says: `P P⁻¹ = P⁻¹ P = 1`, `0 < det P`, every element of
`Grp gops` is conjugated into `Grp rops`, and every element of `Grp rops` is the conjugate of an element of `Grp gops`.

The reference of a tabulated setting is the frozen standard setting of `number % 1000` (`DS.Ref.itRef`, committed reference
data frozen from the pinned tree).  `Gen.allE` is regenerated from the repository's tables on every run
(`translate/equiv.py`); `Gen.allE_ok` is the conjunction of the per-setting kernel obligations
`sgN_equiv : fastEquivSG sgN sgN_eq = true := by decide +kernel` (no search in the kernel: the certificate carries `P`, `P⁻¹`,
`p` with common denominators, lattice coefficients and the two index maps; `fastEquivSG` is `checkEquivSG` evaluated on
codes, `SymEquiv.fastEquivSG_sound`).  Settings without a certificate get no such
theorem; they are counted in `Gen.nEquivBad` (`Gen.equivBadNumbers`; the known ones are #3004, I 1 2₁ 1, and #2005, A 2 1 1)
and come with the kernel-checked fact `sgN_is_type_m` that their operations are equivalent to the reference of another type.
-/
namespace DS.Props.C03d
open DS DS.SymType DS.SymEquiv

/-- the kernel accepted the equivalence certificate of every setting of `Gen.allE` -/
theorem all_checked : ∀ p ∈ Gen.allE, checkEquivSG p.1 p.2 = true :=
  fun p hp => fastEquivSG_sound (Gen.allE_ok p hp)

/-- **Soundness of the checker**: an accepted certificate is an orientation-preserving affine change of coordinates that
carries the group described by `gops` ONTO the group described by `rops`. -/
theorem checkEquiv_sound {gops rops : List Op} {c : EqCert} (h : checkEquiv gops rops c = true) :
    Equivalent gops rops c.P c.Pinv c.p :=
  SymEquiv.checkEquiv_sound h

/-- hence every tabulated setting that passed is a setting of the type of the frozen standard setting of `number % 1000` -/
theorem all_equivalent : ∀ p ∈ Gen.allE,
    Equivalent p.1.ops (Ref.itRef (p.1.number % 1000)) p.2.P p.2.Pinv p.2.p :=
  fun p hp => checkEquiv_sound (all_checked p hp)

/-- "setting of the same type" is symmetric: the inverse change of coordinates `x = P⁻¹ x' − P⁻¹ p` -/
theorem equivalent_symm {gops rops : List Op} {P Pi : MQ} {p : VQ} (h : Equivalent gops rops P Pi p) :
    Equivalent rops gops Pi P (Vec3.zero.sub (Pi.mulVec p)) := h.symm

/-- … and transitive: the composed change of coordinates `x'' = Q (P x + p) + q` -/
theorem equivalent_trans {gops rops sops : List Op} {P Pi Q Qi : MQ} {p q : VQ}
    (h1 : Equivalent gops rops P Pi p) (h2 : Equivalent rops sops Q Qi q) :
    Equivalent gops sops (Q.mul P) (Pi.mul Qi) ((Q.mulVec p).add q) := h1.trans h2

/-- hence any two tabulated settings that passed and carry the same `number % 1000` are settings of one and the same
space-group type -/
theorem same_number_equivalent : ∀ p ∈ Gen.allE, ∀ q ∈ Gen.allE, p.1.number % 1000 = q.1.number % 1000 →
    ∃ P Pi t, Equivalent p.1.ops q.1.ops P Pi t := by
  intro p hp q hq e
  have h1 := all_equivalent p hp
  have h2 := (all_equivalent q hq).symm
  rw [← e] at h2
  exact ⟨_, _, _, h1.trans h2⟩

/-- every translated setting is either in `allE` or counted as a finding -/
theorem coverage : Gen.allE.length + Gen.nEquivBad = Gen.allSG.length := Gen.allE_length

/-- the reference list of every International Tables number 1..230 is present and starts with the identity (so
`checkEquivSG` never compares with an empty reference for such a number) -/
theorem ref_present : ∀ n, n < 231 → n = 0 ∨ (Ref.itRef n).head? = some Op.one := by
  intro n hn
  -- the table lists the numbers 1..230 in order, each with a list that starts with the identity
  have keys : Ref.itRefTable.map Prod.fst = List.range' 1 230 := by decide +kernel
  have heads : ∀ p ∈ Ref.itRefTable, p.2.head? = some Op.one := by decide +kernel
  unfold Ref.itRef
  cases h : Ref.itRefTable.lookup n with
  | some l =>
    obtain ⟨l₁, l₂, e, -⟩ := List.lookup_eq_some_iff.1 h
    exact Or.inr (heads (n, l) (e ▸ List.mem_append_right l₁ List.mem_cons_self))
  | none =>
    have hk : n ∉ Ref.itRefTable.map Prod.fst := fun hm => by
      obtain ⟨p, hp, rfl⟩ := List.mem_map.1 hm
      exact absurd (List.lookup_eq_none_iff.1 h p hp) (by simp)
    rw [keys, List.mem_range'_1] at hk
    omega

/-- against an empty reference list (what `Ref.itRef` gives outside 1..230) no non-empty operation list is accepted -/
theorem no_ref_rejects {a : Op} {as : List Op} {c : EqCert} : checkEquiv (a :: as) [] c = false := by
  cases hf : c.fwd with
  | nil => simp [checkEquiv, checkFwd, hf]
  | cons j js => simp [checkEquiv, checkFwd, hf]

/-- in an equivalence `P` maps a lattice translation `l` of the one setting to a translation of the other group:
`P l = tr b + l'` for a listed `b` whose rotation is `P P⁻¹`, and `l'` in the lattice of the other setting
(`maps` applied to the pure translations of `Grp gops`; the identity is listed in every accepted table) -/
theorem lattice_into {gops rops : List Op} {P Pi : MQ} {p : VQ} (h : Equivalent gops rops P Pi p)
    (hone : Op.one ∈ gops) {l : V} (hl : Span (latGens gops) l) :
    ∃ b ∈ rops, ∃ l', Span (latGens rops) l' ∧ (P.mul Pi = castM (rot b)) ∧
      P.mulVec (castV l) = castV ((tr b).add l') := by
  have hx : Grp gops ⟨castM (rot Op.one), castV ((tr Op.one).add l)⟩ := ⟨Op.one, hone, l, hl, rfl, rfl⟩
  obtain ⟨b, hb, l', hl', hR, ht⟩ := h.maps _ hx
  refine ⟨b, hb, l', hl', ?_, ?_⟩
  · rw [← hR]
    simp only [conj]
    congr 1
    apply Mat3.ext' <;> simp only [Mat3.mul, castM, rot, Op.one] <;> push_cast <;> ring
  · rw [← ht]
    have e1 : (P.mul (castM (rot Op.one))).mul Pi = Mat3.one := by
      rw [← h.inv_right]; congr 1
      apply Mat3.ext' <;> simp only [Mat3.mul, castM, rot, Op.one] <;> push_cast <;> ring
    simp only [conj]
    rw [e1, Mat3.mulVec_one]
    apply Vec3.ext' <;> simp only [Vec3.add, Vec3.sub, Mat3.mulVec, castV, tr, Op.one] <;> push_cast <;> ring

/-! ### non-vacuity -/

/-- `-x, y+1/2, -z` (P2₁, unique axis b) -/
def op21b : Op := ⟨-1, 0, 0, 0, 1, 0, 0, 0, -1, 0, 12, 0⟩
/-- `-x, -y, z+1/2` (P2₁, unique axis c) -/
def op21c : Op := ⟨-1, 0, 0, 0, -1, 0, 0, 0, 1, 0, 0, 12⟩
/-- `-x+1/2, y+1/2, -z` (P2₁, unique axis b, origin shifted by (1/4, 0, 0)) -/
def op21b' : Op := ⟨-1, 0, 0, 0, 1, 0, 0, 0, -1, 12, 12, 0⟩
/-- `-x, y, -z` (P2) -/
def op2b : Op := ⟨-1, 0, 0, 0, 1, 0, 0, 0, -1, 0, 0, 0⟩
/-- `-y, x, z+1/4` and `-y, x, z+3/4` -/
def op41 : Op := ⟨0, -1, 0, 1, 0, 0, 0, 0, 1, 0, 0, 6⟩
def op43 : Op := ⟨0, -1, 0, 1, 0, 0, 0, 0, 1, 0, 0, 18⟩
def g41 : List Op := [Op.one, op41, ⟨-1, 0, 0, 0, -1, 0, 0, 0, 1, 0, 0, 12⟩, ⟨0, 1, 0, -1, 0, 0, 0, 0, 1, 0, 0, 18⟩]
def g43 : List Op := [Op.one, op43, ⟨-1, 0, 0, 0, -1, 0, 0, 0, 1, 0, 0, 12⟩, ⟨0, 1, 0, -1, 0, 0, 0, 0, 1, 0, 0, 6⟩]

/-- axis change c-unique → b-unique: `x' = (x, z, -y)` -/
def certCB : EqCert :=
  { Pn := ⟨1, 0, 0, 0, 0, 1, 0, -1, 0⟩, d := 1, Qn := ⟨1, 0, 0, 0, 0, -1, 0, 1, 0⟩, e := 1, pn := ⟨0, 0, 0⟩, f := 1,
    latF := [[1], [0, 0, -1], [0, 1], []], latB := [[1], [0, 0, 1], [0, -1], []], fwd := [0, 1], bwd := [0, 1] }
/-- origin shift by (1/4, 0, 0): `x' = x + (3/4, 0, 0)` brings `op21b'` back to `op21b` -/
def certShift : EqCert :=
  { Pn := Mat3.one, d := 1, Qn := Mat3.one, e := 1, pn := ⟨18, 0, 0⟩, f := 1,
    latF := [[1], [0, 1], [0, 0, 1], []], latB := [[1], [0, 1], [0, 0, 1], []], fwd := [0, 1], bwd := [0, 1] }
def certId : EqCert := { certShift with pn := ⟨0, 0, 0⟩ }
/-- the mirror `x' = (x, y, -z)` -/
def certMirror : EqCert :=
  { Pn := ⟨1, 0, 0, 0, 1, 0, 0, 0, -1⟩, d := 1, Qn := ⟨1, 0, 0, 0, 1, 0, 0, 0, -1⟩, e := 1, pn := ⟨0, 0, 0⟩, f := 1,
    latF := [[1], [0, 1], [0, 0, -1], []], latB := [[1], [0, 1], [0, 0, -1], []], fwd := [0, 1, 2, 3], bwd := [0, 1, 2, 3] }

/-- accepted: P 1 1 2₁ is P 1 2₁ 1 with the axes renamed … -/
example : Equivalent [Op.one, op21c] [Op.one, op21b] certCB.P certCB.Pinv certCB.p :=
  checkEquiv_sound (by decide)
/-- … and an origin shift is found out as well -/
example : Equivalent [Op.one, op21b'] [Op.one, op21b] certShift.P certShift.Pinv certShift.p :=
  checkEquiv_sound (by decide)
/-- the checker is not trivially true: without the origin shift the same pair is rejected, P2₁ is not accepted as P2 with
the identity, and the renaming certificate is rejected for the b-unique setting itself -/
example : checkEquiv [Op.one, op21b'] [Op.one, op21b] certId = false := by decide
example : checkEquiv [Op.one, op21b] [Op.one, op2b] certId = false := by decide
example : checkEquiv [Op.one, op21b] [Op.one, op21b] certCB = false := by decide
/-- orientation: the mirror image of P4₁ is P4₃, but a mirror is not an admissible change of coordinates; with the
identity P4₁ is not P4₃ -/
example : checkEquiv g41 g43 certMirror = false := by decide
example : checkEquiv g41 g43 { certMirror with Pn := Mat3.one, Qn := Mat3.one, latF := [[1], [0, 1], [0, 0, 1], []],
                                               latB := [[1], [0, 1], [0, 0, 1], []] } = false := by decide
example : certMirror.Pn.det = -1 := by decide
/-- the group described by a list is inhabited: the listed operations themselves and their lattice translates -/
example : Grp [Op.one, op21b] ⟨castM (rot op21b), castV ((tr op21b).add ⟨24, 0, -48⟩)⟩ :=
  ⟨op21b, by simp, ⟨24, 0, -48⟩, by
    have h := span_unit [Op.one, op21b] ⟨1, 0, -2⟩
    simpa [Vec3.smul] using h, rfl, rfl⟩
/-- the generated list is not empty -/
example : 0 < Gen.allE.length := by
  have := coverage; have h : Gen.nEquivBad < Gen.allSG.length := by decide +kernel
  omega

end DS.Props.C03d

import DS.Lemmas.Constraints
import DS.Props.C03

/-!
C05 — positional symmetry constraints (`symmetryutilities.GeneratorSite`: `null_space`,
`pparameters`, `positionFormula`): an accepted `checkFree` certificate is a basis of the space the
site symmetry leaves free; moving a site along a free direction keeps every site-symmetry
operation; the position formulas evaluate to the images of the moved generator; the reported
parameter values reproduce the site; the group average projects onto the free space.
-/
namespace DS.Props.C05
open DS DS.Con DS.Con.QSp

/-! ### certificate ⇒ basis of the free space -/

/-- the free space is closed under linear combinations -/
theorem free_lincomb {H : List Op} {rows : List (Vec3 Q)} (hrows : ∀ r ∈ rows, Free H r)
    (cs : List Q) : Free H (lincomb cs rows) := by
  intro h hh
  rw [lincomb_eq_lc]
  exact (mulVec_isLin (rotQ h)).fix_lc (fun r hr => hrows r hr h hh) cs

/-- `Σ_h R_h v = |H| v` for a free direction -/
theorem reynolds_fix {H : List Op} {v : Vec3 Q} (hv : Free H v) :
    vsum H v = Vec3.smul (H.length : Q) v :=
  gsum_fix (V := Vec3 Q) (fun h => (rotQ h).mulVec) H v hv

/-- the average of a free direction over a non-empty list of operations is the direction itself -/
theorem reynolds_of_free {H : List Op} {v : Vec3 Q} (hpos : 0 < H.length) (hv : Free H v) :
    reynolds H v = v :=
  (reynolds_eq_gavg H v).trans (gavg_of_fix hpos hv)

theorem checkFree_parts {H : List Op} {rows dual : List (Vec3 Q)} (h : checkFree H rows dual = true) :
    0 < H.length ∧ (∀ r ∈ rows, Free H r) ∧ DualP rows dual ∧
    ∀ e ∈ [e1, e2, e3], reynolds H e = lc (dual.map (fun d => qpair (reynolds H e) d)) rows := by
  simp only [checkFree, Bool.and_eq_true, decide_eq_true_eq, List.all_eq_true] at h
  obtain ⟨⟨⟨hpos, hrows⟩, hdual⟩, hspan⟩ := h
  refine ⟨hpos, fun r hr => inFree_iff.1 (hrows r hr), isDual_iff.1 hdual, fun e he => ?_⟩
  rw [← lincomb_eq_lc]
  exact hspan e he

/-- **an accepted certificate is a basis of the free space**: the free directions are exactly the
linear combinations of `rows` (with `rows.length` coefficients), and `rows` is linearly
independent — so the number of rows *is* the dimension of the free space.  No group hypothesis. -/
theorem checkFree_sound {H : List Op} {rows dual : List (Vec3 Q)}
    (h : checkFree H rows dual = true) :
    (∀ v, Free H v ↔ ∃ cs : List Q, cs.length = rows.length ∧ v = lincomb cs rows) ∧
    (∀ cs : List Q, cs.length = rows.length → lincomb cs rows = Vec3.zero → ∀ c ∈ cs, c = 0) := by
  obtain ⟨hpos, hrows, hd, hspan⟩ := checkFree_parts h
  simp only [lincomb_eq_lc]
  exact cert_sound (P := Free H) (gavg_isLin vecRep.lin H)
    (fun cs => lincomb_eq_lc cs rows ▸ free_lincomb hrows cs) (fun _ => reynolds_of_free hpos)
    (fun v _ => ⟨_, vec3_decomp v⟩) hd hspan

/-- the free space has the dimension announced by the certificate: its elements are in bijection
with the coefficient lists (uniqueness of the coefficients) -/
theorem checkFree_unique_coeffs {H : List Op} {rows dual : List (Vec3 Q)}
    (h : checkFree H rows dual = true) (cs ds : List Q) (hc : cs.length = rows.length)
    (hd : ds.length = rows.length) (e : lincomb cs rows = lincomb ds rows) : cs = ds := by
  rw [lincomb_eq_lc, lincomb_eq_lc] at e
  exact (checkFree_parts h).2.2.1.lc_inj hc hd e

/-! ### moving along a free direction keeps the site symmetry -/

/-- generic scalars: if `R x + t = x + n` and `R v = v` then `R (x + l v) + t = (x + l v) + n` -/
theorem free_sound_gen {α : Type} [CommRing α] (R : Mat3 α) (x t n v : Vec3 α) (l : α)
    (hx : (R.mulVec x).add t = x.add n) (hv : R.mulVec v = v) :
    (R.mulVec (x.add (Vec3.smul l v))).add t = (x.add (Vec3.smul l v)).add n := by
  cases x; cases t; cases n; cases v
  simp only [Mat3.mulVec, Vec3.add, Vec3.smul, Vec3.mk.injEq] at *
  obtain ⟨h1, h2, h3⟩ := hx
  obtain ⟨g1, g2, g3⟩ := hv
  refine ⟨?_, ?_, ?_⟩
  · linear_combination h1 + l * g1
  · linear_combination h2 + l * g2
  · linear_combination h3 + l * g3

/-- refining a parameter never lowers the site symmetry: every operation `h` of the site symmetry
of `x` (with its lattice shift `n h`) is an operation of the site symmetry of `x + l v` with the
same shift, for every free direction `v` and every `l` -/
theorem free_sound {H : List Op} {v : Vec3 Q} (hv : Free H v) (x : Vec3 Q) (t n : Op → Vec3 Q)
    (hx : ∀ h ∈ H, ((rotQ h).mulVec x).add (t h) = x.add (n h)) (l : Q) :
    ∀ h ∈ H, ((rotQ h).mulVec (x.add (Vec3.smul l v))).add (t h) = (x.add (Vec3.smul l v)).add (n h) :=
  fun h hh => free_sound_gen (rotQ h) x (t h) (n h) v l (hx h hh) (hv h hh)

/-- list version: any combination of free rows may be added to the site -/
theorem free_sound_list {H : List Op} {rows : List (Vec3 Q)} (hrows : ∀ r ∈ rows, Free H r)
    (x : Vec3 Q) (t n : Op → Vec3 Q)
    (hx : ∀ h ∈ H, ((rotQ h).mulVec x).add (t h) = x.add (n h)) (ls : List Q) :
    ∀ h ∈ H, ((rotQ h).mulVec (x.add (lincomb ls rows))).add (t h) = (x.add (lincomb ls rows)).add (n h) := by
  intro h hh
  have := free_sound (free_lincomb hrows ls) x t n hx 1 h hh
  have e : Vec3.smul (1 : Q) (lincomb ls rows) = lincomb ls rows := qone_smul (V := Vec3 Q) _
  rwa [e] at this

/-! ### position formulas -/

theorem mulVec_lincomb (R : Mat3 Q) (cs : List Q) (rows : List (Vec3 Q)) :
    R.mulVec (lincomb cs rows) = lincomb cs (rows.map (fun v => R.mulVec v)) := by
  rw [lincomb_eq_lc, lincomb_eq_lc]
  exact (mulVec_isLin R).map_lc cs rows

/-- the formula of an equivalent site, evaluated at parameter values `ls`, is the stored equivalent
position plus the rotated displacement of the generator -/
theorem formula_eval (R : Mat3 Q) (rows : List (Vec3 Q)) (vals ls : List Q) (eqpos : Vec3 Q) :
    evalFormula (posFormula R rows vals eqpos) ls =
      eqpos.add (R.mulVec ((lincomb ls rows).sub (lincomb vals rows))) := by
  simp only [evalFormula, posFormula]
  rw [mulVec_sub, mulVec_lincomb, mulVec_lincomb]
  generalize lincomb ls _ = a
  generalize lincomb vals _ = b
  vec3_tac

/-- at the reported parameter values every formula gives the stored equivalent position -/
theorem formula_at_values (R : Mat3 Q) (rows : List (Vec3 Q)) (vals : List Q) (eqpos : Vec3 Q) :
    evalFormula (posFormula R rows vals eqpos) vals = eqpos := by
  rw [formula_eval]
  generalize lincomb vals rows = a
  vec3_tac

/-- every formula evaluates to the image of the moved generator under the same operation:
if the stored equivalent position is `R x + t − n` then the formula at `ls` is
`R (x + (Σ ls_k rows_k − Σ vals_k rows_k)) + t − n` -/
theorem formula_image (R : Mat3 Q) (rows : List (Vec3 Q)) (vals ls : List Q) (x t n eqpos : Vec3 Q)
    (he : eqpos = ((R.mulVec x).add t).sub n) :
    evalFormula (posFormula R rows vals eqpos) ls =
      ((R.mulVec (x.add ((lincomb ls rows).sub (lincomb vals rows)))).add t).sub n := by
  rw [formula_eval, he]
  generalize (lincomb ls rows).sub (lincomb vals rows) = d
  vec3_tac

/-- difference of two combinations of the same rows = combination with the coefficient differences -/
theorem lincomb_sub : ∀ (ls vals : List Q) (rows : List (Vec3 Q)), ls.length = vals.length →
    (lincomb ls rows).sub (lincomb vals rows) = lincomb (List.zipWith (fun a b => a - b) ls vals) rows
  | [], [], _, _ => by show Vec3.sub Vec3.zero Vec3.zero = Vec3.zero; vec3_tac
  | _ :: _, _ :: _, [], _ => by show Vec3.sub Vec3.zero Vec3.zero = Vec3.zero; vec3_tac
  | a :: ls, b :: vals, r :: rs, h => by
    show ((Vec3.smul a r).add (lincomb ls rs)).sub ((Vec3.smul b r).add (lincomb vals rs)) =
      (Vec3.smul (a - b) r).add (lincomb (List.zipWith (fun a b => a - b) ls vals) rs)
    rw [← lincomb_sub ls vals rs (Nat.succ_injective h)]
    generalize lincomb ls rs = p
    generalize lincomb vals rs = q
    vec3_tac

/-- the same with the parameter shifts `ls_k − vals_k` made explicit -/
theorem formula_image' (R : Mat3 Q) (rows : List (Vec3 Q)) (vals ls : List Q) (x t n eqpos : Vec3 Q)
    (hl : ls.length = vals.length) (he : eqpos = ((R.mulVec x).add t).sub n) :
    evalFormula (posFormula R rows vals eqpos) ls =
      ((R.mulVec (x.add (lincomb (List.zipWith (fun a b => a - b) ls vals) rows))).add t).sub n := by
  rw [formula_image R rows vals ls x t n eqpos he, lincomb_sub ls vals rows hl]

/-! ### reported parameter values -/

/-- `_findPosParameters`: the reported values reproduce the site up to the constant offset -/
theorem posParams_spec : ∀ (rows : List (Vec3 Q)) (t : Vec3 Q),
    (posParams rows t).1.length = rows.length ∧
    t = (posParams rows t).2.add (lincomb (posParams rows t).1 rows)
  | [], t => by
    refine ⟨rfl, ?_⟩
    show t = t.add Vec3.zero
    vec3_tac
  | v :: vs, t => by
    simp only [posParams]
    generalize (if v.x ≠ 0 then t.x / v.x else if v.y ≠ 0 then t.y / v.y
      else if v.z ≠ 0 then t.z / v.z else 0) = val
    obtain ⟨ih1, ih2⟩ := posParams_spec vs (t.sub (Vec3.smul val v))
    refine ⟨by simp [ih1], ?_⟩
    show t = (posParams vs (t.sub (Vec3.smul val v))).2.add
      ((Vec3.smul val v).add (lincomb (posParams vs (t.sub (Vec3.smul val v))).1 vs))
    generalize (posParams vs (t.sub (Vec3.smul val v))).2 = tf at ih2 ⊢
    generalize lincomb (posParams vs (t.sub (Vec3.smul val v))).1 vs = w at ih2 ⊢
    have e : t = (t.sub (Vec3.smul val v)).add (Vec3.smul val v) := by vec3_tac
    rw [e, ih2]
    vec3_tac

/-! ### group average -/

/-- the group average lies in the free space -/
theorem free_reynolds {H : List Op} (hH : IsGroup H) (w : Vec3 Q) : Free H (reynolds H w) :=
  fun _ ha => gavg_invariant hH vecRep ha w

/-- the free space is exactly the set of fixed points (= the range) of the group average -/
theorem range_reynolds {H : List Op} (hH : IsGroup H) (v : Vec3 Q) :
    Free H v ↔ reynolds H v = v :=
  fix_iff_gavg hH vecRep v

theorem range_reynolds' {H : List Op} (hH : IsGroup H) (v : Vec3 Q) :
    Free H v ↔ ∃ w, v = reynolds H w :=
  ⟨fun hv => ⟨v, ((range_reynolds hH v).1 hv).symm⟩, fun ⟨w, e⟩ => e ▸ free_reynolds hH w⟩

/-! ### the site symmetry of any site of any tabulated setting -/

/-- the stabiliser (in list order, as `expandPosition` collects it) of any site of any tabulated
setting is a group … -/
theorem tabulated_stab_isGroup (p : SG × Cert) (hp : p ∈ Gen.allC) (k : Int) (off x : P3) :
    IsGroup (p.1.ops.filter (fun g => decide (Orbit.img g k off x = Orbit.red k x))) :=
  stab_isGroup (DS.Props.C03.all_groups p hp) k off x

/-- … hence its free space is exactly the range of its group average -/
theorem tabulated_free_iff (p : SG × Cert) (hp : p ∈ Gen.allC) (k : Int) (off x : P3) (v : Vec3 Q) :
    Free (p.1.ops.filter (fun g => decide (Orbit.img g k off x = Orbit.red k x))) v ↔
      reynolds (p.1.ops.filter (fun g => decide (Orbit.img g k off x = Orbit.red k x))) v = v :=
  range_reynolds (tabulated_stab_isGroup p hp k off x) v

/-! ### non-vacuity -/

/-- point group `mm2`: identity, twofold about `z`, mirrors ⟂ `x` and ⟂ `y` -/
def mm2 : List Op :=
  [Op.one, ⟨-1, 0, 0, 0, -1, 0, 0, 0, 1, 0, 0, 0⟩, ⟨-1, 0, 0, 0, 1, 0, 0, 0, 1, 0, 0, 0⟩,
   ⟨1, 0, 0, 0, -1, 0, 0, 0, 1, 0, 0, 0⟩]

theorem mm2_isGroup : IsGroup mm2 :=
  ⟨by decide, by decide, by decide, by decide, by decide, by decide⟩

theorem mm2_cert : checkFree mm2 [⟨0, 0, 1⟩] [⟨0, 0, 1⟩] = true := by decide +kernel

/-- `checkFree_sound` is not vacuous: a concrete accepted certificate, and its consequence -/
example : Free mm2 ⟨0, 0, 5⟩ :=
  ((checkFree_sound mm2_cert).1 _).2 ⟨[5], rfl, by decide +kernel⟩

/-- a certificate with a missing direction is rejected (the check is not trivially true) -/
example : checkFree [Op.one] [⟨0, 0, 1⟩] [⟨0, 0, 1⟩] = false := by decide +kernel

/-- `free_sound`: the site `(0, 1/2, z)` of `mm2` with translations `0` and shifts `n` -/
example : ∀ h ∈ mm2, ((rotQ h).mulVec ((⟨0, 1/2, 1/4⟩ : Vec3 Q).add (Vec3.smul (3/7) ⟨0, 0, 1⟩))).add Vec3.zero
    = ((⟨0, 1/2, 1/4⟩ : Vec3 Q).add (Vec3.smul (3/7) ⟨0, 0, 1⟩)).add
        (((rotQ h).mulVec ⟨0, 1/2, 1/4⟩).sub ⟨0, 1/2, 1/4⟩) :=
  free_sound (H := mm2) (v := ⟨0, 0, 1⟩) (inFree_iff.1 (by decide +kernel)) ⟨0, 1/2, 1/4⟩ (fun _ => Vec3.zero)
    (fun h => ((rotQ h).mulVec ⟨0, 1/2, 1/4⟩).sub ⟨0, 1/2, 1/4⟩) (by decide +kernel) (3/7)

example : posParams [⟨0, 0, 1⟩] ⟨0, 1/2, 1/4⟩ = ([1/4], ⟨0, 1/2, 0⟩) := by decide +kernel

example : evalFormula (posFormula (rotQ ⟨-1, 0, 0, 0, -1, 0, 0, 0, 1, 0, 0, 0⟩) [⟨0, 0, 1⟩] [1/4]
    ⟨0, -1/2, 1/4⟩) [1/3] = ⟨0, -1/2, 1/3⟩ := by decide +kernel

example : Free mm2 (reynolds mm2 ⟨1, 2, 3⟩) ∧ reynolds mm2 ⟨1, 2, 3⟩ = ⟨0, 0, 3⟩ :=
  ⟨free_reynolds mm2_isGroup _, by decide +kernel⟩

/-- `stab_isGroup` applied to a concrete site: the stabiliser of `(0, 0, z)` in `mm2` -/
example : IsGroup (mm2.filter (fun g => decide (Orbit.img g 1 (0, 0, 0) (0, 0, 5) = Orbit.red 1 (0, 0, 5)))) :=
  stab_isGroup mm2_isGroup 1 (0, 0, 0) (0, 0, 5)

example : ([5] : List Q) = [5] :=
  checkFree_unique_coeffs mm2_cert [5] [5] rfl rfl rfl

example : ∀ h ∈ mm2, ((rotQ h).mulVec ((⟨0, 1/2, 1/4⟩ : Vec3 Q).add (lincomb [3/7] [⟨0, 0, 1⟩]))).add Vec3.zero
    = ((⟨0, 1/2, 1/4⟩ : Vec3 Q).add (lincomb [3/7] [⟨0, 0, 1⟩])).add
        (((rotQ h).mulVec ⟨0, 1/2, 1/4⟩).sub ⟨0, 1/2, 1/4⟩) :=
  free_sound_list (H := mm2) (rows := [⟨0, 0, 1⟩])
    (fun r hr => by rw [List.mem_singleton.1 hr]; exact inFree_iff.1 (by decide +kernel))
    ⟨0, 1/2, 1/4⟩ (fun _ => Vec3.zero)
    (fun h => ((rotQ h).mulVec ⟨0, 1/2, 1/4⟩).sub ⟨0, 1/2, 1/4⟩) (by decide +kernel) [3/7]

/-- `formula_image'`: the twofold image of `(0, 1/2, z)`, stored as `(0, 1/2, 1/4)` = `R x − (0,−1,0)` -/
example : evalFormula (posFormula (rotQ ⟨-1, 0, 0, 0, -1, 0, 0, 0, 1, 0, 0, 0⟩) [⟨0, 0, 1⟩] [1/4]
      ⟨0, 1/2, 1/4⟩) [1/3] =
    (((rotQ ⟨-1, 0, 0, 0, -1, 0, 0, 0, 1, 0, 0, 0⟩).mulVec ((⟨0, 1/2, 1/4⟩ : Vec3 Q).add
      (lincomb (List.zipWith (fun a b => a - b) [1/3] [1/4]) [⟨0, 0, 1⟩]))).add Vec3.zero).sub ⟨0, -1, 0⟩ :=
  formula_image' _ _ _ _ ⟨0, 1/2, 1/4⟩ Vec3.zero ⟨0, -1, 0⟩ _ rfl (by decide +kernel)

example : Free mm2 ⟨0, 0, 3⟩ ↔ reynolds mm2 ⟨0, 0, 3⟩ = ⟨0, 0, 3⟩ := range_reynolds mm2_isGroup _

example : ∀ a ∈ mm2, (rotQ a).mulVec (vsum mm2 ⟨1, 2, 3⟩) = vsum mm2 ⟨1, 2, 3⟩ :=
  fun _ ha => gsum_invariant mm2_isGroup vecRep ha _

/-- the tabulated corollary is not vacuous: the witness setting of C03 -/
example (k : Int) (off x : P3) :
    IsGroup (Gen.witness.1.ops.filter (fun g => decide (Orbit.img g k off x = Orbit.red k x))) :=
  tabulated_stab_isGroup _ Gen.witness_mem k off x

end DS.Props.C05

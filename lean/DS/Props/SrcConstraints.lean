import DS.Gen.SrcConstraints
import DS.Lemmas.SrcConstraints
import DS.Props.SrcSym
import DS.Props.C05
import DS.Props.C06
import DS.Props.C05Partition
/-!
# Source tie for the constraint code (properties C05, C06): the models of `DS.Con` / `DS.Partition` ARE the current source

`DS/Gen/SrcConstraints.lean` is written on every run by `translate/src_constraints.py` from the CURRENT text of
`symmetryutilities.py`; every function as a composition of the numpy/Python primitives of `DS/Model/ConReal.lean`
(and `DS/Model/SymReal.lean`) over a generic scalar.  The SVD based `_findNullSpace` / `_findUSpace` are NOT transliterated:
their outputs are parameters here (certificate-checked per site by `harness/c05.py`, `harness/c06.py`).

The statements are for all inputs: over ℚ where the models of `DS.Con` are involved, over any ordered field with floor otherwise.
Some statements of the source are kept as text (`facts_eq`).
-/

namespace DS.Props.SrcConstraints
open DS DS.ConTie DS.SymTie DS.Con
set_option linter.unusedSectionVars false
set_option linter.unusedVariables false

variable {α : Type} [Field α] [LinearOrder α] [IsStrictOrderedRing α] [FloorRing α]

/-! ### 1. `_findInvariants`: the first class of operations that contains the identity -/

/-- `numpy.all(op.R == identity(3)) and numpy.all(op.t == zeros(3))` -/
def isIdOp (op : SymOp α) : Bool :=
  Np.allM (Np.eqM op.R (Np.identity3 : M3 α)) && Np.all (Np.eq op.t (Np.zeros3 : V3 α))

theorem findInvariants_inner_eq (c : List (SymOp α)) (l : List (SymOp α)) :
    Py.forBreak l none (Src.Constraints.findInvariants_inner c (Np.identity3 : M3 α) Np.zeros3) =
      if l.any isIdOp then some c else none := by
  induction l with
  | nil => rfl
  | cons op l ih =>
    have hb : Src.Constraints.findInvariants_inner c (Np.identity3 : M3 α) Np.zeros3 none op =
        if isIdOp op = true then (some c, true) else (none, false) := rfl
    rw [forBreak_cons, List.any_cons, hb]
    cases isIdOp op
    · exact ih
    · rfl

/-- **`_findInvariants`** returns the first list of `symops` that contains the identity operation (`R == identity(3)`,
`t == zeros(3)`), and raises `ValueError` (`none`) iff there is none. -/
theorem findInvariants_eq (symops : List (List (SymOp α))) :
    Src.Constraints.findInvariants symops = symops.find? (fun ops => ops.any isIdOp) := by
  have key : ∀ l : List (List (SymOp α)),
      Py.forBreak l none (Src.Constraints.findInvariants_outer (Np.identity3 : M3 α) Np.zeros3) =
        l.find? (fun ops => ops.any isIdOp) := by
    intro l
    induction l with
    | nil => rfl
    | cons ops l ih =>
      rw [forBreak_cons, List.find?_cons]
      unfold Src.Constraints.findInvariants_outer
      simp only [findInvariants_inner_eq]
      by_cases h : ops.any isIdOp = true
      · have hne : ops.isEmpty = false := by
          cases ops with
          | nil => simp at h
          | cons _ _ => rfl
        simp [h, Py.truthyOL, hne]
      · simp only [Bool.not_eq_true] at h
        simp [h, Py.truthyOL]
        exact ih
  unfold Src.Constraints.findInvariants
  simp only [key]
  cases symops.find? (fun ops => ops.any isIdOp) <;> rfl

/-! ### 2. `_findPosParameters` = `Con.posParams` (values) and `Con.posNames` (names) -/

def toVec (v : V3 ℚ) : Vec3 ℚ := ⟨v.1, v.2.1, v.2.2⟩
def toMat (m : M3 ℚ) : Mat3 ℚ := ⟨m.1.1, m.1.2.1, m.1.2.2, m.2.1.1, m.2.1.2.1, m.2.1.2.2, m.2.2.1, m.2.2.2.1, m.2.2.2.2⟩

def coordV (v : V3 ℚ) (i : Nat) : ℚ := match i with | 0 => v.1 | 1 => v.2.1 | _ => v.2.2

theorem coord_toVec (v : V3 ℚ) (i : Nat) : Con.coord (toVec v) i = coordV v i := by
  match i with
  | 0 => rfl
  | 1 => rfl
  | _ + 2 => rfl

theorem get3?_of_lt (v : V3 ℚ) {i : Nat} (h : i < 3) : Np.get3? v i = some (coordV v i) := by
  match i, h with
  | 0, _ => rfl
  | 1, _ => rfl
  | 2, _ => rfl

theorem eps_pos : (0 : ℚ) < (Src.Constraints.epsilon : ℚ) := by
  unfold Src.Constraints.epsilon; norm_num

theorem absS_eq (x : ℚ) : Np.absS x = |x| := by
  unfold Np.absS
  split
  · rw [abs_of_neg ‹_›]
  · rw [abs_of_nonneg (not_lt.1 ‹_›)]

/-- gap hypothesis on the certificate: every entry is exactly zero or at least `epsilon` in absolute value (what the
rationalisation of `_findNullSpace` produces: small integers divided by the smallest one) -/
def Gap (c : ℚ) : Prop := c = 0 ∨ (Src.Constraints.epsilon : ℚ) ≤ |c|
def GapV (v : V3 ℚ) : Prop := Gap v.1 ∧ Gap v.2.1 ∧ Gap v.2.2

theorem gap_iff {c : ℚ} (h : Gap c) : (Src.Constraints.epsilon : ℚ) ≤ Np.absS c ↔ c ≠ 0 := by
  rw [absS_eq]
  rcases h with rfl | h
  · have := eps_pos
    simp only [abs_zero, ne_eq, not_true_eq_false, iff_false, not_le]
    exact this
  · have hc : c ≠ 0 := by
      intro h0; rw [h0, abs_zero] at h; exact absurd h (not_le.2 eps_pos)
    simp [hc, h]

theorem where3_head (b1 b2 b3 : Bool) :
    (Np.where3 (b1, b2, b3)).head? = if b1 then some 0 else if b2 then some 1 else if b3 then some 2 else none := by
  cases b1 <;> cases b2 <;> cases b3 <;> rfl

theorem firstIdx_eq (v : V3 ℚ) (hv : GapV v) :
    Py.getIdx (Np.where3 (Np.ge (Np.fabs v) (Np.fill (Src.Constraints.epsilon : ℚ)))) (0 : Int) = Con.firstNZ (toVec v) := by
  obtain ⟨v1, v2, v3⟩ := v
  obtain ⟨h1, h2, h3⟩ := hv
  simp only at h1 h2 h3
  rw [getIdx_zero]
  simp only [Np.ge, Np.fabs, Np.fill, Np.zip3, Np.map3, where3_head, ge_iff_le, gap_iff h1, gap_iff h2, gap_iff h3, Con.firstNZ, toVec,
    decide_eq_true_eq]
  by_cases e1 : v1 = 0 <;> by_cases e2 : v2 = 0 <;> by_cases e3 : v3 = 0 <;> simp [e1, e2, e3]

theorem usedDict_has (used : List (List Char)) (s : List Char) :
    Py.dictHas (used.map fun c => (c, true)) s = used.contains s := by
  rw [dictHas_iff_mem_keys, List.map_map]
  congr 1
  exact List.map_id _

theorem firstNZ_spec (t : Vec3 ℚ) {w : Vec3 ℚ} {idx : Nat} (h : Con.firstNZ w = some idx) :
    idx < 3 ∧ (if w.x ≠ 0 then t.x / w.x else if w.y ≠ 0 then t.y / w.y else if w.z ≠ 0 then t.z / w.z else 0) =
      Con.coord t idx / Con.coord w idx := by
  unfold Con.firstNZ at h
  by_cases hx : w.x ≠ 0
  · rw [if_pos hx] at h ⊢; cases h; exact ⟨by decide, rfl⟩
  rw [if_neg hx] at h ⊢
  by_cases hy : w.y ≠ 0
  · rw [if_pos hy] at h ⊢; cases h; exact ⟨by decide, rfl⟩
  rw [if_neg hy] at h ⊢
  by_cases hz : w.z ≠ 0
  · rw [if_pos hz] at h ⊢; cases h; exact ⟨by decide, rfl⟩
  rw [if_neg hz] at h; cases h

theorem findPos_step (t : V3 ℚ) (acc : List (List Char × ℚ)) (used : List (List Char)) (v : V3 ℚ) (hv : GapV v) :
    Src.Constraints.findPosParameters_body (t, acc, used.map fun c => (c, true)) v =
      (Con.firstNZ (toVec v)).bind fun idx =>
      ((([['x'], ['y'], ['z']] : List (List Char)).drop idx).filter fun s => !used.contains s).head?.bind fun c =>
      let val := if (toVec v).x ≠ 0 then (toVec t).x / (toVec v).x else if (toVec v).y ≠ 0 then (toVec t).y / (toVec v).y
        else if (toVec v).z ≠ 0 then (toVec t).z / (toVec v).z else 0
      some (Np.sub t (Np.mulS val v), acc ++ [(c, val)], (used ++ [c]).map fun c => (c, true)) := by
  unfold Src.Constraints.findPosParameters_body
  rw [firstIdx_eq v hv]
  cases hidx : Con.firstNZ (toVec v) with
  | none => rfl
  | some idx =>
    obtain ⟨hlt, hval⟩ := firstNZ_spec (toVec t) hidx
    simp only [Option.bind_some, get3?_of_lt _ hlt, getIdx_zero, usedDict_has, hval, coord_toVec]
    show ((List.filter (fun s => !used.contains s) (List.drop idx [['x'], ['y'], ['z']])).head?.bind fun vname => _) = _
    cases hh : (List.filter (fun s => !used.contains s) (List.drop idx [['x'], ['y'], ['z']])).head? with
    | none => rfl
    | some c =>
      have hc : Py.dictHas (used.map fun c => (c, true)) c = false := by
        rw [usedDict_has]; simpa using (List.mem_filter.1 (List.mem_of_mem_head? hh)).2
      rw [Option.bind_some, Option.bind_some, dictSet_fresh _ _ _ hc, List.map_append]
      rfl
theorem toVec_sub_mulS (t v : V3 ℚ) (c : ℚ) : toVec (Np.sub t (Np.mulS c v)) = (toVec t).sub (Vec3.smul c (toVec v)) := rfl

theorem findPos_fold : ∀ (rows : List (V3 ℚ)), (∀ v ∈ rows, GapV v) → ∀ (t : V3 ℚ) (acc : List (List Char × ℚ)) (used : List (List Char)),
    (Py.forM rows (t, acc, used.map fun c => (c, true)) Src.Constraints.findPosParameters_body).map (·.2.1) =
      (Con.posNamesAux used (rows.map toVec)).map fun names =>
        acc ++ names.zip (Con.posParams (rows.map toVec) (toVec t)).1
  | [], _, t, acc, used => by simp [Con.posNamesAux, Con.posParams]
  | v :: rows, hg, t, acc, used => by
    rw [forM_cons, findPos_step t acc used v (hg v (List.mem_cons_self ..))]
    simp only [List.map_cons, Con.posNamesAux, Con.posParams]
    cases Con.firstNZ (toVec v) with
    | none => rfl
    | some idx =>
      simp only [Option.bind_some]
      cases (List.filter (fun s => !used.contains s) (List.drop idx [['x'], ['y'], ['z']])).head? with
      | none => rfl
      | some c =>
        simp only [Option.bind_some]
        rw [findPos_fold rows (fun w hw => hg w (List.mem_cons_of_mem _ hw)), toVec_sub_mulS]
        cases Con.posNamesAux (used ++ [c]) (rows.map toVec) with
        | none => rfl
        | some names => simp

/-- **`_findPosParameters`**: on a certificate `rows` whose entries are zero or at least `epsilon` in size, the pairs appended to
`self.pparameters` are the names `Con.posNames rows` with the values `Con.posParams rows xyz` — the FIRST non-zero coordinate of
each direction is eliminated, in the order of the rows — and the method raises exactly when `Con.posNames` is `none`. -/
theorem findPosParameters_eq (rows : List (V3 ℚ)) (xyz : V3 ℚ) (hg : ∀ v ∈ rows, GapV v) :
    Src.Constraints.findPosParameters rows xyz =
      (Con.posNames (rows.map toVec)).map fun names => names.zip (Con.posParams (rows.map toVec) (toVec xyz)).1 := by
  have := findPos_fold rows hg xyz [] []
  unfold Src.Constraints.findPosParameters
  simp only [List.map_nil, List.nil_append] at this
  unfold Con.posNames
  rw [← this]
  show (Py.forM rows (xyz, [], []) Src.Constraints.findPosParameters_body).bind (fun st => some st.2.1) = _
  cases Py.forM rows (xyz, [], []) Src.Constraints.findPosParameters_body <;> rfl

/-! ### 3. `_findUParameters` = `Con.projCoefs` (values) and `Con.uName` (names) -/

theorem dot1_frob (A B : M3 ℚ) : Np.dot1 (Np.flatten A) (Np.flatten B) = Con.frob (toMat A) (toMat B) := by
  obtain ⟨⟨a1, a2, a3⟩, ⟨a4, a5, a6⟩, ⟨a7, a8, a9⟩⟩ := A
  obtain ⟨⟨b1, b2, b3⟩, ⟨b4, b5, b6⟩, ⟨b7, b8, b9⟩⟩ := B
  simp only [Np.dot1, Np.flatten, Np.toList3, Con.frob, toMat, List.cons_append, List.nil_append, List.zipWith_cons_cons,
    List.zipWith_nil_right, List.foldl_cons, List.foldl_nil]
  ring

theorem next_cons_if (i : Nat) (x c : ℚ) (rest : List (Nat × ℚ)) :
    Py.next? (((i, x) :: rest).filterMap fun p => if p.2 = c then some p.1 else none) =
      if x = c then some i else Py.next? (rest.filterMap fun p => if p.2 = c then some p.1 else none) := by
  by_cases h : x = c <;> simp [h, Py.next?]

theorem ite_bind {β γ : Type} (c : Prop) [Decidable c] (a b : Option β) (k : β → Option γ) :
    (if c then a else b).bind k = if c then a.bind k else b.bind k := by
  split <;> rfl

/-- `Con.uName` with the numerals of this (Mathlib) context -/
theorem uName_spec (B : Mat3 ℚ) : Con.uName B =
    if B.a11 = 1 then some ['U', '1', '1'] else if B.a22 = 1 then some ['U', '2', '2'] else if B.a33 = 1 then some ['U', '3', '3']
    else if B.a12 = 1 then some ['U', '1', '2'] else if B.a13 = 1 then some ['U', '1', '3'] else if B.a23 = 1 then some ['U', '2', '3']
    else if B.a21 = 1 then some ['U', '1', '2'] else if B.a31 = 1 then some ['U', '1', '3'] else if B.a32 = 1 then some ['U', '2', '3']
    else none := rfl

/-- the name of a basis tensor: the first entry equal to 1 in the order `00 11 22 01 02 12 10 20 21` -/
theorem uName_eq {γ : Type} (B : M3 ℚ) (k : List Char → Option γ) :
    ((Py.takeIdx (Np.flatten B) [0, 4, 8, 1, 2, 5, 3, 6, 7]).bind fun t =>
      (Py.next? ((Py.enumerate t).filterMap fun p => if p.2 = ((1 : Int) : ℚ) then some p.1 else none)).bind fun permidx =>
      (Py.getIdx ([0, 4, 8, 1, 2, 5, 3, 6, 7] : List Nat) (Int.ofNat permidx)).bind fun idx =>
      (Py.dictGet Src.Constraints.idx2Usymbol idx).bind k) = (Con.uName (toMat B)).bind k := by
  obtain ⟨⟨b1, b2, b3⟩, ⟨b4, b5, b6⟩, ⟨b7, b8, b9⟩⟩ := B
  have ht : Py.takeIdx (Np.flatten ((b1, b2, b3), (b4, b5, b6), (b7, b8, b9))) [0, 4, 8, 1, 2, 5, 3, 6, 7] =
      some [b1, b5, b9, b2, b3, b6, b4, b7, b8] := rfl
  have he : Py.enumerate [b1, b5, b9, b2, b3, b6, b4, b7, b8] =
      [(0, b1), (1, b5), (2, b9), (3, b2), (4, b3), (5, b6), (6, b4), (7, b7), (8, b8)] := rfl
  rw [ht, Option.bind_some, he]
  simp only [next_cons_if, List.filterMap_nil, uName_spec, toMat, Int.cast_one, ite_bind]
  rfl

theorem findU_step (acc : List (List Char × ℚ)) (U B : M3 ℚ) :
    Src.Constraints.findUParameters_body [0, 4, 8, 1, 2, 5, 3, 6, 7] (Np.flatten U) acc B =
      (Con.uName (toMat B)).map fun n => acc ++ [(n, Con.frob (toMat U) (toMat B) / Con.frob (toMat B) (toMat B))] := by
  unfold Src.Constraints.findUParameters_body
  simp only [dot1_frob]
  rw [uName_eq B]
  cases Con.uName (toMat B) <;> rfl

theorem findU_fold (U : M3 ℚ) : ∀ (bs : List (M3 ℚ)) (acc : List (List Char × ℚ)),
    Py.forM bs acc (Src.Constraints.findUParameters_body [0, 4, 8, 1, 2, 5, 3, 6, 7] (Np.flatten U)) =
      (Py.mapOpt (fun b => Con.uName (toMat b)) bs).map fun names =>
        acc ++ names.zip (Con.projCoefs (bs.map toMat) (toMat U))
  | [], acc => by simp [Py.mapOpt, Con.projCoefs]
  | b :: bs, acc => by
    rw [forM_cons, findU_step, Py.mapOpt]
    cases Con.uName (toMat b) with
    | none => rfl
    | some n =>
      simp only [Option.map_some, Option.bind_some]
      rw [findU_fold U bs]
      cases Py.mapOpt (fun b => Con.uName (toMat b)) bs with
      | none => rfl
      | some names => simp [Con.projCoefs]

/-- **`_findUParameters`**: the pairs appended to `self.Uparameters` are the names `Con.uName B_k` with the values
`Con.projCoefs Uspace Uij` (`⟨Uij, B_k⟩ / ⟨B_k, B_k⟩`, Frobenius product over all nine entries), in the order of `Uspace`; the method
raises (`StopIteration`) exactly when some basis tensor has no entry equal to 1. -/
theorem findUParameters_eq (bs : List (M3 ℚ)) (U : M3 ℚ) :
    Src.Constraints.findUParameters bs U =
      (Py.mapOpt (fun b => Con.uName (toMat b)) bs).map fun names => names.zip (Con.projCoefs (bs.map toMat) (toMat U)) := by
  unfold Src.Constraints.findUParameters
  have := findU_fold U bs []
  simp only [List.nil_append] at this
  exact this

/-! ### 4. `_findeqUij`: the stored tensor is `Con.proj`, the equivalent tensors are `rotT R_j U` with the FIRST operation of class `j` -/

theorem toMat_add (A B : M3 ℚ) : toMat (Np.addM A B) = (toMat A).add (toMat B) := rfl
theorem toMat_smul (c : ℚ) (A : M3 ℚ) : toMat (Np.smulM c A) = Mat3.smul c (toMat A) := rfl
theorem toMat_zeros : toMat (Np.zerosM : M3 ℚ) = Mat3.zero := rfl

theorem toMat_rot (R U : M3 ℚ) : toMat (Np.matmul R (Np.matmul U (Np.transpose R))) = Con.rotT (toMat R) (toMat U) := by
  obtain ⟨⟨a1, a2, a3⟩, ⟨a4, a5, a6⟩, ⟨a7, a8, a9⟩⟩ := R
  obtain ⟨⟨b1, b2, b3⟩, ⟨b4, b5, b6⟩, ⟨b7, b8, b9⟩⟩ := U
  simp only [Np.matmul, Np.vecMat, Np.transpose, Np.map3, Np.dotRow, toMat, Con.rotT, Mat3.mul, Mat3.transpose]
  congr 1 <;> ring

theorem body1_eq (bs : List (M3 ℚ)) (pars : List (List Char × ℚ)) (U : M3 ℚ) (i : Nat) :
    Src.Constraints.findeqUij_body1 bs pars U i =
      ((bs.zip pars)[i]?).bind fun e => some (Np.addM U (Np.smulM e.2.2 e.1)) := by
  unfold Src.Constraints.findeqUij_body1
  rw [getIdx_nat, getIdx_nat, show bs.zip pars = List.zipWith Prod.mk bs pars from rfl, List.getElem?_zipWith]
  cases bs[i]? with
  | none => rfl
  | some b =>
    cases pars[i]? with
    | none => rfl
    | some p => rfl

theorem uij_fold : ∀ (l : List (M3 ℚ × (List Char × ℚ))) (U : M3 ℚ),
    toMat (l.foldl (fun U e => Np.addM U (Np.smulM e.2.2 e.1)) U) =
      (toMat U).add (Con.lincombT (l.map (·.2.2)) (l.map fun e => toMat e.1))
  | [], U => by
    show toMat U = (toMat U).add Mat3.zero
    mat3_tac
  | e :: l, U => by
    rw [List.foldl_cons, uij_fold l, toMat_add, toMat_smul]
    show ((toMat U).add (Mat3.smul e.2.2 (toMat e.1))).add _ = (toMat U).add ((Mat3.smul e.2.2 (toMat e.1)).add _)
    generalize Con.lincombT (l.map (·.2.2)) (l.map fun e => toMat e.1) = W
    mat3_tac

theorem body2_fold (U : M3 ℚ) (symops : List (List (SymOp ℚ))) (acc : List (M3 ℚ)) :
    Py.forM symops acc (Src.Constraints.findeqUij_body2 U) =
      (Py.mapOpt List.head? symops).map fun firsts =>
        acc ++ firsts.map fun op => Np.matmul op.R (Np.matmul U (Np.transpose op.R)) := by
  have hb : Src.Constraints.findeqUij_body2 U = fun acc ops =>
      ops.head?.bind fun op => some (acc ++ [Np.matmul op.R (Np.matmul U (Np.transpose op.R))]) := by
    funext acc ops
    unfold Src.Constraints.findeqUij_body2
    rw [getIdx_zero]
  rw [hb, forM_bind_mapOpt]
  simp only [foldl_append_map]

/-- **`_findeqUij`**: for parameter values `pars` (one per basis tensor), `self.Uij` becomes `Σ_k value_k · B_k` and `self.eqUij[j]`
is `R_j · Uij · R_jᵀ` where `R_j` is the rotation of the FIRST operation listed for the `j`-th equivalent site; the method raises
(`IndexError`) exactly when some class of operations is empty. -/
theorem findeqUij_eq (bs : List (M3 ℚ)) (pars : List (List Char × ℚ)) (symops : List (List (SymOp ℚ)))
    (hlen : pars.length = bs.length) :
    (Src.Constraints.findeqUij bs pars symops).map (fun r => (toMat r.1, r.2.map toMat)) =
      (Py.mapOpt List.head? symops).map fun firsts =>
        (Con.lincombT (pars.map (·.2)) (bs.map toMat),
         firsts.map fun op => Con.rotT (toMat op.R) (Con.lincombT (pars.map (·.2)) (bs.map toMat))) := by
  unfold Src.Constraints.findeqUij
  have h1 : Py.forM (List.range pars.length) (Np.zerosM : M3 ℚ) (Src.Constraints.findeqUij_body1 bs pars) =
      some ((bs.zip pars).foldl (fun U e => Np.addM U (Np.smulM e.2.2 e.1)) Np.zerosM) := by
    have hl : (bs.zip pars).length = pars.length := by simp [hlen]
    rw [← hl]
    have := forM_range_getElem (bs.zip pars) (Np.zerosM : M3 ℚ) (fun U e => some (Np.addM U (Np.smulM e.2.2 e.1)))
    rw [forM_total (bs.zip pars) (Np.zerosM : M3 ℚ) (fun U e => some (Np.addM U (Np.smulM e.2.2 e.1)))
      (fun U e => Np.addM U (Np.smulM e.2.2 e.1)) (fun _ _ => rfl)] at this
    rw [← this]
    apply forM_congr
    intro i _ s
    exact body1_eq bs pars s i
  simp only [h1, Option.bind_some, body2_fold, List.nil_append]
  have hU : toMat ((bs.zip pars).foldl (fun U e => Np.addM U (Np.smulM e.2.2 e.1)) Np.zerosM) =
      Con.lincombT (pars.map (·.2)) (bs.map toMat) := by
    rw [uij_fold, toMat_zeros]
    have e1 : (bs.zip pars).map (·.2.2) = pars.map (·.2) := by
      rw [show (fun e : M3 ℚ × (List Char × ℚ) => e.2.2) = (fun p : List Char × ℚ => p.2) ∘ Prod.snd from rfl,
        ← List.map_map, List.map_snd_zip (by omega)]
    have e2 : ((bs.zip pars).map fun e => toMat e.1) = bs.map toMat := by
      rw [show (fun e : M3 ℚ × (List Char × ℚ) => toMat e.1) = toMat ∘ Prod.fst from rfl,
        ← List.map_map, List.map_fst_zip (by omega)]
    rw [e1, e2]
    generalize Con.lincombT (pars.map (·.2)) (bs.map toMat) = W
    mat3_tac
  cases Py.mapOpt List.head? symops with
  | none => rfl
  | some firsts =>
    simp only [Option.map_some, Option.bind_some, hU, List.map_map, Prod.mk.injEq, true_and, Option.some.injEq]
    apply List.map_congr_left
    intro op _
    simp only [Function.comp, toMat_rot, hU]

/-- `_findUParameters` followed by `_findeqUij`: the stored tensor is the projection `Con.proj Uspace Uij` -/
theorem stored_tensor_eq (bs : List (M3 ℚ)) (U : M3 ℚ) (symops : List (List (SymOp ℚ))) (pars : List (List Char × ℚ))
    (hp : Src.Constraints.findUParameters bs U = some pars) :
    (Src.Constraints.findeqUij bs pars symops).map (fun r => (toMat r.1, r.2.map toMat)) =
      (Py.mapOpt List.head? symops).map fun firsts =>
        (Con.proj (bs.map toMat) (toMat U), firsts.map fun op => Con.rotT (toMat op.R) (Con.proj (bs.map toMat) (toMat U))) := by
  rw [findUParameters_eq] at hp
  cases hn : Py.mapOpt (fun b => Con.uName (toMat b)) bs with
  | none => simp [hn] at hp
  | some names =>
    simp only [hn, Option.map_some, Option.some.injEq] at hp
    have hl := mapOpt_length _ _ _ hn
    have hc : (Con.projCoefs (bs.map toMat) (toMat U)).length = bs.length := by simp [Con.projCoefs]
    have hpl : pars.length = bs.length := by rw [← hp]; simp [hl, hc]
    have hv : pars.map (·.2) = Con.projCoefs (bs.map toMat) (toMat U) := by
      rw [← hp]; exact List.map_snd_zip (by omega)
    rw [findeqUij_eq bs pars symops hpl, hv]
    rfl

/-! ### 5. `positionFormula` / `UFormula` / `eqIndex`: the lookup of the equivalent site -/

/-- **the lookup** ("find pos in eqxyz") on the grid `D = 24k`: with `self.eqxyz = ps/D` (non-empty), `self.eps = E/D` and
`pos = q/D` the index is `Orbit.nearestIdx` (first position of minimal periodic box distance), the test is
`Orbit.boxDist ≤ E`, and the rotation is that of the FIRST operation of class `j` -/
theorem findEquivalent_grid {k : Int} (hk : 0 < k) (E : Int) (g : GenSite α) (ps : List P3) (q : P3) (hps : ps ≠ [])
    (hx : g.eqxyz = ps.map (castP k)) (he : g.eps = sc k E) :
    Src.Constraints.findEquivalent g (castP k q) =
      if Orbit.boxDist (24 * k) (ps.getD (Orbit.nearestIdx (24 * k) ps q) q) q ≤ E then
        (g.symops[Orbit.nearestIdx (24 * k) ps q]?).bind fun ops => ops.head?.bind fun op =>
          some (some (castP k (ps.getD (Orbit.nearestIdx (24 * k) ps q) q), op.R))
      else some none := by
  have hj := Orbit.nearestIdx_lt (24 * k) ps q hps
  unfold Src.Constraints.findEquivalent
  rw [hx, he, DS.Props.SrcSym.nearestIdx_refines hk ps q hps]
  simp only [Option.bind_some, getIdx_nat, List.getElem?_map, List.getElem?_eq_getElem hj, Option.map_some,
    DS.Props.SrcSym.equalPositions_refines hk E, getIdx_zero]
  rw [List.getD_eq_getElem _ _ hj]
  by_cases hd : Orbit.boxDist (24 * k) ps[Orbit.nearestIdx (24 * k) ps q] q ≤ E
  · simp [hd]
  · simp [hd]

theorem eqIndex_grid {k : Int} (hk : 0 < k) (g : GenSite α) (ps : List P3) (q : P3) (hps : ps ≠ [])
    (hx : g.eqxyz = ps.map (castP k)) :
    Src.Constraints.eqIndex g (castP k q) = some (Orbit.nearestIdx (24 * k) ps q) := by
  unfold Src.Constraints.eqIndex
  rw [hx, DS.Props.SrcSym.nearestIdx_refines hk ps q hps]


/-! ### 6. `positionFormula`: numeric content = `Con.posFormula`, pieces = `Con.posPieces` -/

theorem absQ_eq (x : ℚ) : Con.absQ x = Np.absS x := rfl

theorem toVec_vecMat_transpose (v : V3 ℚ) (R : M3 ℚ) :
    toVec (Np.vecMat v (Np.transpose R)) = (toMat R).mulVec (toVec v) := by
  obtain ⟨⟨a1, a2, a3⟩, ⟨a4, a5, a6⟩, ⟨a7, a8, a9⟩⟩ := R
  obtain ⟨v1, v2, v3⟩ := v
  simp only [Np.vecMat, Np.transpose, Np.map3, Np.dotRow, toVec, toMat, Mat3.mulVec]
  congr 1 <;> ring

theorem nsrotated_eq (ns : List (V3 ℚ)) (R : M3 ℚ) :
    (Np.dotLM ns (Np.transpose R)).map toVec = (ns.map toVec).map fun v => (toMat R).mulVec v := by
  simp only [Np.dotLM, List.map_map]
  apply List.map_congr_left
  intro v _
  exact toVec_vecMat_transpose v R

theorem toVec_sub_mulVS (t v : V3 ℚ) (c : ℚ) : toVec (Np.sub t (Np.mulVS v c)) = (toVec t).sub (Vec3.smul c (toVec v)) := by
  obtain ⟨t1, t2, t3⟩ := t
  obtain ⟨v1, v2, v3⟩ := v
  simp only [Np.sub, Np.mulVS, Np.zip3, Np.map3, toVec, Vec3.sub, Vec3.smul]
  congr 1 <;> ring

/-- `teqpos -= nvec * varvalue` over `zip(nsrotated, self.pparameters)` -/
theorem teqpos_fold : ∀ (rot : List (V3 ℚ)) (pars : List (List Char × ℚ)) (t : V3 ℚ),
    toVec ((rot.zip pars).foldl (fun teqpos e => Np.sub teqpos (Np.mulVS e.1 e.2.2)) t) =
      (toVec t).sub (Con.lincomb (pars.map (·.2)) (rot.map toVec))
  | [], _, t => by
    cases ‹List (List Char × ℚ)› <;> (show toVec t = (toVec t).sub Vec3.zero; vec3_tac)
  | _ :: _, [], t => by
    show toVec t = (toVec t).sub Vec3.zero; vec3_tac
  | r :: rot, p :: pars, t => by
    rw [List.zip_cons_cons, List.foldl_cons, teqpos_fold rot pars, toVec_sub_mulVS]
    show ((toVec t).sub (Vec3.smul p.2 (toVec r))).sub _ = (toVec t).sub ((Vec3.smul p.2 (toVec r)).add _)
    generalize Con.lincomb (pars.map (·.2)) (rot.map toVec) = W
    vec3_tac

/-- the symbol the caller gave for the standard name `c` (`name2sym[vname]`) -/
def symOf (syms : List (List Char)) (c : List Char) : Option (List Char) :=
  Py.dictGet (Py.dictZip [['x'], ['y'], ['z']] syms) c

theorem symOf_some (syms : List (List Char)) (hs : syms.length = 3) (c : List Char)
    (hc : c ∈ ([['x'], ['y'], ['z']] : List (List Char))) : (symOf syms c).isSome = true :=
  dictGet_dictZip_isSome _ syms (by decide) (by rw [hs]; decide) c hc

theorem usymOf_some (syms : List (List Char)) (hs : syms.length = 6) (c : List Char)
    (hc : c ∈ (Src.Constraints.stdUsymbols : List (List Char))) :
    (Py.dictGet (Py.dictZip Src.Constraints.stdUsymbols syms) c).isSome = true :=
  dictGet_dictZip_isSome _ syms (by decide) (by rw [hs]; decide) c hc

/-- the term that one parameter contributes to coordinate `i` -/
def termOf (i : Nat) (nvec : V3 ℚ) (sym : List Char) : FStr ℚ :=
  if Np.absS (coordV nvec i) < (Src.Constraints.epsilon : ℚ) then [] else [FPiece.term (coordV nvec i) sym]

theorem term_step (n2s : List (List Char × List Char)) (fs : List (FStr ℚ)) (nvec : V3 ℚ) (vname sym : List Char)
    (hs : Py.dictGet n2s vname = some sym) {i : Nat} (hi : i < 3) (hl : fs.length = 3) :
    Src.Constraints.positionFormula_term n2s nvec vname fs i = some (fs.set i (fs[i]'(hl ▸ hi) ++ termOf i nvec sym)) := by
  have hil : i < fs.length := hl ▸ hi
  unfold Src.Constraints.positionFormula_term termOf
  rw [get3?_of_lt nvec hi, Option.bind_some, getIdx_nat, List.getElem?_eq_getElem hil, Option.bind_some, hs, Option.bind_some,
    listSet_eq _ _ _ hil]
  simp only [decide_eq_true_eq]
  split
  · rw [List.append_nil, List.set_getElem_self]
  · rfl

/-- `name2sym[vname]`, `[]` if the name is not a key -/
def symD (n2s : List (List Char × List Char)) (c : List Char) : List Char := (Py.dictGet n2s c).getD []

theorem symD_spec {n2s : List (List Char × List Char)} {c : List Char} (h : (Py.dictGet n2s c).isSome) :
    Py.dictGet n2s c = some (symD n2s c) := by
  obtain ⟨sym, hsym⟩ := Option.isSome_iff_exists.1 h
  rw [symD, hsym, Option.getD_some]

theorem terms_step (n2s : List (List Char × List Char)) (F : Nat → FStr ℚ) (e : V3 ℚ × (List Char × ℚ))
    (hs : (Py.dictGet n2s e.2.1).isSome) :
    Src.Constraints.positionFormula_terms n2s [F 0, F 1, F 2] e =
      some [F 0 ++ termOf 0 e.1 (symD n2s e.2.1), F 1 ++ termOf 1 e.1 (symD n2s e.2.1), F 2 ++ termOf 2 e.1 (symD n2s e.2.1)] :=
  forM_range3 _ (fun i _ => termOf i e.1 (symD n2s e.2.1)) (fun fs i hi hl => term_step n2s fs e.1 e.2.1 _ (symD_spec hs) hi hl) _ _ _

theorem terms_fold (n2s : List (List Char × List Char)) (l : List (V3 ℚ × (List Char × ℚ))) (F : Nat → FStr ℚ)
    (h : ∀ e ∈ l, (Py.dictGet n2s e.2.1).isSome) :
    Py.forM l [F 0, F 1, F 2] (Src.Constraints.positionFormula_terms n2s) =
      some [F 0 ++ l.flatMap (fun e => termOf 0 e.1 (symD n2s e.2.1)), F 1 ++ l.flatMap (fun e => termOf 1 e.1 (symD n2s e.2.1)),
        F 2 ++ l.flatMap (fun e => termOf 2 e.1 (symD n2s e.2.1))] :=
  forM_accum (fun F : Nat → FStr ℚ => [F 0, F 1, F 2]) (fun (e : V3 ℚ × (List Char × ℚ)) i => termOf i e.1 (symD n2s e.2.1)) _ l F
    (fun e he F => terms_step n2s F e (h e he))

/-- the constant that is appended to coordinate `i` -/
def constOf (i : Nat) (t : V3 ℚ) (f : FStr ℚ) : FStr ℚ :=
  if (!f.isEmpty && decide (Np.absS (coordV t i) < (Src.Constraints.epsilon : ℚ))) = true then [] else [FPiece.const (coordV t i)]

theorem const_step (t : V3 ℚ) (fs : List (FStr ℚ)) {i : Nat} (hi : i < 3) (hl : fs.length = 3) :
    Src.Constraints.positionFormula_const t fs i = some (fs.set i (fs[i]'(hl ▸ hi) ++ constOf i t (fs[i]'(hl ▸ hi)))) := by
  have hil : i < fs.length := hl ▸ hi
  unfold Src.Constraints.positionFormula_const constOf
  rw [getIdx_nat, List.getElem?_eq_getElem hil, Option.bind_some, get3?_of_lt t hi, Option.bind_some, listSet_eq _ _ _ hil]
  split
  · rw [List.append_nil, List.set_getElem_self]
  · rfl

theorem const_fold (t : V3 ℚ) (f0 f1 f2 : FStr ℚ) :
    Py.forM (List.range 3) [f0, f1, f2] (Src.Constraints.positionFormula_const t) =
      some [f0 ++ constOf 0 t f0, f1 ++ constOf 1 t f1, f2 ++ constOf 2 t f2] :=
  forM_range3 _ (fun i f => constOf i t f) (fun fs i hi hl => const_step t fs hi hl) f0 f1 f2

theorem flatMap_terms (i : Nat) (n2s : List (List Char × List Char)) : ∀ (rot : List (V3 ℚ)) (pars : List (List Char × ℚ)),
    (rot.zip pars).flatMap (fun e => termOf i e.1 (symD n2s e.2.1)) =
      ((rot.map toVec).zip (pars.map fun p => symD n2s p.1)).filterMap fun e =>
        if Con.absQ (Con.coord e.1 i) < (Src.Constraints.epsilon : ℚ) then none else some (FPiece.term (Con.coord e.1 i) e.2)
  | [], _ => by simp
  | _ :: _, [] => by simp
  | r :: rot, p :: pars => by
    rw [List.zip_cons_cons, List.flatMap_cons, flatMap_terms i n2s rot pars, List.map_cons, List.map_cons, List.zip_cons_cons,
      List.filterMap_cons]
    simp only [coord_toVec, absQ_eq, termOf]
    by_cases h : Np.absS (coordV r i) < (Src.Constraints.epsilon : ℚ) <;> simp [h]

theorem pieces1_eq (n2s : List (List Char × List Char)) (rot : List (V3 ℚ)) (pars : List (List Char × ℚ)) (t : V3 ℚ) (i : Nat) :
    (rot.zip pars).flatMap (fun e => termOf i e.1 (symD n2s e.2.1)) ++
        constOf i t ((rot.zip pars).flatMap fun e => termOf i e.1 (symD n2s e.2.1)) =
      Con.posPieces1 (Src.Constraints.epsilon : ℚ) (rot.map toVec, toVec t) (pars.map fun p => symD n2s p.1) i := by
  unfold Con.posPieces1 constOf
  rw [flatMap_terms, coord_toVec, absQ_eq]

theorem dictZip_xyz (f0 f1 f2 : FStr ℚ) :
    Py.dictZip [['x'], ['y'], ['z']] [f0, f1, f2] = [(['x'], f0), (['y'], f1), (['z'], f2)] :=
  dictZip_nodup _ _ (by decide)

/-- **`positionFormula`, numeric content.**  When the lookup finds the equivalent site `eqpos` with rotation `R`, and every
parameter name is a key of `name2sym` (`"x"`, `"y"`, `"z"` with at least that many caller symbols), the returned dictionary is
`Con.posPieces epsilon (Con.posFormula R null_space values eqpos) symbols`: coefficient vectors `R v_k` (`nsrotated`), constant part
`eqpos − Σ value_k · R v_k` (`teqpos`), per coordinate a term for every parameter with `|coefficient| ≥ epsilon` carrying the
caller's symbol of that parameter's name, then the constant unless there are terms and `|constant| < epsilon`. -/
theorem positionFormula_eq (g : GenSite ℚ) (pos : V3 ℚ) (syms : List (List Char)) (eqpos : V3 ℚ) (R : M3 ℚ)
    (hf : Src.Constraints.findEquivalent g pos = some (some (eqpos, R)))
    (hn : ∀ p ∈ g.pparameters, (symOf syms p.1).isSome) :
    Src.Constraints.positionFormula g pos syms =
      some (Con.posPieces (Src.Constraints.epsilon : ℚ)
        (Con.posFormula (toMat R) (g.null_space.map toVec) (g.pparameters.map (·.2)) (toVec eqpos))
        (g.pparameters.map fun p => symD (Py.dictZip [['x'], ['y'], ['z']] syms) p.1)) := by
  unfold Src.Constraints.positionFormula
  rw [hf]
  simp only [Option.bind_some]
  have hn' : ∀ e ∈ (Np.dotLM g.null_space (Np.transpose R)).zip g.pparameters,
      (Py.dictGet (Py.dictZip [['x'], ['y'], ['z']] syms) e.2.1).isSome := by
    intro e he
    exact hn e.2 (List.of_mem_zip he).2
  rw [show (List.replicate 3 [] : List (FStr ℚ)) = [[], [], []] from rfl,
    terms_fold _ _ (fun _ => []) hn', Option.bind_some, const_fold, Option.bind_some, dictZip_xyz]
  have hF : Con.posFormula (toMat R) (g.null_space.map toVec) (g.pparameters.map (·.2)) (toVec eqpos) =
      ((Np.dotLM g.null_space (Np.transpose R)).map toVec,
        toVec (List.foldl (fun teqpos e => Np.sub teqpos (Np.mulVS e.1 e.2.2)) eqpos
          ((Np.dotLM g.null_space (Np.transpose R)).zip g.pparameters))) := by
    rw [teqpos_fold, nsrotated_eq]; rfl
  rw [hF, Con.posPieces, ← pieces1_eq, ← pieces1_eq, ← pieces1_eq]
  rfl

/-! the piece lists denote the affine maps of `DS.Props.C05` -/

theorem evalPieces_append (env : List Char → ℚ) : ∀ (a b : FStr ℚ),
    Con.evalPieces env (a ++ b) = Con.evalPieces env a + Con.evalPieces env b
  | [], b => by simp [Con.evalPieces]
  | FPiece.term c s :: a, b => by
    rw [List.cons_append, Con.evalPieces, Con.evalPieces, evalPieces_append env a b]; ring
  | FPiece.const c :: a, b => by
    rw [List.cons_append, Con.evalPieces, Con.evalPieces, evalPieces_append env a b]; ring

theorem coord_add (u v : Vec3 ℚ) (i : Nat) : Con.coord (u.add v) i = Con.coord u i + Con.coord v i := by
  match i with
  | 0 => rfl
  | 1 => rfl
  | _ + 2 => rfl

theorem coord_smul (c : ℚ) (v : Vec3 ℚ) (i : Nat) : Con.coord (Vec3.smul c v) i = c * Con.coord v i := by
  match i with
  | 0 => rfl
  | 1 => rfl
  | _ + 2 => rfl

theorem coord_zero (i : Nat) : Con.coord (Vec3.zero : Vec3 ℚ) i = 0 := by
  match i with
  | 0 => rfl
  | 1 => rfl
  | _ + 2 => rfl

theorem evalTerms (eps : ℚ) (env : List Char → ℚ) (i : Nat) : ∀ (rot : List (Vec3 ℚ)) (syms : List (List Char)),
    (∀ v ∈ rot, Con.absQ (Con.coord v i) < eps → Con.coord v i = 0) →
    Con.evalPieces env ((rot.zip syms).filterMap fun e =>
        if Con.absQ (Con.coord e.1 i) < eps then none else some (FPiece.term (Con.coord e.1 i) e.2)) =
      Con.coord (Con.lincomb (syms.map env) rot) i
  | [], syms, _ => by
    cases syms <;> simp [Con.evalPieces, Con.lincomb, coord_zero]
  | _ :: _, [], _ => by simp [Con.evalPieces, Con.lincomb, coord_zero]
  | v :: rot, s :: syms, h => by
    rw [List.zip_cons_cons, List.filterMap_cons, List.map_cons]
    have ih := evalTerms eps env i rot syms (fun w hw => h w (List.mem_cons_of_mem _ hw))
    show _ = Con.coord ((Vec3.smul (env s) v).add (Con.lincomb (syms.map env) rot)) i
    rw [coord_add, coord_smul, ← ih]
    by_cases hc : Con.absQ (Con.coord v i) < eps
    · simp only [hc, if_true]
      rw [h v (List.mem_cons_self ..) hc]; ring
    · simp only [hc, if_false, Con.evalPieces]
      ring

/-- **the formula pieces denote the affine map of `Con.posFormula`/`Con.evalFormula`**: when no coefficient and no constant is
lost to the `epsilon` cut (each is zero or at least `eps` in size) the value of coordinate `i` of the returned formula, for values
`env` of the symbols, is coordinate `i` of `Con.evalFormula f` at the parameter values `env(symbol_k)` — so `DS.Props.C05.formula_eval`,
`formula_at_values`, `formula_image` speak about the strings the API returns. -/
theorem evalPieces_posPieces (eps : ℚ) (f : List (Vec3 ℚ) × Vec3 ℚ) (syms : List (List Char)) (env : List Char → ℚ) (i : Nat)
    (hc : ∀ v ∈ f.1, Con.absQ (Con.coord v i) < eps → Con.coord v i = 0)
    (hk : Con.absQ (Con.coord f.2 i) < eps → Con.coord f.2 i = 0) :
    Con.evalPieces env (Con.posPieces1 eps f syms i) = Con.coord (Con.evalFormula f (syms.map env)) i := by
  unfold Con.posPieces1 Con.evalFormula
  simp only
  rw [evalPieces_append, evalTerms eps env i f.1 syms hc, coord_add]
  by_cases hb : (!(List.filterMap (fun e => if Con.absQ (Con.coord e.1 i) < eps then none
      else some (FPiece.term (Con.coord e.1 i) e.2)) (f.1.zip syms)).isEmpty && decide (Con.absQ (Con.coord f.2 i) < eps)) = true
  · rw [if_pos hb]
    simp only [Bool.and_eq_true, decide_eq_true_eq] at hb
    rw [hk hb.2]; simp [Con.evalPieces]
  · rw [if_neg hb]
    simp [Con.evalPieces]; ring

/-! ### 7. `UFormula`: numeric content = `R B_k Rᵀ`, pieces = `Con.uPieces` -/

/-- what one parameter contributes to an entry -/
def uAdd (x : ℚ) (sym : List Char) : FStr ℚ := if x = 0 then [] else [FPiece.term x sym]

abbrev U11 : List Char := ['U', '1', '1']
abbrev U22 : List Char := ['U', '2', '2']
abbrev U33 : List Char := ['U', '3', '3']
abbrev U12 : List Char := ['U', '1', '2']
abbrev U13 : List Char := ['U', '1', '3']
abbrev U23 : List Char := ['U', '2', '3']

def udict (F : List Char → FStr ℚ) : FDict ℚ := Src.Constraints.stdUsymbols.map fun s => (s, F s)

theorem idx2U_0 : Py.dictGet Src.Constraints.idx2Usymbol 0 = some U11 := rfl
theorem idx2U_1 : Py.dictGet Src.Constraints.idx2Usymbol 1 = some U12 := rfl
theorem idx2U_2 : Py.dictGet Src.Constraints.idx2Usymbol 2 = some U13 := rfl
theorem idx2U_4 : Py.dictGet Src.Constraints.idx2Usymbol 4 = some U22 := rfl
theorem idx2U_5 : Py.dictGet Src.Constraints.idx2Usymbol 5 = some U23 := rfl
theorem idx2U_8 : Py.dictGet Src.Constraints.idx2Usymbol 8 = some U33 := rfl

/-- `Uformula[idx2Usymbol[i]] += term`, whatever the entry -/
theorem uterm_upd (n2s : List (List Char × List Char)) (flat : List ℚ) (vname sym : List Char) (hs : Py.dictGet n2s vname = some sym)
    (F : List Char → FStr ℚ) {i : Nat} {x : ℚ} {smbl : List Char} (hx : flat[i]? = some x)
    (hi : Py.dictGet Src.Constraints.idx2Usymbol i = some smbl) (hm : smbl ∈ Src.Constraints.stdUsymbols) :
    Src.Constraints.UFormula_term n2s flat vname (udict F) i =
      some (udict fun s => if s == smbl then F s ++ [FPiece.term x sym] else F s) := by
  unfold Src.Constraints.UFormula_term
  rw [getIdx_nat, hx, Option.bind_some, hs, Option.bind_some, hi, Option.bind_some]
  exact dictUpd_map _ F smbl hm _

theorem uterm_0 (n2s : List (List Char × List Char)) (x0 x1 x2 x3 x4 x5 x6 x7 x8 : ℚ) (vname sym : List Char)
    (hs : Py.dictGet n2s vname = some sym) (F : List Char → FStr ℚ) :
    Src.Constraints.UFormula_term n2s [x0, x1, x2, x3, x4, x5, x6, x7, x8] vname (udict F) 0 =
      some (udict fun s => if s == U11 then F s ++ [FPiece.term x0 sym] else F s) :=
  uterm_upd n2s _ vname sym hs F (i := 0) rfl idx2U_0 (by decide)
theorem uterm_1 (n2s : List (List Char × List Char)) (x0 x1 x2 x3 x4 x5 x6 x7 x8 : ℚ) (vname sym : List Char)
    (hs : Py.dictGet n2s vname = some sym) (F : List Char → FStr ℚ) :
    Src.Constraints.UFormula_term n2s [x0, x1, x2, x3, x4, x5, x6, x7, x8] vname (udict F) 1 =
      some (udict fun s => if s == U12 then F s ++ [FPiece.term x1 sym] else F s) :=
  uterm_upd n2s _ vname sym hs F (i := 1) rfl idx2U_1 (by decide)
theorem uterm_2 (n2s : List (List Char × List Char)) (x0 x1 x2 x3 x4 x5 x6 x7 x8 : ℚ) (vname sym : List Char)
    (hs : Py.dictGet n2s vname = some sym) (F : List Char → FStr ℚ) :
    Src.Constraints.UFormula_term n2s [x0, x1, x2, x3, x4, x5, x6, x7, x8] vname (udict F) 2 =
      some (udict fun s => if s == U13 then F s ++ [FPiece.term x2 sym] else F s) :=
  uterm_upd n2s _ vname sym hs F (i := 2) rfl idx2U_2 (by decide)
theorem uterm_4 (n2s : List (List Char × List Char)) (x0 x1 x2 x3 x4 x5 x6 x7 x8 : ℚ) (vname sym : List Char)
    (hs : Py.dictGet n2s vname = some sym) (F : List Char → FStr ℚ) :
    Src.Constraints.UFormula_term n2s [x0, x1, x2, x3, x4, x5, x6, x7, x8] vname (udict F) 4 =
      some (udict fun s => if s == U22 then F s ++ [FPiece.term x4 sym] else F s) :=
  uterm_upd n2s _ vname sym hs F (i := 4) rfl idx2U_4 (by decide)
theorem uterm_5 (n2s : List (List Char × List Char)) (x0 x1 x2 x3 x4 x5 x6 x7 x8 : ℚ) (vname sym : List Char)
    (hs : Py.dictGet n2s vname = some sym) (F : List Char → FStr ℚ) :
    Src.Constraints.UFormula_term n2s [x0, x1, x2, x3, x4, x5, x6, x7, x8] vname (udict F) 5 =
      some (udict fun s => if s == U23 then F s ++ [FPiece.term x5 sym] else F s) :=
  uterm_upd n2s _ vname sym hs F (i := 5) rfl idx2U_5 (by decide)
theorem uterm_8 (n2s : List (List Char × List Char)) (x0 x1 x2 x3 x4 x5 x6 x7 x8 : ℚ) (vname sym : List Char)
    (hs : Py.dictGet n2s vname = some sym) (F : List Char → FStr ℚ) :
    Src.Constraints.UFormula_term n2s [x0, x1, x2, x3, x4, x5, x6, x7, x8] vname (udict F) 8 =
      some (udict fun s => if s == U33 then F s ++ [FPiece.term x8 sym] else F s) :=
  uterm_upd n2s _ vname sym hs F (i := 8) rfl idx2U_8 (by decide)

/-- the same, skipped for a zero entry (`numpy.where(Usrflat)`) -/
theorem uterm (n2s : List (List Char × List Char)) (flat : List ℚ) (vname sym : List Char) (hs : Py.dictGet n2s vname = some sym)
    (F : List Char → FStr ℚ) {i : Nat} {x : ℚ} {smbl : List Char} (hx : flat[i]? = some x)
    (hi : Py.dictGet Src.Constraints.idx2Usymbol i = some smbl) (hm : smbl ∈ Src.Constraints.stdUsymbols) :
    (if x = 0 then some (udict F) else Src.Constraints.UFormula_term n2s flat vname (udict F) i) =
      some (udict fun s => if s == smbl then F s ++ uAdd x sym else F s) := by
  rw [uterm_upd n2s flat vname sym hs F hx hi hm]
  unfold uAdd
  split <;> simp

theorem uterms_step (n2s : List (List Char × List Char)) (F : List Char → FStr ℚ) (Usr : M3 ℚ) (vname sym : List Char) (val : ℚ)
    (hs : Py.dictGet n2s vname = some sym) (hsym : (toMat Usr).isSymm) :
    Src.Constraints.UFormula_terms n2s (udict F) (Usr, (vname, val)) =
      some (udict fun s => F s ++ uAdd (Con.entryU (toMat Usr) s) sym) := by
  obtain ⟨⟨u1, u2, u3⟩, ⟨u4, u5, u6⟩, ⟨u7, u8, u9⟩⟩ := Usr
  obtain ⟨h12, h13, h23⟩ := hsym
  simp only [toMat] at h12 h13 h23
  subst h12 h13 h23
  unfold Src.Constraints.UFormula_terms
  have hassert : (!(Np.allM (Np.eqM ((u1, u2, u3), (u2, u5, u6), (u3, u6, u9)) (Np.transpose ((u1, u2, u3), (u2, u5, u6), (u3, u6, u9)))))) = false := by
    simp [Np.allM, Np.eqM, Np.zipM3, Np.zip3, Np.transpose, Np.all]
  simp only [hassert, Bool.false_eq_true, if_false]
  have hflat : Np.flatten (Np.subM ((u1, u2, u3), (u2, u5, u6), (u3, u6, u9)) (Np.tril1 ((u1, u2, u3), (u2, u5, u6), (u3, u6, u9)))) =
      [u1, u2, u3, 0, u5, u6, 0, 0, u9] := by
    simp [Np.flatten, Np.subM, Np.tril1, Np.zipM3, Np.zip3, Np.toList3]
  -- the loop over `numpy.where` takes a conditional step for each of the nine entries; the three below the diagonal are zero
  rw [hflat, forM_whereNZ, show [u1, u2, u3, 0, u5, u6, 0, 0, u9].zipIdx =
      [(u1, 0), (u2, 1), (u3, 2), (0, 3), (u5, 4), (u6, 5), (0, 6), (0, 7), (u9, 8)] from rfl,
    forM_cons, uterm n2s _ vname sym hs F (i := 0) rfl idx2U_0 (by decide), Option.bind_some,
    forM_cons, uterm n2s _ vname sym hs _ (i := 1) rfl idx2U_1 (by decide), Option.bind_some,
    forM_cons, uterm n2s _ vname sym hs _ (i := 2) rfl idx2U_2 (by decide), Option.bind_some,
    forM_cons, if_pos rfl, Option.bind_some,
    forM_cons, uterm n2s _ vname sym hs _ (i := 4) rfl idx2U_4 (by decide), Option.bind_some,
    forM_cons, uterm n2s _ vname sym hs _ (i := 5) rfl idx2U_5 (by decide), Option.bind_some,
    forM_cons, if_pos rfl, Option.bind_some,
    forM_cons, if_pos rfl, Option.bind_some,
    forM_cons, uterm n2s _ vname sym hs _ (i := 8) rfl idx2U_8 (by decide), Option.bind_some, forM_nil]
  rfl

theorem uterms_fold (n2s : List (List Char × List Char)) (l : List (M3 ℚ × (List Char × ℚ))) (F : List Char → FStr ℚ)
    (h : ∀ e ∈ l, (Py.dictGet n2s e.2.1).isSome) (hsy : ∀ e ∈ l, (toMat e.1).isSymm) :
    Py.forM l (udict F) (Src.Constraints.UFormula_terms n2s) =
      some (udict fun s => F s ++ l.flatMap fun e => uAdd (Con.entryU (toMat e.1) s) (symD n2s e.2.1)) :=
  forM_accum udict (fun (e : M3 ℚ × (List Char × ℚ)) s => uAdd (Con.entryU (toMat e.1) s) (symD n2s e.2.1)) _ l F
    (fun e he F => uterms_step n2s F e.1 e.2.1 _ e.2.2 (symD_spec (h e he)) (hsy e he))

theorem flatMap_uAdd (n2s : List (List Char × List Char)) (R : M3 ℚ) (s : List Char) :
    ∀ (bs : List (M3 ℚ)) (pars : List (List Char × ℚ)),
    ((bs.map fun Us => Np.matmul R (Np.matmul Us (Np.transpose R))).zip pars).flatMap
        (fun e => uAdd (Con.entryU (toMat e.1) s) (symD n2s e.2.1)) =
      Con.uPieces1 ((bs.map toMat).map (Con.rotT (toMat R))) (pars.map fun p => symD n2s p.1) s
  | [], _ => by simp [Con.uPieces1]
  | _ :: _, [] => by simp [Con.uPieces1]
  | b :: bs, p :: pars => by
    have ih := flatMap_uAdd n2s R s bs pars
    rw [List.map_cons, List.zip_cons_cons, List.flatMap_cons, ih]
    unfold Con.uPieces1
    rw [List.map_cons, List.map_cons, List.map_cons, List.zip_cons_cons, List.filterMap_cons]
    simp only [toMat_rot, uAdd]
    by_cases h : Con.entryU (Con.rotT (toMat R) (toMat b)) s = 0 <;> simp [h]

theorem dictFromKeys_std : Py.dictFromKeys Src.Constraints.stdUsymbols ([] : FStr ℚ) = udict fun _ => [] :=
  dictFromKeys_nodup _ _ (by decide)

/-- **`UFormula`, numeric content.**  When the lookup finds the equivalent site with rotation `R`, the basis tensors are symmetric
and every parameter name is a key of `name2sym`, the returned dictionary is `Con.uPieces [R B_k Rᵀ] symbols`: for each of the six
standard entries a term for every parameter whose rotated basis tensor `R B_k Rᵀ` has a non-zero entry there (the upper triangle
only: off-diagonal entries are not counted twice), carrying the caller's symbol of that parameter's name.  An empty list is printed
as `"0"`. -/
theorem UFormula_eq (g : GenSite ℚ) (pos : V3 ℚ) (syms : List (List Char)) (eqpos : V3 ℚ) (R : M3 ℚ)
    (hf : Src.Constraints.findEquivalent g pos = some (some (eqpos, R)))
    (hsy : ∀ B ∈ g.Uspace, (toMat B).isSymm)
    (hn : ∀ p ∈ g.Uparameters, (Py.dictGet (Py.dictZip Src.Constraints.stdUsymbols syms) p.1).isSome) :
    Src.Constraints.UFormula g pos syms =
      some (Con.uPieces ((g.Uspace.map toMat).map (Con.rotT (toMat R)))
        (g.Uparameters.map fun p => symD (Py.dictZip Src.Constraints.stdUsymbols syms) p.1)) := by
  unfold Src.Constraints.UFormula
  rw [hf]
  simp only [Option.bind_some, dictFromKeys_std]
  have hn' : ∀ e ∈ (g.Uspace.map fun Us => Np.matmul R (Np.matmul Us (Np.transpose R))).zip g.Uparameters,
      (Py.dictGet (Py.dictZip Src.Constraints.stdUsymbols syms) e.2.1).isSome := by
    intro e he
    exact hn e.2 (List.of_mem_zip he).2
  have hsy' : ∀ e ∈ (g.Uspace.map fun Us => Np.matmul R (Np.matmul Us (Np.transpose R))).zip g.Uparameters,
      (toMat e.1).isSymm := by
    intro e he
    obtain ⟨B, hB, hBe⟩ := List.mem_map.1 (List.of_mem_zip he).1
    rw [← hBe, toMat_rot]
    exact DS.Props.C06.rotT_symm _ _ (hsy B hB)
  rw [uterms_fold _ _ _ hn' hsy']
  simp only [List.nil_append, flatMap_uAdd]
  rfl

/-- `Con.entryU · s` selects an entry, so it is linear: the selecting `if`s commute with the arithmetic -/
theorem entryU_lin (c : ℚ) (A B : Mat3 ℚ) (s : List Char) :
    Con.entryU ((Mat3.smul c A).add B) s = c * Con.entryU A s + Con.entryU B s := by
  have hite : ∀ (p : Prop) [Decidable p] (a a' b b' : ℚ),
      c * (if p then a else a') + (if p then b else b') = if p then c * a + b else c * a' + b' := by
    intro p _ a a' b b'; split <;> rfl
  simp only [Con.entryU, hite]
  rfl

theorem entryU_zero (s : List Char) : Con.entryU (Mat3.zero : Mat3 ℚ) s = 0 := by
  simp only [Con.entryU, Mat3.zero, ite_self]

/-- the pieces of entry `s` denote that entry of the rotated tensor `R (Σ c_k B_k) Rᵀ` (`DS.Props.C06.Uformula_eval`) -/
theorem evalPieces_uPieces (env : List Char → ℚ) (s : List Char) : ∀ (rot : List (Mat3 ℚ)) (syms : List (List Char)),
    Con.evalPieces env (Con.uPieces1 rot syms s) = Con.entryU (Con.lincombT (syms.map env) rot) s
  | [], syms => by
    cases syms <;> exact (entryU_zero s).symm
  | _ :: _, [] => (entryU_zero s).symm
  | B :: rot, c :: syms => by
    have ih := evalPieces_uPieces env s rot syms
    unfold Con.uPieces1 at ih ⊢
    rw [List.zip_cons_cons, List.filterMap_cons, List.map_cons, Con.lincombT, entryU_lin, ← ih]
    by_cases h : Con.entryU B s = 0
    · rw [if_pos h, h, mul_zero, zero_add]
    · rw [if_neg h, Con.evalPieces, mul_comm]

/-! ### 8. `_findConstraints`: the greedy orbit partition `Partition.partRel` -/

/-- what the partition loop needs to know about `GeneratorSite` for the listed positions (`dom`): construction succeeds, the
parameter names are standard ones, `positionFormula` is empty exactly for the positions that are not related (`rel`), and for a
related position the other calls succeed and the position is left where it is -/
structure GenOK (mk : V3 α → M3 α → Option (GenSite α)) (rel : V3 α → V3 α → Bool) (dom : V3 α → Prop) : Prop where
  mk_ok : ∀ p u, dom p → ∃ g, mk p u = some g
  pnames : ∀ p u g, dom p → mk p u = some g → ∀ kv ∈ g.pparameters, kv.1 ∈ ([['x'], ['y'], ['z']] : List (List Char))
  unames : ∀ p u g, dom p → mk p u = some g → ∀ kv ∈ g.Uparameters, kv.1 ∈ (Src.Constraints.stdUsymbols : List (List Char))
  formula : ∀ p u g q syms, dom p → dom q → mk p u = some g → syms.length = 3 →
    ∃ f, Src.Constraints.positionFormula g q syms = some f ∧ f.isEmpty = !rel p q
  adopt : ∀ p u g q syms, dom p → dom q → mk p u = some g → syms.length = 6 → rel p q = true →
    (∃ uf, Src.Constraints.UFormula g q syms = some uf) ∧
    ∃ j e ue, Src.Constraints.eqIndex g q = some j ∧ g.eqxyz[j]? = some e ∧ g.eqUij[j]? = some ue ∧
      Np.add q (Np.sub (Np.sub e q) (Np.round (Np.sub e q))) = q

/-- `for k, v in pars: out.append((symbols[keys.index(k)], v))` raises nothing when every `k` is a key and every key has a symbol -/
theorem renamePars_ok (keys g : List (List Char)) (hl : keys.length ≤ g.length) : ∀ (l acc : List (List Char × α)),
    (∀ kv ∈ l, kv.1 ∈ keys) → ∃ r, Py.forM l acc (fun acc kv => (Py.index? keys kv.1).bind fun j =>
      (Py.getIdx g (Int.ofNat j)).bind fun smbl => some (acc ++ [(smbl, kv.2)])) = some r
  | [], acc, _ => ⟨acc, rfl⟩
  | kv :: l, acc, h => by
    obtain ⟨j, hj, hjk⟩ := index?_of_mem keys kv.1 (h kv (List.mem_cons_self ..))
    simp only [forM_cons, hj, Option.bind_some, getIdx_nat, List.getElem?_eq_getElem (show j < g.length by omega)]
    exact renamePars_ok keys g hl l _ (fun kv' h' => h kv' (List.mem_cons_of_mem _ h'))

theorem pospars_ok (gxyz : List (List Char)) (hl : gxyz.length = 3) (l acc : List (List Char × α))
    (h : ∀ kv ∈ l, kv.1 ∈ ([['x'], ['y'], ['z']] : List (List Char))) :
    ∃ r, Py.forM l acc (Src.Constraints.findConstraints_pospars gxyz) = some r :=
  renamePars_ok (Py.chars ['x', 'y', 'z']) gxyz hl.ge l acc h

theorem Upars_ok (gU : List (List Char)) (hl : gU.length = 6) (l acc : List (List Char × α))
    (h : ∀ kv ∈ l, kv.1 ∈ (Src.Constraints.stdUsymbols : List (List Char))) :
    ∃ r, Py.forM l acc (Src.Constraints.findConstraints_Upars gU) = some r :=
  renamePars_ok Src.Constraints.stdUsymbols gU hl.ge l acc h

theorem length_flatMap_const {β γ : Type} (F : β → List γ) (m : Nat) (hF : ∀ i, (F i).length = m) (l : List β) :
    (l.flatMap F).length = m * l.length := by
  induction l with
  | nil => simp
  | cons x xs ih => rw [List.flatMap_cons, List.length_append, ih, hF, List.length_cons]; ring

theorem slice_length {β : Type} (l : List β) (m g n : Nat) (hl : l.length = m * n) (hg : g < n) :
    (Py.slice l (m * g) (m * (g + 1))).length = m := by
  unfold Py.slice
  rw [List.length_take, List.length_drop, hl]
  have : m * (g + 1) - m * g = m := by rw [Nat.mul_succ]; omega
  rw [this]
  have : m * (g + 1) ≤ m * n := Nat.mul_le_mul_left m hg
  rw [Nat.mul_succ] at this
  omega

/-- the state of the loops of `_findConstraints`: positions untouched, `independent = ind`, `coremap = cm` (inside the loop over
`indies` for the generator `g`: `cm = acc ++ [(g, mem)]`), the per-site lists keep their length -/
structure LoopInv (P : List (V3 α)) (n : Nat) (ind : List Nat) (cm : List (Nat × List Nat)) (st : FCSt α) : Prop where
  pos : st.positions = P
  ind : st.independent = ind
  cm : st.coremap = cm
  lU : st.Uijs.length = n
  lp : st.poseqns.length = n
  lu : st.Ueqns.length = n
  li : st.Uisotropy.length = n

def relI (rel : V3 α → V3 α → Bool) (P : List (V3 α)) (i j : Nat) : Bool :=
  match P[i]?, P[j]? with
  | some a, some b => rel a b
  | _, _ => false

theorem relI_eq (rel : V3 α → V3 α → Bool) {P : List (V3 α)} {i j : Nat} (hi : i < P.length) (hj : j < P.length) :
    relI rel P i j = rel P[i] P[j] := by
  unfold relI
  rw [List.getElem?_eq_getElem hi, List.getElem?_eq_getElem hj]

theorem inner_step {mk : V3 α → M3 α → Option (GenSite α)} {rel : V3 α → V3 α → Bool} {dom : V3 α → Prop}
    (hok : GenOK mk rel dom) {P : List (V3 α)} {n g : Nat} (hP : P.length = n) (hdom : ∀ p ∈ P, dom p)
    {acc : List (Nat × List Nat)} (hfresh : Py.dictHas acc g = false) {ind mem : List Nat} {st : FCSt α}
    (hinv : LoopInv P n ind (acc ++ [(g, mem)]) st) {gen : GenSite α} {p : V3 α} {u : M3 α} (hp : p ∈ P) (hgen : mk p u = some gen)
    {r : Nat → Bool} (hr : ∀ j (hj : j < P.length), r j = rel p P[j])
    (s3 s6 : List (List Char)) (h3 : s3.length = 3) (h6 : s6.length = 6) (j : Nat) (hj : j < n) (hji : j ∈ ind) :
    ∃ st', Src.Constraints.findConstraints_inner gen g s3 s6 st j = some st' ∧
      LoopInv P n (if r j then ind.filter (fun y => y != j) else ind) (acc ++ [(g, if r j then mem ++ [j] else mem)]) st' := by
  have hjP : j < P.length := by omega
  have hdp : dom p := hdom _ hp
  have hdq : dom P[j] := hdom _ (List.getElem_mem hjP)
  obtain ⟨f, hf, hfe⟩ := hok.formula p u gen P[j] s3 hdp hdq hgen h3
  unfold Src.Constraints.findConstraints_inner
  rw [getIdx_nat, hinv.pos, List.getElem?_eq_getElem hjP, hr j hjP, Option.bind_some, hf, Option.bind_some, hfe]
  cases hrel : rel p P[j]
  · exact ⟨st, rfl, hinv⟩
  · obtain ⟨⟨uf, huf⟩, jj, e, ue, hjj, he, hue, hstable⟩ := hok.adopt p u gen P[j] s6 hdp hdq hgen h6 hrel
    simp only [Bool.not_true, Bool.false_eq_true, if_false, if_true, hinv.ind, setRemove_mem ind j hji, Option.bind_some, hinv.cm,
      dictUpd_last acc g mem _ hfresh, huf, hjj, getIdx_nat, he, hue, hstable]
    rw [listSet_eq _ _ _ (hinv.lp.trans_gt hj), listSet_eq _ _ _ (hinv.lu.trans_gt hj), listSet_eq _ _ _ hjP,
      listSet_eq _ _ _ (hinv.lU.trans_gt hj), listSet_eq _ _ _ (hinv.li.trans_gt hj)]
    exact ⟨_, rfl, List.set_getElem_self hjP, rfl, rfl, (List.length_set ..).trans hinv.lU, (List.length_set ..).trans hinv.lp,
      (List.length_set ..).trans hinv.lu, (List.length_set ..).trans hinv.li⟩

theorem filt1 (r : Nat → Bool) (j : Nat) (todo ind : List Nat) :
    (if r j then ind.filter (fun y => y != j) else ind).filter (fun y => !(todo.contains y && r y)) =
      ind.filter fun y => !((j :: todo).contains y && r y) := by
  cases hr : r j
  · exact List.filter_congr fun y _ => by by_cases hy : y = j <;> simp [hy, hr]
  · rw [if_pos rfl, List.filter_filter]
    exact List.filter_congr fun y _ => by by_cases hy : y = j <;> simp [hy, hr]

theorem filt2 (r : Nat → Bool) (j : Nat) (todo mem : List Nat) :
    (if r j then mem ++ [j] else mem) ++ todo.filter r = mem ++ (j :: todo).filter r := by
  cases hr : r j <;> simp [hr]

/-- the loop over `indies`, for any test `r` that agrees with `rel p` on the listed positions: every `j` of `todo` with `r j` goes
from `independent` to the members of `g` -/
theorem inner_fold {mk : V3 α → M3 α → Option (GenSite α)} {rel : V3 α → V3 α → Bool} {dom : V3 α → Prop}
    (hok : GenOK mk rel dom) {P : List (V3 α)} {n g : Nat} (hP : P.length = n) (hdom : ∀ p ∈ P, dom p)
    {acc : List (Nat × List Nat)} (hfresh : Py.dictHas acc g = false)
    {gen : GenSite α} {p : V3 α} {u : M3 α} (hp : p ∈ P) (hgen : mk p u = some gen)
    {r : Nat → Bool} (hr : ∀ j (hj : j < P.length), r j = rel p P[j])
    (s3 s6 : List (List Char)) (h3 : s3.length = 3) (h6 : s6.length = 6) :
    ∀ (todo ind mem : List Nat) (st : FCSt α), LoopInv P n ind (acc ++ [(g, mem)]) st → (∀ j ∈ todo, j < n ∧ j ∈ ind) → todo.Nodup →
      ∃ st', Py.forM todo st (Src.Constraints.findConstraints_inner gen g s3 s6) = some st' ∧
        LoopInv P n (ind.filter fun y => !(todo.contains y && r y)) (acc ++ [(g, mem ++ todo.filter r)]) st'
  | [], ind, mem, st, hinv, _, _ => ⟨st, rfl, by simpa using hinv⟩
  | j :: todo, ind, mem, st, hinv, hmem, hnd => by
    obtain ⟨hjn, hji⟩ := hmem j (List.mem_cons_self ..)
    obtain ⟨st1, h1, hinv1⟩ := inner_step hok hP hdom hfresh hinv hp hgen hr s3 s6 h3 h6 j hjn hji
    rw [List.nodup_cons] at hnd
    have hmem1 : ∀ j' ∈ todo, j' < n ∧ j' ∈ (if r j then ind.filter (fun y => y != j) else ind) := fun j' hj' => by
      obtain ⟨a, b⟩ := hmem j' (List.mem_cons_of_mem _ hj')
      refine ⟨a, ?_⟩
      split
      · exact List.mem_filter.2 ⟨b, by simpa using fun e : j' = j => hnd.1 (e ▸ hj')⟩
      · exact b
    obtain ⟨st2, h2, hinv2⟩ := inner_fold hok hP hdom hfresh hp hgen hr s3 s6 h3 h6 todo _ _ st1 hinv1 hmem1 hnd.2
    rw [filt1, filt2] at hinv2
    exact ⟨st2, by rw [forM_cons, h1]; exact h2, hinv2⟩

theorem partRel_nil (rel : Nat → Nat → Bool) (fuel : Nat) : Partition.partRel rel fuel [] = [] := by
  cases fuel <;> rfl

def xyzsymbolsOf (n : Nat) : List (List Char) :=
  (List.range n).flatMap fun i => (Py.chars ['x', 'y', 'z']).map fun smbl => smbl ++ Py.strNat i
def UsymbolsOf (n : Nat) : List (List Char) :=
  (List.range n).flatMap fun i => Src.Constraints.stdUsymbols.map fun smbl => smbl ++ Py.strNat i

theorem xyzsymbols_length (n : Nat) : (xyzsymbolsOf n).length = 3 * n := by
  unfold xyzsymbolsOf
  rw [length_flatMap_const _ 3 (fun i => by simp [Py.chars]), List.length_range]
theorem Usymbols_length (n : Nat) : (UsymbolsOf n).length = 6 * n := by
  unfold UsymbolsOf
  rw [length_flatMap_const _ 6 (fun i => by simp [Src.Constraints.stdUsymbols]), List.length_range]

theorem outer_step {mk : V3 α → M3 α → Option (GenSite α)} {rel : V3 α → V3 α → Bool} {dom : V3 α → Prop}
    (hok : GenOK mk rel dom) (hrefl : ∀ p, dom p → rel p p = true) {P : List (V3 α)} {n : Nat} (hP : P.length = n)
    (hdom : ∀ p ∈ P, dom p) {g : Nat} (hg : g < n) {L : List Nat} {acc : List (Nat × List Nat)} {st : FCSt α}
    (hinv : LoopInv P n L acc st) (hsort : L.Pairwise (· < ·)) (hL : ∀ x ∈ L, g ≤ x ∧ x < n) (hacc : ∀ k ∈ acc.map (·.1), k < g) :
    ∃ st', Src.Constraints.findConstraints_outer mk (xyzsymbolsOf n) (UsymbolsOf n) st g = some st' ∧
      ((g ∉ L ∧ LoopInv P n L acc st') ∨
       (∃ rest, L = g :: rest ∧ LoopInv P n (rest.filter fun j => !relI rel P g j)
          (acc ++ [(g, g :: rest.filter fun j => relI rel P g j)]) st')) := by
  unfold Src.Constraints.findConstraints_outer
  by_cases hgL : g ∈ L
  · -- a generator
    obtain ⟨rest, rfl⟩ : ∃ rest, L = g :: rest := by
      cases L with
      | nil => simp at hgL
      | cons x rest =>
        rw [List.pairwise_cons] at hsort
        rcases List.mem_cons.1 hgL with rfl | h
        · exact ⟨rest, rfl⟩
        · have h1 := (hL x (List.mem_cons_self ..)).1
          have h2 := hsort.1 g h
          omega
    have hc : st.independent.contains g = true := by rw [hinv.ind]; simp
    have hgP : g < P.length := by omega
    have hfresh : Py.dictHas acc g = false := by
      rw [dictHas_iff_mem_keys]
      by_contra hcon
      simp only [Bool.not_eq_false, List.contains_iff_mem] at hcon
      exact absurd (hacc g hcon) (lt_irrefl _)
    have hgU : g < st.Uijs.length := by rw [hinv.lU]; exact hg
    obtain ⟨gen, hgen⟩ := hok.mk_ok P[g] st.Uijs[g] (hdom _ (List.getElem_mem hgP))
    have h3 := slice_length (xyzsymbolsOf n) 3 g n (xyzsymbols_length n) hg
    have h6 := slice_length (UsymbolsOf n) 6 g n (Usymbols_length n) hg
    obtain ⟨pp, hpp⟩ := pospars_ok _ h3 gen.pparameters st.pospars (hok.pnames _ _ _ (hdom _ (List.getElem_mem hgP)) hgen)
    obtain ⟨up, hup⟩ := Upars_ok _ h6 gen.Uparameters st.Upars (hok.unames _ _ _ (hdom _ (List.getElem_mem hgP)) hgen)
    have hgP' : st.positions[g]? = some P[g] := by rw [hinv.pos]; exact List.getElem?_eq_getElem hgP
    have hsorted : Py.sortedNat st.independent = g :: rest := by rw [hinv.ind]; exact sortedNat_of_lt _ hsort
    simp only [hc, Bool.not_true, Bool.false_eq_true, if_false, getIdx_nat, hgP',
      List.getElem?_eq_getElem hgU, Option.bind_some, hgen, hpp, hup, hsorted]
    have hinv0 : LoopInv P n (g :: rest) (acc ++ [(g, [])])
        { st with coremap := Py.dictSet st.coremap g [], pospars := pp, Upars := up } :=
      ⟨hinv.pos, hinv.ind, by rw [hinv.cm]; exact dictSet_fresh _ _ _ hfresh, hinv.lU, hinv.lp, hinv.lu, hinv.li⟩
    have hnd : (g :: rest).Nodup := hsort.imp (fun h => Nat.ne_of_lt h)
    obtain ⟨st', hst', hinv'⟩ := inner_fold hok hP hdom hfresh (List.getElem_mem hgP) hgen (fun j hj => relI_eq rel hgP hj) _ _ h3 h6
      (g :: rest) (g :: rest) [] _ hinv0 (fun j hj => ⟨(hL j hj).2, hj⟩) hnd
    have hgg : relI rel P g g = true := (relI_eq rel hgP hgP).trans (hrefl _ (hdom _ (List.getElem_mem hgP)))
    rw [List.filter_congr (q := fun j => !relI rel P g j) fun y hy => by rw [List.contains_iff_mem.2 hy, Bool.true_and]] at hinv'
    exact ⟨st', hst', Or.inr ⟨rest, rfl, by simpa [List.filter_cons, hgg] using hinv'⟩⟩
  · have hc : st.independent.contains g = false := by rw [hinv.ind]; simpa using hgL
    simp only [hc, Bool.not_false, if_true]
    exact ⟨st, rfl, Or.inl ⟨hgL, hinv⟩⟩


theorem outer_fold {mk : V3 α → M3 α → Option (GenSite α)} {rel : V3 α → V3 α → Bool} {dom : V3 α → Prop}
    (hok : GenOK mk rel dom) (hrefl : ∀ p, dom p → rel p p = true) {P : List (V3 α)} {n : Nat} (hP : P.length = n)
    (hdom : ∀ p ∈ P, dom p) :
    ∀ (m g : Nat), g + m = n → ∀ (L : List Nat) (acc : List (Nat × List Nat)) (st : FCSt α) (fuel : Nat),
      LoopInv P n L acc st → L.Pairwise (· < ·) → (∀ x ∈ L, g ≤ x ∧ x < n) → (∀ k ∈ acc.map (·.1), k < g) → L.length ≤ fuel →
      ∃ st', Py.forM (List.range' g m) st (Src.Constraints.findConstraints_outer mk (xyzsymbolsOf n) (UsymbolsOf n)) = some st' ∧
        LoopInv P n [] (acc ++ Partition.partRel (relI rel P) fuel L) st'
  | 0, g, hgm, L, acc, st, fuel, hinv, _, hL, _, _ => by
    have hLnil : L = [] := by
      cases L with
      | nil => rfl
      | cons x xs => have := hL x (List.mem_cons_self ..); omega
    subst hLnil
    refine ⟨st, rfl, ?_⟩
    rw [partRel_nil, List.append_nil]
    exact hinv
  | m + 1, g, hgm, L, acc, st, fuel, hinv, hsort, hL, hacc, hfuel => by
    have hg : g < n := by omega
    obtain ⟨st1, h1, hcase⟩ := outer_step hok hrefl hP hdom hg hinv hsort hL hacc
    rw [List.range'_succ, forM_cons, h1, Option.bind_some]
    rcases hcase with ⟨hgL, hinv1⟩ | ⟨rest, rfl, hinv1⟩
    · exact outer_fold hok hrefl hP hdom m (g + 1) (by omega) L acc st1 fuel hinv1 hsort
        (fun x hx => ⟨by
          have := (hL x hx).1
          have : x ≠ g := fun e => hgL (e ▸ hx)
          omega, (hL x hx).2⟩)
        (fun k hk => Nat.lt_succ_of_lt (hacc k hk)) hfuel
    · cases fuel with
      | zero => simp at hfuel
      | succ fuel =>
        rw [List.pairwise_cons] at hsort
        have hsub : (rest.filter fun j => !relI rel P g j).Sublist rest := List.filter_sublist
        obtain ⟨st2, h2, hinv2⟩ := outer_fold hok hrefl hP hdom m (g + 1) (by omega) _ _ st1 fuel hinv1
          (hsort.2.sublist hsub)
          (fun x hx => by
            have hx' := hsub.subset hx
            exact ⟨hsort.1 x hx', (hL x (List.mem_cons_of_mem _ hx')).2⟩)
          (fun k hk => by
            rw [List.map_append, List.mem_append] at hk
            rcases hk with hk | hk
            · exact Nat.lt_succ_of_lt (hacc k hk)
            · simp at hk; omega)
          (by
            have := hsub.length_le
            simp only [List.length_cons] at hfuel
            omega)
        refine ⟨st2, h2, ?_⟩
        have : acc ++ Partition.partRel (relI rel P) (fuel + 1) (g :: rest) =
            (acc ++ [(g, g :: rest.filter fun j => relI rel P g j)]) ++
              Partition.partRel (relI rel P) fuel (rest.filter fun j => !relI rel P g j) := by
          rw [List.append_assoc]; rfl
        rw [this]
        exact hinv2

theorem partRel_keys_sublist (r : Nat → Nat → Bool) : ∀ (fuel : Nat) (l : List Nat),
    ((Partition.partRel r fuel l).map (·.1)).Sublist l
  | 0, l => by cases l <;> simp [Partition.partRel]
  | fuel + 1, [] => by simp [Partition.partRel]
  | fuel + 1, i :: rest => by
    show (i :: (Partition.partRel r fuel (rest.filter fun j => !r i j)).map (·.1)).Sublist (i :: rest)
    exact ((partRel_keys_sublist r fuel _).trans List.filter_sublist).cons_cons i

/-- **`_findConstraints` = the greedy partition.**  Let `GeneratorSite` behave on the listed positions as `GenOK` says, with an
adoption relation `rel` that is reflexive there.  Then `_findConstraints` raises nothing, leaves the positions where they are,
empties `independent`, and `coremap` is `Partition.partRel` of the relation on the listing `0 … n−1`: the FIRST still independent
position becomes a generator, it adopts — in listing order — itself and every still independent position related to it, and
`corepos` lists the positions of the generators in increasing index order. -/
theorem findConstraints_eq {mk : V3 α → M3 α → Option (GenSite α)} {rel : V3 α → V3 α → Bool} {dom : V3 α → Prop}
    (hok : GenOK mk rel dom) (hrefl : ∀ p, dom p → rel p p = true) (P : List (V3 α)) (U : List (M3 α)) (hU : U.length = P.length)
    (hdom : ∀ p ∈ P, dom p) :
    ∃ st, Src.Constraints.findConstraints mk P U =
        some (st, (st.coremap.map (·.1)).map fun i => P.getD i (0, 0, 0)) ∧
      st.coremap = Partition.partRel (relI rel P) P.length (List.range P.length) ∧
      st.positions = P ∧ st.independent = [] := by
  let s0 : FCSt α :=
      { positions := P, Uijs := U, independent := Py.setRange P.length, coremap := [], pospars := [], Upars := [],
        poseqns := List.replicate P.length none, Ueqns := List.replicate P.length none,
        Uisotropy := List.replicate P.length false }
  have hinv0 : LoopInv P P.length (List.range P.length) [] s0 :=
    ⟨rfl, rfl, rfl, hU, by simp [s0], by simp [s0], by simp [s0]⟩
  obtain ⟨st, hst, hinv⟩ := outer_fold hok hrefl rfl hdom P.length 0 (by omega) (List.range P.length) [] s0 P.length hinv0
    (List.pairwise_lt_range) (fun x hx => ⟨Nat.zero_le _, List.mem_range.1 hx⟩) (by simp) (by simp)
  rw [List.nil_append] at hinv
  rw [← List.range_eq_range'] at hst
  have hkeys := partRel_keys_sublist (relI rel P) P.length (List.range P.length)
  have hsortedKeys : Py.sortedNat (st.coremap.map (·.1)) = st.coremap.map (·.1) := by
    rw [hinv.cm]
    exact sortedNat_of_lt _ (List.pairwise_lt_range.sublist hkeys)
  have hlt : ∀ i ∈ st.coremap.map (·.1), i < P.length := by
    intro i hi
    rw [hinv.cm] at hi
    exact List.mem_range.1 (hkeys.subset hi)
  have hmo : Py.mapOpt (fun i => Py.getIdx st.positions (Int.ofNat i)) (st.coremap.map (·.1)) =
      some ((st.coremap.map (·.1)).map fun i => P.getD i (0, 0, 0)) := by
    apply mapOpt_total
    intro i hi
    rw [getIdx_nat, hinv.pos, List.getD_eq_getElem?_getD, List.getElem?_eq_getElem (hlt i hi)]
    rfl
  refine ⟨st, ?_, hinv.cm, hinv.pos, hinv.ind⟩
  show ((Py.forM (List.range P.length) s0
      (Src.Constraints.findConstraints_outer mk (xyzsymbolsOf P.length) (UsymbolsOf P.length))).bind fun self =>
      (Py.mapOpt (fun i => Py.getIdx self.positions (Int.ofNat i)) (Py.sortedNat (self.coremap.map fun e => e.1))).bind
        fun corepos => some (self, corepos)) = _
  rw [hst, Option.bind_some, hsortedKeys, hmo, Option.bind_some]

/-! ### 9. `Partition.coremap` (the model of `DS.Props.C05Partition`) is this greedy partition for the relation "same orbit" -/

theorem partAux_eq_partRel (ops : List Op) (k : Int) (positions : List P3) :
    ∀ (fuel : Nat) (l : List (Nat × P3)), (∀ e ∈ l, positions[e.1]? = some e.2) →
      Partition.partAux ops k fuel l =
        Partition.partRel (fun i j => Partition.inOrbit ops k (positions.getD i (0, 0, 0)) (positions.getD j (0, 0, 0))) fuel (l.map (·.1))
  | 0, l, _ => by cases l <;> rfl
  | fuel + 1, [], _ => rfl
  | fuel + 1, (i, p) :: rest, h => by
    have hi : positions.getD i (0, 0, 0) = p := by
      rw [List.getD_eq_getElem?_getD, h (i, p) (List.mem_cons_self ..)]; rfl
    have hrest : ∀ q ∈ rest, positions.getD q.1 (0, 0, 0) = q.2 := by
      intro q hq
      rw [List.getD_eq_getElem?_getD, h q (List.mem_cons_of_mem _ hq)]; rfl
    rw [Partition.partAux_cons, List.map_cons]
    show _ = (i, i :: (rest.map (·.1)).filter _) :: Partition.partRel _ fuel ((rest.map (·.1)).filter _)
    have e1 : (rest.map (·.1)).filter (fun j => Partition.inOrbit ops k (positions.getD i (0, 0, 0)) (positions.getD j (0, 0, 0))) =
        (rest.filter fun q => Partition.inOrbit ops k p q.2).map (·.1) := by
      rw [List.filter_map]
      congr 1
      apply List.filter_congr
      intro q hq
      simp only [Function.comp, hi, hrest q hq]
    have e2 : (rest.map (·.1)).filter (fun j => !Partition.inOrbit ops k (positions.getD i (0, 0, 0)) (positions.getD j (0, 0, 0))) =
        (rest.filter fun q => !Partition.inOrbit ops k p q.2).map (·.1) := by
      rw [List.filter_map]
      congr 1
      apply List.filter_congr
      intro q hq
      simp only [Function.comp, hi, hrest q hq]
    rw [e1, e2, partAux_eq_partRel ops k positions fuel _ (fun e he => h e (List.mem_cons_of_mem _ (List.mem_filter.1 he).1))]

/-- `Partition.coremap` — the model that `DS.Props.C05Partition` proves to be the orbit partition — is `Partition.partRel` for the
relation "listed position `j` lies in the orbit of listed position `i`" -/
theorem coremap_eq_partRel (ops : List Op) (k : Int) (positions : List P3) :
    Partition.coremap ops k positions =
      Partition.partRel (fun i j => Partition.inOrbit ops k (positions.getD i (0, 0, 0)) (positions.getD j (0, 0, 0)))
        positions.length (List.range positions.length) := by
  unfold Partition.coremap
  rw [partAux_eq_partRel ops k positions]
  · congr 1
    rw [List.map_map]
    apply List.ext_getElem
    · simp
    · intro i h1 h2
      simp
  · intro e he
    obtain ⟨pi, hpi, rfl⟩ := List.mem_map.1 he
    obtain ⟨p, i⟩ := pi
    have := List.mem_zipIdx hpi
    simp only at this ⊢
    obtain ⟨_, hlt, hp⟩ := this
    simp only [Nat.zero_add, Nat.sub_zero] at hlt hp
    rw [List.getElem?_eq_getElem hlt, hp]

/-! ### 10. `positionFormulas(symbols)` / `UFormulas(symbols)`: the regular-expression substitution is the homomorphic renaming -/

/-- the pattern of `positionFormulas` is `\b[xyz]\d+` -/
theorem positionFormulas_pat_eq : Src.Constraints.positionFormulas_pat = symPat ['x', 'y', 'z'] 0 := rfl
/-- the pattern of `UFormulas` is `\bU\d\d\d+` -/
theorem UFormulas_pat_eq : Src.Constraints.UFormulas_pat = symPat ['U'] 2 := rfl

/-- a formula dictionary given by its tokens -/
def renderDict (d : List (List Char × List FTok)) : List (List Char × List Char) := d.map fun e => (e.1, renderAll e.2)

/-- the renaming of one formula dictionary -/
def renameDict (fn : List Char → Option (List Char)) (d : List (List Char × List FTok)) : Option (List (List Char × List Char)) :=
  Py.mapOpt (fun e => (Py.mapOpt (tokSub fn) e.2).map fun r => (e.1, r.flatten)) d

theorem translate_items (C : List Char) (m : Nat) (trsmbl : List (List Char × List Char)) :
    ∀ (d : List (List Char × List FTok)) (acc : List (List Char × List Char)),
      (∀ e ∈ d, WFToks C m none e.2) → (d.map (·.1)).Nodup → (∀ e ∈ d, Py.dictHas acc e.1 = false) →
      Py.forM (renderDict d) acc (Src.Constraints.translateFormulas_item (symPat C m) trsmbl) =
        (renameDict (fun s => Py.dictGet trsmbl s) d).map fun r => acc ++ r
  | [], acc, _, _, _ => by simp [renderDict, renameDict, Py.mapOpt]
  | e :: d, acc, hwf, hnd, hfresh => by
    rw [List.map_cons, List.nodup_cons] at hnd
    simp only [renderDict, List.map_cons, forM_cons, Src.Constraints.translateFormulas_item, renameDict, Py.mapOpt]
    rw [sub_tokens C m _ e.2 (hwf e (List.mem_cons_self ..))]
    cases hme : Py.mapOpt (tokSub fun s => Py.dictGet trsmbl s) e.2 with
    | none => rfl
    | some r =>
      simp only [Option.map_some, Option.bind_some]
      rw [dictSet_fresh acc e.1 _ (hfresh e (List.mem_cons_self ..))]
      have ih := translate_items C m trsmbl d (acc ++ [(e.1, r.flatten)])
        (fun e' he' => hwf e' (List.mem_cons_of_mem _ he')) hnd.2
        (fun e' he' => by
          rw [dictHas_append_ne acc e'.1 e.1 r.flatten (fun h => hnd.1 (h ▸ List.mem_map_of_mem he'))]
          exact hfresh e' (List.mem_cons_of_mem _ he'))
      simp only [renderDict, renameDict] at ih
      rw [ih]
      cases Py.mapOpt (fun e => (Py.mapOpt (tokSub fun s => Py.dictGet trsmbl s) e.2).map fun r => (e.1, r.flatten)) d <;> simp

theorem translate_all (C : List Char) (m : Nat) (trsmbl : List (List Char × List Char)) :
    ∀ (ds : List (List (List Char × List FTok))) (rv : List (List (List Char × List Char))),
      (∀ d ∈ ds, (∀ e ∈ d, WFToks C m none e.2) ∧ (d.map (·.1)).Nodup) →
      Py.forM (ds.map renderDict) rv (Src.Constraints.translateFormulas_eqns (symPat C m) trsmbl) =
        (Py.mapOpt (renameDict fun s => Py.dictGet trsmbl s) ds).map fun r => rv ++ r
  | [], rv, _ => by simp [Py.mapOpt]
  | d :: ds, rv, h => by
    obtain ⟨hwf, hnd⟩ := h d (List.mem_cons_self ..)
    simp only [List.map_cons, forM_cons, Src.Constraints.translateFormulas_eqns, Py.mapOpt]
    rw [translate_items C m trsmbl d [] hwf hnd (fun _ _ => rfl)]
    cases renameDict (fun s => Py.dictGet trsmbl s) d with
    | none => rfl
    | some r =>
      simp only [Option.map_some, Option.bind_some, List.nil_append]
      rw [translate_all C m trsmbl ds _ (fun d' hd' => h d' (List.mem_cons_of_mem _ hd'))]
      cases Py.mapOpt (renameDict fun s => Py.dictGet trsmbl s) ds <;> simp

/-- the common body of `positionFormulas` / `UFormulas` for a pattern `symPat C m` -/
theorem translateFormulas_eq (C : List Char) (m : Nat) (ds : List (List (List Char × List FTok))) (pars custom : List (List Char))
    (hne : custom ≠ []) (hnd : pars.Nodup) (hwf : ∀ d ∈ ds, (∀ e ∈ d, WFToks C m none e.2) ∧ (d.map (·.1)).Nodup) :
    (if custom.isEmpty = true then some (some (ds.map renderDict)) else
      if custom.length < pars.length then none else
      some (Py.forM (ds.map renderDict) [] (Src.Constraints.translateFormulas_eqns (symPat C m) (Py.dictZip pars custom)))) =
      if custom.length < pars.length then none
      else some (Py.mapOpt (renameDict fun s => Py.dictGet (pars.zip custom) s) ds) := by
  rw [if_neg (by simpa using hne), dictZip_nodup pars custom hnd, translate_all _ _ _ ds [] hwf]
  cases Py.mapOpt (renameDict fun s => Py.dictGet (pars.zip custom) s) ds <;> rfl

/-- **`positionFormulas(xyzsymbols)`.**  For formula strings made of literal text without the letters `x y z` and parameter
symbols `<letter><index>` (each after a non-word character and before a non-digit) and distinct parameter symbols `pars`, the call
with at least as many caller symbols returns every dictionary with each parameter symbol replaced by the caller's symbol at the
position of exactly that (letter, index) pair in `pars` (`translation_exact`), all other text unchanged; `KeyError` (`some none`)
iff a symbol of a formula is not a parameter; `SymmetryError` (`none`) iff there are fewer caller symbols than parameters. -/
theorem positionFormulas_eq (ds : List (List (List Char × List FTok))) (pars custom : List (List Char))
    (hne : custom ≠ []) (hnd : pars.Nodup)
    (hwf : ∀ d ∈ ds, (∀ e ∈ d, WFToks ['x', 'y', 'z'] 0 none e.2) ∧ (d.map (·.1)).Nodup) :
    Src.Constraints.positionFormulas (ds.map renderDict) pars custom =
      if custom.length < pars.length then none
      else some (Py.mapOpt (renameDict fun s => Py.dictGet (pars.zip custom) s) ds) :=
  translateFormulas_eq ['x', 'y', 'z'] 0 ds pars custom hne hnd hwf

/-- **`UFormulas(Usymbols)`**: the same for the symbols `U<jk><index>` (pattern `\bU\d\d\d+`) -/
theorem UFormulas_sub_eq (ds : List (List (List Char × List FTok))) (pars custom : List (List Char))
    (hne : custom ≠ []) (hnd : pars.Nodup)
    (hwf : ∀ d ∈ ds, (∀ e ∈ d, WFToks ['U'] 2 none e.2) ∧ (d.map (·.1)).Nodup) :
    Src.Constraints.UFormulas (ds.map renderDict) pars custom =
      if custom.length < pars.length then none
      else some (Py.mapOpt (renameDict fun s => Py.dictGet (pars.zip custom) s) ds) :=
  translateFormulas_eq ['U'] 2 ds pars custom hne hnd hwf

/-- the translation dictionary sends the `i`-th parameter symbol to the `i`-th caller symbol — and to nothing else: two
parameter symbols with the same letters are equal only if their indices are (`symKey_inj`: `x1` is not a prefix case of `x10`) -/
theorem translation_exact (pars custom : List (List Char)) (hnd : pars.Nodup) (i : Nat) (hi : i < pars.length)
    (hc : i < custom.length) : Py.dictGet (pars.zip custom) pars[i] = some custom[i] :=
  dictGet_zip pars custom hnd i hi hc

theorem parSymbols_inj (c c' : Char) (i i' : Nat) (h : [c] ++ Py.strNat i = [c'] ++ Py.strNat i') : c = c' ∧ i = i' := by
  obtain ⟨h1, h2⟩ := symKey_inj [c] [c'] i i' rfl h
  exact ⟨by simpa using h1, h2⟩

theorem UparSymbols_inj (s s' : List Char) (i i' : Nat) (hs : s.length = 3) (hs' : s'.length = 3)
    (h : s ++ Py.strNat i = s' ++ Py.strNat i') : s = s' ∧ i = i' :=
  symKey_inj s s' i i' (by omega) h

/-! ### 11. `signedRatStr`: the fraction that is printed is within `eps / den` of the value -/

/-- the integer `x.round()` (ties to even) -/
def roundZ (x : ℚ) : Int :=
  let f := ⌊x⌋
  let d := x - (f : ℚ)
  if d < (0.5 : ℚ) then f else if (0.5 : ℚ) < d then f + 1 else if f % 2 = 0 then f else f + 1

theorem roundS_eq (x : ℚ) : Np.roundS x = ((roundZ x : Int) : ℚ) := by
  have hfl : FloorOrd.floor x = ⌊x⌋ := rfl
  unfold Np.roundS roundZ
  simp only [hfl]
  split_ifs <;> rfl

theorem roundZ_close (x : ℚ) : |x - (roundZ x : ℚ)| ≤ 1 / 2 := by
  have e : (0.5 : ℚ) = 1 / 2 := by norm_num
  -- rounding goes down when the fractional part is at most 1/2 and up when it is at least 1/2
  have hr : roundZ x = ⌊x⌋ ∧ x - ⌊x⌋ ≤ 1 / 2 ∨ roundZ x = ⌊x⌋ + 1 ∧ 1 / 2 ≤ x - ⌊x⌋ := by
    unfold roundZ
    simp only [e]
    split_ifs with a b c
    · exact Or.inl ⟨rfl, a.le⟩
    · exact Or.inr ⟨rfl, b.le⟩
    · exact Or.inl ⟨rfl, not_lt.1 b⟩
    · exact Or.inr ⟨rfl, not_lt.1 a⟩
  rcases hr with ⟨hz, hd⟩ | ⟨hz, hd⟩
  · rw [hz, abs_of_nonneg (sub_nonneg.2 (Int.floor_le x))]
    exact hd
  · rw [hz, Int.cast_add, Int.cast_one, abs_sub_comm, abs_of_nonneg (sub_nonneg.2 (Int.lt_floor_add_one x).le)]
    linarith

/-- the first denominator among 3, 6, 7, 9 for which `x * den` is within `eps` of an integer -/
def firstDen (eps x : ℚ) : Option ℚ :=
  ([3, 6, 7, 9] : List ℚ).find? fun d => decide (|x * d - (roundZ (x * d) : ℚ)| < eps)

theorem whereL_head (m : List Bool) : (Np.whereL m).head? = (if m.idxOf true < m.length then some (m.idxOf true) else none) := by
  rw [whereL_eq]
  have key : ∀ (s : Nat) (m : List Bool), (whereFrom s m).head? = if m.idxOf true < m.length then some (s + m.idxOf true) else none := by
    intro s m
    induction m generalizing s with
    | nil => rfl
    | cons b m ih =>
      rw [whereFrom_cons]
      cases b with
      | true => simp
      | false =>
        simp only [Bool.false_eq_true, if_false, List.nil_append, ih, List.idxOf_cons_ne _ (by decide : false ≠ true),
          List.length_cons, Nat.succ_lt_succ_iff]
        split <;> simp; omega
  simpa using key 0 m

/-- **`signedRatStr`**: `"%+g" % x` for a short decimal (`len("{:.8g}".format(x)) < 6`) or when no denominator fits; otherwise
`"%+.0f/%.0f" % (x·den, den)` for the FIRST `den` among 3, 6, 7, 9 with `|x·den − round(x·den)| < eps` -/
theorem signedRatStr_eq (short8g : ℚ → Bool) (eps x : ℚ) :
    Src.Constraints.signedRatStr short8g eps x =
      some (if short8g x = true then Sum.inl x else
        match firstDen eps x with
        | none => Sum.inl x
        | some d => Sum.inr (x * d, d)) := by
  unfold Src.Constraints.signedRatStr
  by_cases hs : short8g x = true
  · rw [if_pos hs, if_pos hs]
  · rw [if_neg hs, if_neg hs]
    have e3 : (3.0 : ℚ) = 3 := by norm_num
    have e6 : (6.0 : ℚ) = 6 := by norm_num
    have e7 : (7.0 : ℚ) = 7 := by norm_num
    have e9 : (9.0 : ℚ) = 9 := by norm_num
    simp only [e3, e6, e7, e9, List.map_cons, List.map_nil, List.zipWith_cons_cons, List.zipWith_nil_right, roundS_eq, absS_eq,
      firstDen, List.find?_cons, List.find?_nil]
    -- both sides depend on `x` through the four tests only, and the first test that holds decides
    generalize decide (|x * 3 - (roundZ (x * 3) : ℚ)| < eps) = b3
    generalize decide (|x * 6 - (roundZ (x * 6) : ℚ)| < eps) = b6
    generalize decide (|x * 7 - (roundZ (x * 7) : ℚ)| < eps) = b7
    generalize decide (|x * 9 - (roundZ (x * 9) : ℚ)| < eps) = b9
    cases b3
    · cases b6
      · cases b7
        · cases b9 <;> rfl
        · rfl
      · rfl
    · rfl

/-- `"%+.0f/%.0f" % (n, d)` for an integer-valued `n` and a positive integer `d` -/
def fmtFrac (z : Int) (d : Nat) : List Char :=
  (if z < 0 then '-' else '+') :: (Dec.natDigits z.natAbs ++ '/' :: Dec.natDigits d)

/-- the constant term of the formula parser of the harness (`harness/symcommon.py`, `parse_linear`): sign, digits, `/`, digits -/
def parseFrac (s : List Char) : Option ℚ :=
  match s with
  | [] => none
  | sgn :: rest =>
    if sgn = '+' ∨ sgn = '-' then
      let a := Rx.takeDigits rest
      match a.2 with
      | '/' :: r2 =>
        let b := Rx.takeDigits r2
        if a.1 ≠ [] ∧ b.1 ≠ [] ∧ b.2 = [] then
          some ((if sgn = '-' then -1 else 1) * (Dec.numOf a.1 : ℚ) / (Dec.numOf b.1 : ℚ))
        else none
      | _ => none
    else none

theorem parseFrac_fmtFrac (z : Int) (d : Nat) : parseFrac (fmtFrac z d) = some ((z : ℚ) / (d : ℚ)) := by
  unfold parseFrac fmtFrac
  have h1 : Rx.takeDigits (Dec.natDigits z.natAbs ++ '/' :: Dec.natDigits d) = (Dec.natDigits z.natAbs, '/' :: Dec.natDigits d) :=
    takeDigits_all _ _ (Dec.allDigits_natDigits _) rfl
  have h2 : Rx.takeDigits (Dec.natDigits d) = (Dec.natDigits d, []) := by
    have := takeDigits_all (Dec.natDigits d) [] (Dec.allDigits_natDigits _) rfl
    simpa using this
  by_cases hz : z < 0
  · simp only [hz, if_true, or_true, h1, h2, ne_eq, Dec.natDigits_ne_nil, not_false_eq_true, and_self, Dec.numOf_natDigits]
    have : ((z.natAbs : Nat) : ℚ) = -(z : ℚ) := by
      rw [Nat.cast_natAbs, Int.cast_abs, abs_of_neg (Int.cast_lt_zero.2 hz)]
    rw [this]; congr 1; ring
  · simp only [hz, if_false, true_or, h1, h2, ne_eq, Dec.natDigits_ne_nil, not_false_eq_true, and_self, Dec.numOf_natDigits]
    have : ((z.natAbs : Nat) : ℚ) = (z : ℚ) := by
      rw [Nat.cast_natAbs, Int.cast_abs, abs_of_nonneg (Int.cast_nonneg (not_lt.1 hz))]
    rw [this]
    simp

/-- **the printed fraction parses back to the value within the tolerance**: when `signedRatStr` chooses the fraction branch
`(n, den)`, the string `"%+.0f/%.0f"` (= `fmtFrac (round n) den`) is read by the parser as `round(n)/den`, which differs from
`x` by less than `eps / den` (`den ∈ {3, 6, 7, 9}`) -/
theorem signedRatStr_parses (short8g : ℚ → Bool) (eps x n d : ℚ)
    (h : Src.Constraints.signedRatStr short8g eps x = some (Sum.inr (n, d))) :
    ∃ dn : Nat, dn ∈ [3, 6, 7, 9] ∧ d = (dn : ℚ) ∧ n = x * d ∧
      parseFrac (fmtFrac (roundZ n) dn) = some ((roundZ n : ℚ) / d) ∧ |x - (roundZ n : ℚ) / d| < eps / d := by
  rw [signedRatStr_eq] at h
  by_cases hs : short8g x = true
  · simp [hs] at h
  · simp only [hs, Bool.false_eq_true, if_false, Option.some.injEq] at h
    cases hf : firstDen eps x with
    | none => simp [hf] at h
    | some d' =>
      simp only [hf, Sum.inr.injEq, Prod.mk.injEq] at h
      obtain ⟨hn, hd⟩ := h
      subst hd
      have hmem := List.mem_of_find?_eq_some hf
      have hp := List.find?_some hf
      simp only [decide_eq_true_eq] at hp
      have hcases : ∃ dn : Nat, dn ∈ [3, 6, 7, 9] ∧ d' = (dn : ℚ) := by
        simp only [List.mem_cons, List.not_mem_nil, or_false] at hmem
        rcases hmem with rfl | rfl | rfl | rfl
        · exact ⟨3, by decide, by norm_num⟩
        · exact ⟨6, by decide, by norm_num⟩
        · exact ⟨7, by decide, by norm_num⟩
        · exact ⟨9, by decide, by norm_num⟩
      obtain ⟨dn, hdn, hdd⟩ := hcases
      have hpos : (0 : ℚ) < d' := by
        simp only [List.mem_cons, List.not_mem_nil, or_false] at hdn
        rcases hdn with rfl | rfl | rfl | rfl <;> (rw [hdd]; norm_num)
      refine ⟨dn, hdn, hdd, hn.symm, ?_, ?_⟩
      · rw [parseFrac_fmtFrac, hdd]
      · rw [← hn]
        have : x - (roundZ (x * d') : ℚ) / d' = (x * d' - (roundZ (x * d') : ℚ)) / d' := by
          field_simp
        rw [this, abs_div, abs_of_pos hpos]
        exact div_lt_div_of_pos_right hp hpos

/-! ### 12. `GeneratorSite.__init__`: snapping of the site onto its special position -/

/-- `d − d.round()` -/
def centreV (v : V3 α) : V3 α := Np.sub v (Np.round v)

/-- `numpy.mean(dxyz − dxyz.round(), axis=0)` with `dxyz = [op(xyz + sgoffset) − sgoffset for op in invariants] − xyz` -/
def snapDeltaG (inv : List (SymOp α)) (xyz off : V3 α) : V3 α :=
  Np.mean0 (inv.map fun op => centreV (Np.sub (Np.sub (Src.Sym.symopCall op (Np.add xyz off)) off) xyz))

/-- `self.xyz[numpy.fabs(self.xyz) < self.eps] = 0.0` -/
def zeroSmallG (eps : α) (v : V3 α) : V3 α := Np.assignMask v (Np.lt (Np.fabs v) (Np.fill eps)) (Np.fill (0.0 : α))

theorem zipWith_sub_map_round (l : List (V3 α)) : List.zipWith Np.sub l (l.map Np.round) = l.map centreV := by
  induction l with
  | nil => rfl
  | cons x xs ih => simp [ih, centreV]

/-- **the snapping step, as written**: expand; find the site-symmetry operations; if the multiplicity is above 1 and the mean
of `d − round(d)` over them is not exactly zero: move the site by that mean, set coordinates smaller than `eps` in size to zero,
expand and find the invariants AGAIN with the moved site; otherwise keep everything -/
theorem snapSite_shape (sg : List (SymOp α)) (xyz off : V3 α) (eps : α) :
    Src.Constraints.snapSite sg xyz off eps =
      (Src.Sym.expandPosition sg xyz off eps).bind fun r =>
      (Src.Constraints.findInvariants r.2.1).bind fun inv =>
      if r.2.2 > 1 ∧ Np.any (Np.ne (snapDeltaG inv xyz off) (Np.fill (0.0 : α))) = true then
        (Src.Sym.expandPosition sg (zeroSmallG eps (Np.add xyz (snapDeltaG inv xyz off))) off eps).bind fun r' =>
        (Src.Constraints.findInvariants r'.2.1).bind fun inv' =>
        some (zeroSmallG eps (Np.add xyz (snapDeltaG inv xyz off)), r'.1, r'.2.1, r'.2.2, inv')
      else some (xyz, r.1, r.2.1, r.2.2, inv) := by
  unfold Src.Constraints.snapSite
  cases Src.Sym.expandPosition sg xyz off eps with
  | none => rfl
  | some r =>
    simp only [Option.bind_some]
    cases Src.Constraints.findInvariants r.2.1 with
    | none => rfl
    | some inv =>
      simp only [Option.bind_some, zipWith_sub_map_round]
      simp only [List.map_map]
      have hd : Np.mean0 (inv.map (centreV ∘ (fun row => Np.sub row xyz) ∘ fun op =>
          Np.sub (Src.Sym.symopCall op (Np.add xyz off)) off)) = snapDeltaG inv xyz off := rfl
      rw [hd]
      by_cases hm : r.2.2 > 1
      · simp only [hm, if_true, true_and]
        rfl
      · simp only [hm, if_false, false_and]


/-- the image of `x` before it is folded into the cell: `a(x + off) − off` in units of `1/D` -/
def rawImg (a : Op) (k : Int) (off x : P3) : P3 :=
  (a.r11 * (x.1 + off.1) + a.r12 * (x.2.1 + off.2.1) + a.r13 * (x.2.2 + off.2.2) + k * a.t1 - off.1,
   a.r21 * (x.1 + off.1) + a.r22 * (x.2.1 + off.2.1) + a.r23 * (x.2.2 + off.2.2) + k * a.t2 - off.2.1,
   a.r31 * (x.1 + off.1) + a.r32 * (x.2.1 + off.2.1) + a.r33 * (x.2.2 + off.2.2) + k * a.t3 - off.2.2)

theorem img_eq_raw (a : Op) (k : Int) (off x : P3) : Orbit.img a k off x = Orbit.red k (rawImg a k off x) := rfl

theorem raw_refines {k : Int} (hk : 0 < k) (a : Op) (off x : P3) :
    Np.sub (Src.Sym.symopCall (toSym a) (Np.add (castP k x) (castP k off))) (castP k off) =
      (castP k (rawImg a k off x) : V3 α) := by
  obtain ⟨x1, x2, x3⟩ := x
  obtain ⟨o1, o2, o3⟩ := off
  rw [DS.Props.SrcSym.symopCall_shape]
  simp only [Np.map3, Np.sub, Np.add, Np.dot, Np.dotRow, Np.zip3, toSym, castP, sc_add, sc_mul, sc_t hk, sc_sub, rawImg]

theorem roundS_int (m : Int) : Np.roundS ((m : Int) : α) = (m : α) := by
  have hfl : FloorOrd.floor ((m : Int) : α) = m := Int.floor_intCast m
  have h5 : (0 : α) < (0.5 : α) := by norm_num
  unfold Np.roundS
  simp only [hfl, sub_self, h5, if_true]

theorem sc_mul_D {k : Int} (hk : 0 < k) (m : Int) : (sc k (24 * k * m) : α) = (m : α) := by
  unfold sc
  have := ne_of_gt (D_pos (α := α) hk)
  push_cast at this ⊢
  field_simp

/-- a displacement by a lattice vector is removed completely by `d − round(d)` -/
theorem centre_lattice {k : Int} (hk : 0 < k) (y x : P3)
    (h : Orbit.red k y = Orbit.red k x) : centreV (Np.sub (castP k y : V3 α) (castP k x)) = ((0 : α), (0 : α), (0 : α)) := by
  obtain ⟨y1, y2, y3⟩ := y
  obtain ⟨x1, x2, x3⟩ := x
  simp only [Orbit.red, Prod.mk.injEq] at h
  obtain ⟨h1, h2, h3⟩ := h
  have key : ∀ u v : Int, u % (24 * k) = v % (24 * k) → ∃ m : Int, u - v = 24 * k * m := by
    intro u v huv
    exact ⟨(u - v) / (24 * k), by
      have := Int.emod_emod_of_dvd u (dvd_refl (24 * k))
      have hd : (24 * k) ∣ (u - v) := Int.dvd_of_emod_eq_zero (by rw [Int.sub_emod, huv, sub_self]; simp)
      rw [Int.mul_ediv_cancel' hd]⟩
  obtain ⟨m1, e1⟩ := key _ _ h1
  obtain ⟨m2, e2⟩ := key _ _ h2
  obtain ⟨m3, e3⟩ := key _ _ h3
  simp only [centreV, Np.sub, Np.round, Np.zip3, Np.map3, castP, sc_sub, e1, e2, e3, sc_mul_D hk, roundS_int, sub_self]

theorem mean0_zero (n : Nat) : Np.mean0 (List.replicate n ((0 : α), (0 : α), (0 : α))) = ((0 : α), (0 : α), (0 : α)) := by
  have : ∀ (n : Nat), (List.replicate n ((0 : α), (0 : α), (0 : α))).foldl Np.add (Np.fill 0) = ((0 : α), (0 : α), (0 : α)) := by
    intro n
    induction n with
    | zero => rfl
    | succ n ih =>
      rw [List.replicate_succ, List.foldl_cons]
      have : Np.add (Np.fill (0 : α)) ((0 : α), (0 : α), (0 : α)) = Np.fill 0 := by
        simp [Np.add, Np.fill, Np.zip3]
      rw [this, ih]
  simp only [Np.mean0, this, Np.map3, zero_div]

/-- **a site that lies exactly on its special position is not moved**: if every operation of the class of the identity maps
`x` onto itself modulo lattice translations, `GeneratorSite.__init__` keeps `xyz` and the first expansion
(`Orbit.result`, by `DS.Props.SrcSym.refines`) -/
theorem snapSite_exact (ops : List Op) {k E : Int} (hk : 0 < k) (hE : 0 < E) (off x : P3) (cls0 : List Op)
    (hinv : (Orbit.result ops k E off x).2.1.find? (fun c => c.any fun a => isIdOp (toSym a : SymOp α)) = some cls0)
    (hexact : ∀ a ∈ cls0, Orbit.img a k off x = Orbit.red k x) :
    Src.Constraints.snapSite (ops.map (toSym (α := α))) (castP k x) (castP k off) (sc k E) =
      some (castP k x, (Orbit.result ops k E off x).1.map (castP k), (Orbit.result ops k E off x).2.1.map (List.map toSym),
        (Orbit.result ops k E off x).2.2, cls0.map toSym) := by
  rw [snapSite_shape, DS.Props.SrcSym.refines ops hk hE off x]
  simp only [Option.bind_some, castResult, findInvariants_eq]
  have hfind : ((Orbit.result ops k E off x).2.1.map (List.map (toSym (α := α)))).find? (fun c => c.any isIdOp) =
      some (cls0.map toSym) := by
    rw [List.find?_map]
    have : ((fun c : List (SymOp α) => c.any isIdOp) ∘ List.map (toSym (α := α))) =
        fun c : List Op => c.any fun a => isIdOp (toSym a : SymOp α) := by
      funext c; simp [List.any_map, Function.comp_def]
    rw [this, hinv]; rfl
  rw [hfind]
  simp only [Option.bind_some]
  have hdelta : snapDeltaG (cls0.map (toSym (α := α))) (castP k x) (castP k off) = ((0 : α), (0 : α), (0 : α)) := by
    unfold snapDeltaG
    rw [List.map_map]
    have : (cls0.map ((fun op : SymOp α => centreV (Np.sub (Np.sub (Src.Sym.symopCall op (Np.add (castP k x) (castP k off)))
        (castP k off)) (castP k x))) ∘ toSym)) = List.replicate cls0.length ((0 : α), (0 : α), (0 : α)) := by
      apply List.ext_getElem
      · simp
      · intro i h1 h2
        have hi : i < cls0.length := by simpa using h2
        simp only [List.getElem_map, List.getElem_replicate, Function.comp]
        rw [raw_refines hk]
        apply centre_lattice hk
        have ha := hexact cls0[i] (List.getElem_mem hi)
        rw [img_eq_raw] at ha
        have hrr : ∀ y : P3, Orbit.red k (Orbit.red k y) = Orbit.red k y := by
          intro y; simp [Orbit.red, Int.emod_emod_of_dvd _ (dvd_refl _)]
        rw [← hrr, ha, hrr]
    rw [this, mean0_zero]
  have h0 : (0.0 : α) = 0 := by norm_num
  have hany : Np.any (Np.ne ((0 : α), (0 : α), (0 : α)) (Np.fill (0.0 : α))) = false := by
    simp [Np.any, Np.ne, Np.fill, Np.zip3, h0]
  rw [hdelta, hany]
  simp

/-! ### 13. the rest of `GeneratorSite.__init__`, `eqIndex`, `ExpandAsymmetricUnit.__init__`, `pruneFormulaDictionary` -/

/-- **`GeneratorSite.__init__` after the snapping**: `_findNullSpace` and `_findUSpace` see the invariants of the ADJUSTED site,
`_findPosParameters` expresses the ADJUSTED `self.xyz`, `_findUParameters` projects the tensor the caller gave, `_findeqUij` uses the
operation lists of the adjusted expansion; `Uisotropy` is `len(Uspace) == 1` -/
theorem generatorSiteInit_eq (sg : List (SymOp α)) (fns : List (SymOp α) → List (V3 α)) (fus : List (SymOp α) → List (M3 α))
    (xyz : V3 α) (Uij : M3 α) (off : V3 α) (eps : α) :
    Src.Constraints.generatorSiteInit sg fns fus xyz Uij off eps =
      (Src.Constraints.snapSite sg xyz off eps).bind fun s =>
      (Src.Constraints.findPosParameters (fns s.2.2.2.2) s.1).bind fun pp =>
      (Src.Constraints.findUParameters (fus s.2.2.2.2) Uij).bind fun up =>
      (Src.Constraints.findeqUij (fus s.2.2.2.2) up s.2.2.1).bind fun u =>
      some { xyz := s.1, Uij := u.1, sgoffset := off, eps := eps, eqxyz := s.2.1, eqUij := u.2, symops := s.2.2.1,
             multiplicity := s.2.2.2.1, Uisotropy := decide ((fus s.2.2.2.2).length = 1), invariants := s.2.2.2.2,
             null_space := fns s.2.2.2.2, Uspace := fus s.2.2.2.2, pparameters := pp, Uparameters := up } := rfl

theorem eqIndex_eq (g : GenSite α) (pos : V3 α) :
    Src.Constraints.eqIndex g pos = Src.Sym.nearestSiteIndex g.eqxyz pos := rfl

/-- **`ExpandAsymmetricUnit.__init__`**: every listed site is expanded on its own, with its own tensor (zeros when no tensors are
given), in listing order; an exception of any site aborts -/
theorem expandAsymmetricUnit_eq (mk : V3 α → M3 α → Option (GenSite α)) (corepos : List (V3 α)) (coreUijs : Option (List (M3 α))) :
    Src.Constraints.expandAsymmetricUnit mk corepos coreUijs =
      (Py.mapOpt (fun e : V3 α × M3 α => mk e.1 e.2)
        (corepos.zip (if Py.truthyOL coreUijs = true then coreUijs.getD [] else List.replicate corepos.length Np.zerosM))).map
        fun gens => (gens.map (·.multiplicity), gens.map (·.Uisotropy), gens.map (·.eqxyz), gens.map (·.eqUij)) := by
  have hfold : ∀ (gens : List (GenSite α)) (st : List Nat × List Bool × List (List (V3 α)) × List (List (M3 α))),
      gens.foldl (fun st gen => (st.1 ++ [gen.multiplicity], st.2.1 ++ [gen.Uisotropy], st.2.2.1 ++ [gen.eqxyz],
          st.2.2.2 ++ [gen.eqUij])) st =
        (st.1 ++ gens.map (·.multiplicity), st.2.1 ++ gens.map (·.Uisotropy), st.2.2.1 ++ gens.map (·.eqxyz),
          st.2.2.2 ++ gens.map (·.eqUij)) := by
    intro gens
    induction gens with
    | nil => intro st; simp
    | cons g gens ih => intro st; rw [List.foldl_cons, ih]; simp
  unfold Src.Constraints.expandAsymmetricUnit
  rw [show Src.Constraints.expandAsymmetricUnit_body mk = fun st e => (mk e.1 e.2).bind fun gen =>
      some (st.1 ++ [gen.multiplicity], st.2.1 ++ [gen.Uisotropy], st.2.2.1 ++ [gen.eqxyz], st.2.2.2 ++ [gen.eqUij]) from rfl,
    forM_bind_mapOpt]
  simp only [hfold, List.nil_append]

/-- **`pruneFormulaDictionary`** keeps, in order, exactly the entries whose formula is not constant (distinct keys) -/
theorem pruneFormulaDictionary_eq {β : Type} (isconst : β → Bool) (d : List (List Char × β)) (hnd : (d.map (·.1)).Nodup) :
    Src.Constraints.pruneFormulaDictionary isconst d = d.filter fun e => !isconst e.2 := by
  unfold Src.Constraints.pruneFormulaDictionary
  rw [← List.foldl_filter, dictFold_fresh _ [] ((List.filter_sublist.map _).nodup hnd) (fun _ _ => rfl), List.nil_append]

theorem roundQ_eq (x : ℚ) : Con.roundQ x = Np.roundS x := by
  have e : (0.5 : ℚ) = 1 / 2 := by norm_num
  unfold Con.roundQ Np.roundS
  simp only [e]
  rfl


theorem toVec_centre (v : V3 ℚ) : toVec (centreV v) = Con.centre (toVec v) := by
  obtain ⟨v1, v2, v3⟩ := v
  simp only [centreV, Np.sub, Np.round, Np.zip3, Np.map3, toVec, Con.centre, roundQ_eq]

theorem toVec_image (op : SymOp ℚ) (x off : V3 ℚ) :
    toVec (Np.sub (Np.sub (Src.Sym.symopCall op (Np.add x off)) off) x) =
      ((((toMat op.R).mulVec ((toVec x).add (toVec off))).add (toVec op.t)).sub (toVec off)).sub (toVec x) := by
  obtain ⟨⟨⟨a1, a2, a3⟩, ⟨a4, a5, a6⟩, ⟨a7, a8, a9⟩⟩, ⟨t1, t2, t3⟩⟩ := op
  obtain ⟨x1, x2, x3⟩ := x
  obtain ⟨o1, o2, o3⟩ := off
  rfl

/-- **the snapping displacement** of the source, over ℚ, is the model `Con.snapDelta`: the mean over the site-symmetry operations
`(R, t)` of `d − round(d)`, `d = R (x + off) + t − off − x` -/
theorem snapDelta_eq (inv : List (SymOp ℚ)) (x off : V3 ℚ) :
    toVec (snapDeltaG inv x off) = Con.snapDelta (inv.map fun op => (toMat op.R, toVec op.t)) (toVec off) (toVec x) := by
  unfold snapDeltaG Con.snapDelta Np.mean0
  have key : ∀ (l : List (SymOp ℚ)) (acc : V3 ℚ),
      toVec ((l.map fun op => centreV (Np.sub (Np.sub (Src.Sym.symopCall op (Np.add x off)) off) x)).foldl Np.add acc) =
        (l.map fun op => (toMat op.R, toVec op.t)).foldl (fun s h => s.add (Con.centre
          ((((h.1.mulVec ((toVec x).add (toVec off))).add h.2).sub (toVec off)).sub (toVec x)))) (toVec acc) := by
    intro l
    induction l with
    | nil => intro acc; rfl
    | cons op l ih =>
      intro acc
      rw [List.map_cons, List.foldl_cons, ih, List.map_cons, List.foldl_cons]
      congr 1
      show toVec (Np.add acc _) = (toVec acc).add _
      rw [← toVec_image, ← toVec_centre]
      rfl
  have h0 : toVec (Np.fill (0 : ℚ)) = (Vec3.zero : Vec3 ℚ) := rfl
  rw [← h0, ← key inv (Np.fill 0)]
  generalize (inv.map fun op => centreV (Np.sub (Np.sub (Src.Sym.symopCall op (Np.add x off)) off) x)).foldl Np.add (Np.fill 0) = S
  obtain ⟨s1, s2, s3⟩ := S
  simp only [Np.map3, toVec, Vec3.smul, List.length_map, Int.cast_natCast]
  congr 1 <;> ring

/-! ### 14. what is kept as text; non-vacuity of the conditional theorems -/

/-- the statements of the source that are recorded as text: declarations of the attributes (initial values `[]`, `{}`,
`numpos * [None]` that the definitions above start from), the default `eps`, how the formula pieces are printed
(`"%s*%s " % (signedRatStr(c), symbol)`, `"%+g*%s"`, the final `re.sub`/`strip`, `""` -> `"0"`), the `%+g` fallback and the
short-decimal test of `signedRatStr`, and `isconstantFormula` with its regular expression -/
theorem facts_eq : Src.Constraints.facts = [
    ("ExpandAsymmetricUnit.__init__ declarations", "if eps is None:     eps = epsilon; self.spacegroup = spacegroup; self.corepos = corepos; self.coreUijs = None; self.sgoffset = numpy.array(sgoffset); self.eps = eps; self.multiplicity = []; self.Uisotropy = []; self.expandedpos = []; self.expandedUijs = []"),
    ("GeneratorSite.__init__ declarations", "self.xyz = numpy.array(xyz, dtype=float); self.Uij = numpy.array(Uij, dtype=float); self.sgoffset = numpy.array(sgoffset, dtype=float); self.eps = eps; self.eqxyz = []; self.eqUij = []; self.symops = None; self.multiplicity = None; self.Uisotropy = False; self.invariants = []; self.null_space = None; self.Uspace = None; self.pparameters = []; self.Uparameters = []"),
    ("GeneratorSite.__init__ default eps", "if eps is None: eps = epsilon"),
    ("SymmetryConstraints.__init__ declarations", "if eps is None:     eps = epsilon; self.spacegroup = spacegroup; self.positions = None; self.Uijs = None; self.sgoffset = numpy.array(sgoffset); self.eps = eps; self.corepos = []; self.coremap = {}; self.poseqns = None; self.pospars = []; self.Ueqns = None; self.Upars = []; self.Uisotropy = None"),
    ("SymmetryConstraints.__init__ positions", "if len(positions) and isinstance(positions[0], list): flatpos = sum(positions, []) flatpos = numpy.array(flatpos, dtype=float).flatten() self.positions = flatpos.reshape((-1, 3)) else: flatpos = numpy.array(positions, dtype=float).flatten() self.positions = flatpos.reshape((-1, 3))"),
    ("SymmetryConstraints.__init__ tail", "numpos = len(self.positions); if Uijs is not None:     self.Uijs = numpy.array(Uijs, dtype=float) else:     self.Uijs = numpy.zeros((numpos, 3, 3), dtype=float); self.poseqns = numpos * [None]; self.Ueqns = numpos * [None]; self.Uisotropy = numpos * [False]; self._findConstraints(); return"),
    ("UFormula clean-up", "for smbl, f in Uformula.items(): if not f: f = '0'; f = re.sub('^[+]?1[*]|^[+](?=\\d)|(?<=[+-])1[*]', '', f).strip(); Uformula[smbl] = f"),
    ("UFormula term format", "f = '%+g*%s' % (Usrflat[i], name2sym[vname]); Uformula[smbl] += f"),
    ("_rx_constant_formula", "[-+]?(\\d+(\\.\\d*)?|\\.\\d+)([eE][-+]?\\d+)??(/[-+]?\\d+)?$"),
    ("isconstantFormula", "res = _rx_constant_formula.match(s.replace(' ', '')); return bool(res)"),
    ("positionFormula clean-up", "xyzformula = [re.sub('^[+]1[*]|(?<=[+-])1[*]', '', f).strip() for f in xyzformula]"),
    ("positionFormula term format", "xyzformula[i] += '%s*%s ' % (self.signedRatStr(coefficient), name2sym[vname])"),
    ("signedRatStr fallback", "return '%+g' % x"),
    ("signedRatStr fraction format", "return '%+.0f/%.0f' % (nom[idx[0]], den[idx[0]])"),
    ("signedRatStr short decimals", "s = '{:.8g}'.format(x); if len(s) < 6: return '%+g' % x")] := rfl

/-! #### examples -/

/-- `x ↦ −x` -/
def invOp : Op := ⟨-1, 0, 0, 0, -1, 0, 0, 0, -1, 0, 0, 0⟩

-- `_findInvariants`: the class that contains the identity is found, wherever the identity stands in it
theorem isIdOp_one : isIdOp (toSym Op.one : SymOp ℚ) = true := by
  simp [isIdOp, Np.allM, Np.eqM, Np.all, Np.eq, Np.zipM3, Np.zip3, Np.identity3, Np.zeros3, toSym, Op.one]
  norm_num
theorem isIdOp_iff (a : Op) : isIdOp (toSym a : SymOp ℚ) = true ↔ a = Op.one := by
  constructor
  · intro h
    obtain ⟨r11, r12, r13, r21, r22, r23, r31, r32, r33, t1, t2, t3⟩ := a
    simp [isIdOp, Np.allM, Np.eqM, Np.all, Np.eq, Np.zipM3, Np.zip3, Np.identity3, Np.zeros3, toSym] at h
    norm_num at h
    simp only [Op.one, Op.mk.injEq]
    tauto
  · rintro rfl; exact isIdOp_one

theorem isIdOp_inv : isIdOp (toSym invOp : SymOp ℚ) = false :=
  Bool.eq_false_iff.2 fun h => absurd ((isIdOp_iff invOp).1 h) (by decide)

example : Src.Constraints.findInvariants [[(toSym invOp : SymOp ℚ)], [toSym invOp, toSym Op.one]] =
    some [toSym invOp, toSym Op.one] := by
  rw [findInvariants_eq]; simp [List.find?, isIdOp_one, isIdOp_inv]
example : Src.Constraints.findInvariants [[(toSym invOp : SymOp ℚ)]] = none := by
  rw [findInvariants_eq]; simp [List.find?, isIdOp_inv]

theorem gapV_001 : GapV ((0 : ℚ), (0 : ℚ), (1 : ℚ)) := by
  refine ⟨Or.inl rfl, Or.inl rfl, Or.inr ?_⟩
  unfold Src.Constraints.epsilon; norm_num

-- `_findPosParameters` on the site `(0, 1/2, z)` of `mm2` (free direction `(0,0,1)`): parameter `z = 1/4`
example : Src.Constraints.findPosParameters [((0 : ℚ), (0 : ℚ), (1 : ℚ))] (0, 1 / 2, 1 / 4) = some [(['z'], 1 / 4)] := by
  rw [findPosParameters_eq _ _ (fun v hv => by rw [List.mem_singleton.1 hv]; exact gapV_001)]
  decide +kernel

-- a second direction starting at the same coordinate takes the next free letter
example : Con.posNames [⟨1, 0, 0⟩, ⟨1, 1, 0⟩] = some [['x'], ['y']] := by decide +kernel
example : (Con.posNames [⟨1, 0, 0⟩, ⟨1, 1, 0⟩]).isSome ∧ ([['x'], ['y']] : List (List Char)).Nodup :=
  ⟨by decide +kernel, (posNames_spec _ _ (by decide +kernel : Con.posNames [⟨1, 0, 0⟩, ⟨1, 1, 0⟩] = some [['x'], ['y']])).2.1⟩

/-- the unit tensor as an array -/
def idM : M3 ℚ := ((1, 0, 0), (0, 1, 0), (0, 0, 1))

-- `_findUParameters`: isotropic site, one basis tensor `1`, input tensor diag(2, 4, 6): parameter `U11 = 12/3 = 4`
example : Src.Constraints.findUParameters [idM] ((2, 0, 0), (0, 4, 0), (0, 0, 6)) = some [(['U', '1', '1'], 4)] := by
  rw [findUParameters_eq]; decide +kernel

-- `_findeqUij`: stored tensor `4·1`, one equivalent tensor per class, rotated by the first operation of the class
example : (Src.Constraints.findeqUij [idM] [(['U', '1', '1'], (4 : ℚ))] [[toSym invOp, toSym Op.one]]).map
      (fun r => (toMat r.1, r.2.map toMat)) =
    some (Con.lincombT [4] [toMat idM], [Con.rotT (toMat (toSym invOp : SymOp ℚ).R) (Con.lincombT [4] [toMat idM])]) := by
  rw [findeqUij_eq _ _ _ rfl]; rfl

example : Src.Constraints.findUParameters [idM] ((2, 0, 0), (0, 4, 0), (0, 0, 6)) = some [(['U', '1', '1'], 4)] ∧
    (Src.Constraints.findeqUij [idM] [(['U', '1', '1'], (4 : ℚ))] [[toSym Op.one]]).map (fun r => toMat r.1) =
      some (Con.proj [toMat idM] (toMat ((2, 0, 0), (0, 4, 0), (0, 0, 6)))) := by
  have h : Src.Constraints.findUParameters [idM] ((2, 0, 0), (0, 4, 0), (0, 0, 6)) = some [(['U', '1', '1'], 4)] := by
    rw [findUParameters_eq]; decide +kernel
  refine ⟨h, ?_⟩
  have h2 := congrArg (Option.map Prod.fst) (stored_tensor_eq [idM] ((2, 0, 0), (0, 4, 0), (0, 0, 6)) [[toSym Op.one]] _ h)
  rw [Option.map_map] at h2
  exact h2

/-- a generator site on the grid `D = 24`: the site `(0, 0, 6)/24` of the group `{1, −1}`… with one free direction `z`
(parameter `z = 1/4`), equivalent positions `(0,0,6)/24` and `(0,0,18)/24`, tolerance `1/24` -/
def demoGen : GenSite ℚ :=
  { xyz := castP 1 (0, 0, 6), Uij := idM, sgoffset := castP 1 (0, 0, 0), eps := sc 1 1,
    eqxyz := [castP 1 (0, 0, 6), castP 1 (0, 0, 18)], eqUij := [idM, idM],
    symops := [[toSym Op.one], [toSym invOp]], multiplicity := 2, Uisotropy := true, invariants := [toSym Op.one],
    null_space := [(0, 0, 1)], Uspace := [idM], pparameters := [(['z'], 1 / 4)], Uparameters := [(['U', '1', '1'], 4)] }

-- the lookup on the grid: the listed position `(0, 0, 19)/24` is nearest to the second equivalent position (box distance 1 ≤ E)
theorem demo_lookup : Src.Constraints.findEquivalent demoGen (castP 1 (0, 0, 19)) =
    some (some (castP 1 (0, 0, 18), (toSym invOp : SymOp ℚ).R)) := by
  rw [findEquivalent_grid (by decide : (0 : Int) < 1) 1 demoGen [(0, 0, 6), (0, 0, 18)] (0, 0, 19) (by decide) rfl rfl]
  rfl
-- … and a position farther than `E` from every equivalent position is not adopted: `positionFormula` returns `{}`
example : Src.Constraints.positionFormula demoGen (castP 1 (0, 0, 12)) [['a'], ['b'], ['c']] = some [] := by
  have : Src.Constraints.findEquivalent demoGen (castP 1 (0, 0, 12)) = some none := by
    rw [findEquivalent_grid (by decide : (0 : Int) < 1) 1 demoGen [(0, 0, 6), (0, 0, 18)] (0, 0, 12) (by decide) rfl rfl]
    rfl
  unfold Src.Constraints.positionFormula
  rw [this]; rfl

-- `positionFormula_eq` applies: the formula of the second equivalent position is `z ↦ −z` in the caller's third symbol
example : Src.Constraints.positionFormula demoGen (castP 1 (0, 0, 19)) [['a'], ['b'], ['c']] =
    some (Con.posPieces (Src.Constraints.epsilon : ℚ)
      (Con.posFormula (toMat (toSym invOp : SymOp ℚ).R) [⟨0, 0, 1⟩] [1 / 4] (toVec (castP 1 (0, 0, 18))))
      [['c']]) := by
  rw [positionFormula_eq demoGen _ _ _ _ demo_lookup (by intro p hp; simp [demoGen] at hp; subst hp; decide)]
  rfl

-- `UFormula_eq` applies
example : Src.Constraints.UFormula demoGen (castP 1 (0, 0, 19)) Src.Constraints.stdUsymbols =
    some (Con.uPieces [Con.rotT (toMat (toSym invOp : SymOp ℚ).R) (toMat idM)] [['U', '1', '1']]) := by
  rw [UFormula_eq demoGen _ _ _ _ demo_lookup
    (by intro B hB; simp [demoGen] at hB; subst hB; exact ⟨rfl, rfl, rfl⟩)
    (by intro p hp; simp [demoGen] at hp; subst hp; decide)]
  rfl

example : Src.Constraints.eqIndex demoGen (castP 1 (0, 0, 19)) = some 1 := by
  rw [eqIndex_grid (by decide : (0 : Int) < 1) demoGen [(0, 0, 6), (0, 0, 18)] (0, 0, 19) (by decide) rfl]
  decide

-- the pieces denote the affine map: `z ↦ 3/4 − …` evaluated at `c = 1/3`
example : Con.evalPieces (fun _ => 1 / 3) (Con.posPieces1 (1 / 100000) ([⟨0, 0, -1⟩], ⟨0, 1 / 2, 0⟩) [['c']] 2) =
    Con.coord (Con.evalFormula ([⟨0, 0, -1⟩], ⟨0, 1 / 2, 0⟩) ([['c']].map fun _ => 1 / 3)) 2 :=
  evalPieces_posPieces _ _ _ _ _ (by decide +kernel) (by decide +kernel)

/-! #### `findConstraints_eq` is not vacuous: a `GenOK` instance (both listed positions belong to the orbit of `demoGen`) -/

def demoDom (p : V3 ℚ) : Prop := p = castP 1 (0, 0, 6) ∨ p = castP 1 (0, 0, 18)

theorem demo_find (q : V3 ℚ) (hq : demoDom q) :
    ∃ j R, Src.Constraints.findEquivalent demoGen q = some (some (q, R)) ∧ Src.Constraints.eqIndex demoGen q = some j ∧
      demoGen.eqxyz[j]? = some q ∧ demoGen.eqUij[j]? = some idM := by
  rcases hq with rfl | rfl
  · refine ⟨0, (toSym Op.one : SymOp ℚ).R, ?_, ?_, rfl, rfl⟩
    · rw [findEquivalent_grid (by decide : (0 : Int) < 1) 1 demoGen [(0, 0, 6), (0, 0, 18)] (0, 0, 6) (by decide) rfl rfl]
      rfl
    · rw [eqIndex_grid (by decide : (0 : Int) < 1) demoGen [(0, 0, 6), (0, 0, 18)] (0, 0, 6) (by decide) rfl]; rfl
  · refine ⟨1, (toSym invOp : SymOp ℚ).R, ?_, ?_, rfl, rfl⟩
    · rw [findEquivalent_grid (by decide : (0 : Int) < 1) 1 demoGen [(0, 0, 6), (0, 0, 18)] (0, 0, 18) (by decide) rfl rfl]
      rfl
    · rw [eqIndex_grid (by decide : (0 : Int) < 1) demoGen [(0, 0, 6), (0, 0, 18)] (0, 0, 18) (by decide) rfl]; rfl
theorem stable_self (q : V3 ℚ) : Np.add q (Np.sub (Np.sub q q) (Np.round (Np.sub q q))) = q := by
  obtain ⟨a, b, c⟩ := q
  have h0 : Np.roundS (0 : ℚ) = 0 := by simpa using roundS_int (α := ℚ) 0
  simp [Np.add, Np.sub, Np.round, Np.zip3, Np.map3, h0]

theorem demoOK : GenOK (fun _ _ => some demoGen) (fun _ _ => true) demoDom where
  mk_ok := fun _ _ _ => ⟨demoGen, rfl⟩
  pnames := by
    rintro p u g _ ⟨⟩ kv hkv
    cases List.mem_singleton.1 hkv; decide
  unames := by
    rintro p u g _ ⟨⟩ kv hkv
    cases List.mem_singleton.1 hkv; decide
  formula := by
    rintro p u g q syms _ hq ⟨⟩ hs
    obtain ⟨j, R, hf, -, -, -⟩ := demo_find q hq
    refine ⟨_, positionFormula_eq demoGen q syms q R hf (fun p hp => symOf_some syms hs _ ?_), rfl⟩
    cases List.mem_singleton.1 hp; decide
  adopt := by
    rintro p u g q syms _ hq ⟨⟩ hs _
    obtain ⟨j, R, hf, hj, he, hu⟩ := demo_find q hq
    refine ⟨⟨_, UFormula_eq demoGen q syms q R hf ?_ (fun p hp => usymOf_some syms hs _ ?_)⟩, j, q, idM, hj, he, hu, stable_self q⟩
    · intro B hB; cases List.mem_singleton.1 hB; exact ⟨rfl, rfl, rfl⟩
    · cases List.mem_singleton.1 hp; decide

-- the two listed positions form one class with generator 0
example : ∃ st, Src.Constraints.findConstraints (fun _ _ => some demoGen) [castP 1 (0, 0, 6), castP 1 (0, 0, 18)] [idM, idM] =
      some (st, [castP 1 (0, 0, 6)]) ∧ st.coremap = [(0, [0, 1])] ∧ st.independent = [] := by
  obtain ⟨st, h1, h2, h3, h4⟩ := findConstraints_eq demoOK (fun _ _ => rfl) [castP 1 (0, 0, 6), castP 1 (0, 0, 18)] [idM, idM] rfl
    (by intro p hp; simp at hp; exact hp)
  have hcm : st.coremap = [(0, [0, 1])] := h2
  refine ⟨st, ?_, hcm, h4⟩
  rw [h1, hcm]; rfl

/-! #### symbol translation: `x1` and `x10` are different symbols; the substitution, run on concrete strings -/

-- `re.sub(r"\b[xyz]\d+", …)` on `"x10 -2*x1 +0.5"` with `x1 -> A`, `x10 -> B` (computed by the transliteration itself)
example : Src.Constraints.positionFormulas
    [[(['x'], "x10 -2*x1 +0.5".toList)]] ["x1".toList, "x10".toList] ["A".toList, "B".toList] =
    some (some [[(['x'], "B -2*A +0.5".toList)]]) := by decide +kernel

-- the same through the theorem: tokens, well-formedness, renaming
example : Src.Constraints.positionFormulas
    ([[(['x'], [FTok.sym ['x'] 10, FTok.lit [' ', '-', '2', '*'], FTok.sym ['x'] 1, FTok.lit [' ', '+', '0', '.', '5']])]].map renderDict)
    [['x'] ++ Py.strNat 1, ['x'] ++ Py.strNat 10] [['A'], ['B']] =
    some (Py.mapOpt (renameDict fun s => Py.dictGet (([['x'] ++ Py.strNat 1, ['x'] ++ Py.strNat 10] : List (List Char)).zip [['A'], ['B']]) s)
      [[(['x'], [FTok.sym ['x'] 10, FTok.lit [' ', '-', '2', '*'], FTok.sym ['x'] 1, FTok.lit [' ', '+', '0', '.', '5']])]]) := by
  rw [positionFormulas_eq _ _ _ (by decide) (by decide +kernel)]
  · rfl
  · intro d hd
    simp only [List.mem_singleton] at hd
    subst hd
    refine ⟨?_, by decide⟩
    intro e he
    simp only [List.mem_singleton] at he
    subst he
    refine ⟨rfl, ⟨'x', [], rfl, by decide, by decide, rfl, rfl⟩, by decide +kernel, ?_, rfl, ⟨'x', [], rfl, by decide, by decide, rfl, rfl⟩,
      by decide +kernel, ?_, trivial⟩
    · decide +kernel
    · decide +kernel

-- too few caller symbols: `SymmetryError`; a formula symbol that is not a parameter: `KeyError`
example : Src.Constraints.positionFormulas [[(['x'], "x1".toList)]] ["x1".toList, "y1".toList] ["A".toList] = none := by
  decide +kernel
example : Src.Constraints.positionFormulas [[(['x'], "x7".toList)]] ["x1".toList] ["A".toList] = some none := by
  decide +kernel

-- U symbols: `U110` (parameter U11 of site 0) and `U1110` (site 10) do not collide
example : Src.Constraints.UFormulas [[(['U', '1', '1'], "0.5*U1110+U110".toList)]] ["U110".toList, "U1110".toList]
    ["p".toList, "q".toList] = some (some [[(['U', '1', '1'], "0.5*q+p".toList)]]) := by decide +kernel

example : Py.dictGet (([['x'] ++ Py.strNat 1, ['x'] ++ Py.strNat 10] : List (List Char)).zip [['A'], ['B']]) (['x'] ++ Py.strNat 10) =
    some ['B'] :=
  translation_exact [['x'] ++ Py.strNat 1, ['x'] ++ Py.strNat 10] [['A'], ['B']] (by decide +kernel) 1 (by decide) (by decide)

/-! #### `signedRatStr`, `snapSite`, adoption, pruning -/

theorem roundZ_int (m : Int) : roundZ ((m : Int) : ℚ) = m := by
  have h5 : (0 : ℚ) < (0.5 : ℚ) := by norm_num
  unfold roundZ
  simp only [Int.floor_intCast, sub_self, h5, if_true]

theorem firstDen_third : firstDen (1 / 100000) (1 / 3 : ℚ) = some 3 := by
  unfold firstDen
  apply List.find?_cons_of_pos
  have e : (1 / 3 : ℚ) * 3 = ((1 : Int) : ℚ) := by norm_num
  rw [e, roundZ_int]
  norm_num

-- `1/3` is printed as `+1/3`, which the parser reads back exactly
example : Src.Constraints.signedRatStr (fun _ => false) (1 / 100000) (1 / 3 : ℚ) = some (Sum.inr (1 / 3 * 3, 3)) := by
  rw [signedRatStr_eq]
  simp only [Bool.false_eq_true, if_false, firstDen_third]

example : ∃ dn : Nat, dn ∈ [3, 6, 7, 9] ∧ (3 : ℚ) = (dn : ℚ) ∧ (1 / 3 * 3 : ℚ) = 1 / 3 * 3 ∧
    parseFrac (fmtFrac (roundZ (1 / 3 * 3)) dn) = some ((roundZ (1 / 3 * 3 : ℚ) : ℚ) / 3) ∧
    |(1 / 3 : ℚ) - (roundZ (1 / 3 * 3 : ℚ) : ℚ) / 3| < 1 / 100000 / 3 := by
  apply signedRatStr_parses (fun _ => false) (1 / 100000) (1 / 3) (1 / 3 * 3) 3
  rw [signedRatStr_eq]
  simp only [Bool.false_eq_true, if_false, firstDen_third]

example : parseFrac (fmtFrac (-2) 3) = some (((-2 : Int) : ℚ) / ((3 : Nat) : ℚ)) := parseFrac_fmtFrac (-2) 3

-- the site `(0,0,0)` of `{1, −1}` lies exactly on its special position: it is not moved
example : Src.Constraints.snapSite ([Op.one, invOp].map (toSym (α := ℚ))) (castP 1 (0, 0, 0)) (castP 1 (0, 0, 0)) (sc 1 1) =
    some (castP 1 (0, 0, 0), [castP 1 (0, 0, 0)], [[toSym Op.one, toSym invOp]], 1, [toSym Op.one, toSym invOp]) := by
  have hres : Orbit.result [Op.one, invOp] 1 1 (0, 0, 0) (0, 0, 0) = ([(0, 0, 0)], [[Op.one, invOp]], 1) := by decide
  have := snapSite_exact (α := ℚ) [Op.one, invOp] (by decide : (0 : Int) < 1) (by decide : (0 : Int) < 1) (0, 0, 0) (0, 0, 0) [Op.one, invOp]
    (by rw [hres]; simp [List.find?, isIdOp_one]) (by decide)
  rw [this, hres]; rfl

-- adoption = same orbit, on the images of `(0,0,6)/24` under `{1, −1}`
example : Orbit.boxDist (24 * 1) ((Orbit.result [Op.one, invOp] 1 1 (0, 0, 0) (0, 0, 6)).1.getD
      (Orbit.nearestIdx (24 * 1) (Orbit.result [Op.one, invOp] 1 1 (0, 0, 0) (0, 0, 6)).1 (0, 0, 42)) (0, 0, 42)) (0, 0, 42) ≤ 1 ↔
    Partition.inOrbit [Op.one, invOp] 1 (0, 0, 6) (0, 0, 42) = true :=
  adoption_iff_inOrbit (by decide) (by decide) (by decide) (by decide +kernel) (by decide +kernel)

example : Src.Constraints.pruneFormulaDictionary (fun s : List Char => s == ['0']) [(['x'], ['x', '0']), (['y'], ['0'])] =
    [(['x'], ['x', '0'])] := by
  rw [pruneFormulaDictionary_eq _ _ (by decide)]; rfl

example : Src.Constraints.expandAsymmetricUnit (fun _ _ => some demoGen) [castP 1 (0, 0, 6)] none =
    some ([2], [true], [demoGen.eqxyz], [demoGen.eqUij]) := by
  rw [expandAsymmetricUnit_eq]; rfl

/-! ### 15. the end-to-end statement for `SymmetryConstraints` on exact positions (proved in section 16) -/

/-- what is assumed of the certificate-checked SVD routines (as functions of the site-symmetry operations): entries are zero or at
least `epsilon` in size, `_findPosParameters` / `_findUParameters` find a name for every row / tensor, the tensors are symmetric -/
structure OracleOK (fns : List (SymOp ℚ) → List (V3 ℚ)) (fus : List (SymOp ℚ) → List (M3 ℚ)) : Prop where
  gap : ∀ inv, ∀ v ∈ fns inv, GapV v
  names : ∀ inv, (Con.posNames ((fns inv).map toVec)).isSome
  unames : ∀ inv, ∀ B ∈ fus inv, (Con.uName (toMat B)).isSome ∧ (toMat B).isSymm

/-- **Full refinement of `SymmetryConstraints._findConstraints` (statement).**  For a group of operations, a listing of exact
positions on the grid `D = 24k` such that the images of every listed position are pairwise equal or farther apart than `E`
(`Orbit.Sep`, as in C02 — in particular every listed site lies exactly on its special position) and every image of a listed
position coincides with another listed position modulo lattice translations or is farther than `E` from it: the transliteration of
`_findConstraints` with the transliterated `GeneratorSite.__init__` (on top of the transliterated `expandPosition`) raises nothing,
leaves the positions where they are, and `coremap` is `Partition.coremap ops k positions` — the model that
`DS.Props.C05Partition` proves to be the orbit partition with first-in-listing-order generators.

Proved parts, each for all inputs: `findConstraints_eq` (the loop computes `Partition.partRel` for ANY generator sites that satisfy
`GenOK`), `coremap_eq_partRel` (`Partition.coremap` is that partition for "same orbit"), `adoption_iff_inOrbit` (the adoption test
is "same orbit" under exactly these separation hypotheses), `findEquivalent_grid` / `eqIndex_grid` (the lookup is
`Orbit.nearestIdx` / `Orbit.boxDist ≤ E`), `snapSite_exact` (an exact site is not moved; its expansion is `Orbit.result` by
`DS.Props.SrcSym.refines`), `findPosParameters_eq`, `findUParameters_eq`, `findeqUij_eq`, `positionFormula_eq`, `UFormula_eq`
(the per-site calls succeed with the stated values); assembled in section 16: `generatorSite_grid`, `genOK_grid`, and the theorem
`findConstraints_grid : findConstraints_grid_statement`.  Floating point and listings with noise stay with the stream
`con.partition` and the exact oracle of `harness/c05.py`. -/
def findConstraints_grid_statement : Prop :=
  ∀ (ops : List Op) (k E : Int) (positions : List P3) (U : List (M3 ℚ))
    (fns : List (SymOp ℚ) → List (V3 ℚ)) (fus : List (SymOp ℚ) → List (M3 ℚ)),
    0 < k → 0 < E → IsGroup ops → U.length = positions.length → OracleOK fns fus →
    (∀ p ∈ positions, Orbit.Sep ops k E (0, 0, 0) p) →
    (∀ p ∈ positions, ∀ q ∈ positions, ∀ a ∈ ops, Orbit.img a k (0, 0, 0) p = Orbit.red k q ∨
      E < Orbit.boxDist (24 * k) (Orbit.img a k (0, 0, 0) p) (Orbit.red k q)) →
    ∃ st, Src.Constraints.findConstraints
        (fun p u => Src.Constraints.generatorSiteInit (ops.map toSym) fns fus p u (castP k (0, 0, 0)) (sc k E))
        (positions.map (castP k)) U =
      some (st, (st.coremap.map (·.1)).map fun i => (positions.map (castP k)).getD i (0, 0, 0)) ∧
      st.coremap = Partition.coremap ops k positions ∧ st.positions = positions.map (castP k)

/-! ### 16. assembling the end-to-end statement -/

theorem red_mem_images {ops : List Op} (hG : IsGroup ops) (k : Int) (x : P3) :
    Orbit.red k x ∈ Orbit.dedupFirst (ops.map fun g => Orbit.img g k (0, 0, 0) x) := by
  rw [Orbit.mem_dedupFirst, List.mem_map]
  exact ⟨Op.one, Partition.one_mem hG, Orbit.img_one k _ x⟩

theorem class_ne_nil {ops : List Op} {k : Int} {x p : P3} (hp : p ∈ Orbit.dedupFirst (ops.map fun g => Orbit.img g k (0, 0, 0) x)) :
    ops.filter (fun g => decide (Orbit.img g k (0, 0, 0) x = p)) ≠ [] := by
  obtain ⟨a, ha, hap⟩ := List.mem_map.1 (Orbit.mem_dedupFirst.1 hp)
  exact List.ne_nil_of_mem (List.mem_filter.2 ⟨ha, decide_eq_true hap⟩)

/-- the class of operations found by `_findInvariants` in an exact expansion fixes the site exactly -/
theorem invariants_exact {ops : List Op} (hG : IsGroup ops) {k E : Int} (hk : 0 < k) (hE : 0 < E) (x : P3)
    (hsep : Orbit.Sep ops k E (0, 0, 0) x) :
    ∃ cls0, (Orbit.result ops k E (0, 0, 0) x).2.1.find? (fun c => c.any fun a => isIdOp (toSym a : SymOp ℚ)) = some cls0 ∧
      ∀ a ∈ cls0, Orbit.img a k (0, 0, 0) x = Orbit.red k x := by
  rw [Orbit.result_exact hk hE hsep]
  simp only
  have hex : ∃ c ∈ (Orbit.dedupFirst (ops.map fun g => Orbit.img g k (0, 0, 0) x)).map
      (fun p => ops.filter fun g => decide (Orbit.img g k (0, 0, 0) x = p)), (c.any fun a => isIdOp (toSym a : SymOp ℚ)) = true := by
    refine ⟨_, List.mem_map_of_mem (red_mem_images hG k x), ?_⟩
    rw [List.any_eq_true]
    exact ⟨Op.one, List.mem_filter.2 ⟨Partition.one_mem hG, decide_eq_true (Orbit.img_one k _ x)⟩, isIdOp_one⟩
  obtain ⟨c, hc, hcany⟩ := hex
  cases hf : ((Orbit.dedupFirst (ops.map fun g => Orbit.img g k (0, 0, 0) x)).map
      (fun p => ops.filter fun g => decide (Orbit.img g k (0, 0, 0) x = p))).find?
      (fun c => c.any fun a => isIdOp (toSym a : SymOp ℚ)) with
  | none =>
    rw [List.find?_eq_none] at hf
    exact absurd hcany (by simpa using hf c hc)
  | some cls0 =>
    refine ⟨cls0, rfl, ?_⟩
    have h1 := List.find?_some hf
    have h2 := List.mem_of_find?_eq_some hf
    obtain ⟨p, _, rfl⟩ := List.mem_map.1 h2
    rw [List.any_eq_true] at h1
    obtain ⟨a, ha, haid⟩ := h1
    rw [isIdOp_iff] at haid
    subst haid
    have hp : Orbit.img Op.one k (0, 0, 0) x = p := by simpa using (List.mem_filter.1 ha).2
    intro b hb
    have : Orbit.img b k (0, 0, 0) x = p := by simpa using (List.mem_filter.1 hb).2
    rw [this, ← hp, Orbit.img_one]


theorem uName_mem_std (B : Mat3 ℚ) (n : List Char) (h : Con.uName B = some n) :
    n ∈ (Src.Constraints.stdUsymbols : List (List Char)) := by
  unfold Con.uName at h
  iterate 9 refine mem_of_ite (by decide) (fun h => ?_) h
  cases h

/-- the generator site that `GeneratorSite.__init__` builds for an exact site of a group (`Orbit.Sep`): construction succeeds
and its attributes are those of the exact expansion `Orbit.result` -/
theorem generatorSite_grid {ops : List Op} (hG : IsGroup ops) {k E : Int} (hk : 0 < k) (hE : 0 < E)
    (fns : List (SymOp ℚ) → List (V3 ℚ)) (fus : List (SymOp ℚ) → List (M3 ℚ)) (hor : OracleOK fns fus) (x : P3) (u : M3 ℚ)
    (hsep : Orbit.Sep ops k E (0, 0, 0) x) :
    ∃ g, Src.Constraints.generatorSiteInit (ops.map toSym) fns fus (castP k x) u (castP k (0, 0, 0)) (sc k E) = some g ∧
      g.eqxyz = (Orbit.result ops k E (0, 0, 0) x).1.map (castP k) ∧
      g.symops = (Orbit.result ops k E (0, 0, 0) x).2.1.map (List.map toSym) ∧ g.eps = sc k E ∧
      g.eqUij.length = (Orbit.result ops k E (0, 0, 0) x).2.1.length ∧
      (∀ B ∈ g.Uspace, (toMat B).isSymm) ∧
      (∀ kv ∈ g.pparameters, kv.1 ∈ ([['x'], ['y'], ['z']] : List (List Char))) ∧
      (∀ kv ∈ g.Uparameters, kv.1 ∈ (Src.Constraints.stdUsymbols : List (List Char))) := by
  obtain ⟨cls0, hinv, hexact⟩ := invariants_exact hG hk hE x hsep
  rw [generatorSiteInit_eq, snapSite_exact ops hk hE (0, 0, 0) x cls0 hinv hexact]
  simp only [Option.bind_some]
  obtain ⟨names, hnames⟩ := Option.isSome_iff_exists.1 (hor.names (cls0.map toSym))
  have hpp := findPosParameters_eq (fns (cls0.map toSym)) (castP k x) (hor.gap _)
  rw [hnames, Option.map_some] at hpp
  rw [hpp]
  simp only [Option.bind_some]
  obtain ⟨unames, hunames⟩ := mapOpt_some_of_all (fun b => Con.uName (toMat b)) (fus (cls0.map toSym))
    (fun B hB => (hor.unames _ B hB).1)
  have hup := findUParameters_eq (fus (cls0.map toSym)) u
  rw [hunames, Option.map_some] at hup
  rw [hup]
  simp only [Option.bind_some]
  -- `_findeqUij` does not raise: every class of the exact expansion is non-empty
  have hres := Orbit.result_exact hk hE hsep
  have hcls : ∀ c ∈ (Orbit.result ops k E (0, 0, 0) x).2.1.map (List.map (toSym (α := ℚ))), (List.head? c).isSome := by
    intro c hc
    rw [hres] at hc
    simp only [List.map_map, List.mem_map] at hc
    obtain ⟨p, hp, rfl⟩ := hc
    cases hh : ops.filter (fun g => decide (Orbit.img g k (0, 0, 0) x = p)) with
    | nil => exact absurd hh (class_ne_nil hp)
    | cons b bs => simp [Function.comp, hh]
  obtain ⟨firsts, hfirsts⟩ := mapOpt_some_of_all List.head? _ hcls
  have hlen : (unames.zip (Con.projCoefs ((fus (cls0.map toSym)).map toMat) (toMat u))).length = (fus (cls0.map toSym)).length := by
    have := mapOpt_length _ _ _ hunames
    simp [this, Con.projCoefs]
  have heq := findeqUij_eq (fus (cls0.map toSym)) (unames.zip (Con.projCoefs ((fus (cls0.map toSym)).map toMat) (toMat u)))
    ((Orbit.result ops k E (0, 0, 0) x).2.1.map (List.map toSym)) hlen
  rw [hfirsts, Option.map_some] at heq
  cases hfe : Src.Constraints.findeqUij (fus (cls0.map toSym))
      (unames.zip (Con.projCoefs ((fus (cls0.map toSym)).map toMat) (toMat u)))
      ((Orbit.result ops k E (0, 0, 0) x).2.1.map (List.map toSym)) with
  | none => rw [hfe] at heq; simp at heq
  | some r =>
    rw [hfe, Option.map_some, Option.some.injEq, Prod.mk.injEq] at heq
    simp only [Option.bind_some]
    refine ⟨_, rfl, rfl, rfl, rfl, ?_, fun B hB => (hor.unames _ B hB).2, ?_, ?_⟩
    · show r.2.length = _
      have h1 := congrArg List.length heq.2
      have h2 := mapOpt_length _ _ _ hfirsts
      simp only [List.length_map] at h1 h2
      omega
    · intro kv hkv
      have := (posNames_spec _ _ hnames).2.2
      exact this kv.1 (List.of_mem_zip (show (kv.1, kv.2) ∈ names.zip _ from hkv)).1
    · intro kv hkv
      have hm := (List.of_mem_zip (show (kv.1, kv.2) ∈ unames.zip _ from hkv)).1
      obtain ⟨B, _, hB⟩ := mapOpt_mem _ _ _ hunames kv.1 hm
      exact uName_mem_std _ _ hB

/-- the grid coordinates of a position `x/D` -/
def uncast (k : Int) (v : V3 ℚ) : P3 := (⌊v.1 * ((24 * k : Int) : ℚ)⌋, ⌊v.2.1 * ((24 * k : Int) : ℚ)⌋, ⌊v.2.2 * ((24 * k : Int) : ℚ)⌋)

theorem uncast_cast {k : Int} (hk : 0 < k) (x : P3) : uncast k (castP k x : V3 ℚ) = x := by
  obtain ⟨x1, x2, x3⟩ := x
  have hD := ne_of_gt (D_pos (α := ℚ) hk)
  have key : ∀ X : Int, ⌊(sc k X : ℚ) * ((24 * k : Int) : ℚ)⌋ = X := by
    intro X
    unfold sc
    rw [div_mul_cancel₀ _ hD]
    exact Int.floor_intCast X
  simp only [uncast, castP, key]

/-- "listed position `q` lies in the orbit of listed position `p`", on fractional coordinates -/
def relG (ops : List Op) (k : Int) (p q : V3 ℚ) : Bool := Partition.inOrbit ops k (uncast k p) (uncast k q)

theorem result_ne_nil {ops : List Op} (hG : IsGroup ops) {k E : Int} (hk : 0 < k) (hE : 0 < E) (x : P3)
    (hsep : Orbit.Sep ops k E (0, 0, 0) x) : (Orbit.result ops k E (0, 0, 0) x).1 ≠ [] := by
  rw [Orbit.result_exact hk hE hsep]
  exact List.ne_nil_of_mem (red_mem_images hG k x)

theorem result_class_head {ops : List Op} {k E : Int} (hk : 0 < k) (hE : 0 < E) (x : P3)
    (hsep : Orbit.Sep ops k E (0, 0, 0) x) (j : Nat) (hj : j < (Orbit.result ops k E (0, 0, 0) x).1.length) :
    ∃ c op, ((Orbit.result ops k E (0, 0, 0) x).2.1.map (List.map (toSym (α := ℚ))))[j]? = some c ∧ c.head? = some op := by
  rw [Orbit.result_exact hk hE hsep] at hj ⊢
  simp only at hj ⊢
  set ps := Orbit.dedupFirst (ops.map fun g => Orbit.img g k (0, 0, 0) x)
  rw [List.map_map, List.getElem?_map, List.getElem?_eq_getElem hj]
  simp only [Option.map_some, Function.comp]
  cases hh : ops.filter (fun g => decide (Orbit.img g k (0, 0, 0) x = ps[j])) with
  | nil => exact absurd hh (class_ne_nil (List.getElem_mem hj))
  | cons b bs => exact ⟨_, _, rfl, rfl⟩

/-- an adopted position coincides, modulo lattice translations, with the equivalent position it was matched to -/
theorem adopted_eq_red {k E : Int} {ops : List Op} {p q : P3} {ps : List P3} (hne : ps ≠ [])
    (hall : ∀ y ∈ ps, ∃ a ∈ ops, Orbit.img a k (0, 0, 0) p = y)
    (hfar : ∀ a ∈ ops, Orbit.img a k (0, 0, 0) p = Orbit.red k q ∨ E < Orbit.boxDist (24 * k) (Orbit.img a k (0, 0, 0) p) (Orbit.red k q))
    (h : Orbit.boxDist (24 * k) (ps.getD (Orbit.nearestIdx (24 * k) ps q) q) q ≤ E) :
    ps.getD (Orbit.nearestIdx (24 * k) ps q) q = Orbit.red k q := by
  have hlt := Orbit.nearestIdx_lt (24 * k) ps q hne
  rw [List.getD_eq_getElem _ _ hlt] at h ⊢
  obtain ⟨a, ha, hax⟩ := hall _ (List.getElem_mem hlt)
  rw [← hax, ← boxDist_red_right] at h
  rw [← hax]
  rcases hfar a ha with he | hf
  · exact he
  · omega

/-- one generator site of an exact listing and one listed position: `positionFormula` is empty exactly when the position is not in
the orbit of the site; for an adopted position the other calls succeed and the position is left where it is -/
theorem genSite_listed {ops : List Op} (hG : IsGroup ops) {k E : Int} (hk : 0 < k) (hE : 0 < E)
    (fns : List (SymOp ℚ) → List (V3 ℚ)) (fus : List (SymOp ℚ) → List (M3 ℚ)) (hor : OracleOK fns fus) {x y : P3}
    (hsep : Orbit.Sep ops k E (0, 0, 0) x)
    (hfar : ∀ a ∈ ops, Orbit.img a k (0, 0, 0) x = Orbit.red k y ∨ E < Orbit.boxDist (24 * k) (Orbit.img a k (0, 0, 0) x) (Orbit.red k y))
    (u : M3 ℚ) (g : GenSite ℚ)
    (hg : Src.Constraints.generatorSiteInit (ops.map toSym) fns fus (castP k x) u (castP k (0, 0, 0)) (sc k E) = some g) :
    (∀ syms : List (List Char), syms.length = 3 →
      ∃ f, Src.Constraints.positionFormula g (castP k y) syms = some f ∧ f.isEmpty = !relG ops k (castP k x) (castP k y)) ∧
    (∀ syms : List (List Char), syms.length = 6 → relG ops k (castP k x) (castP k y) = true →
      (∃ uf, Src.Constraints.UFormula g (castP k y) syms = some uf) ∧
      ∃ j e ue, Src.Constraints.eqIndex g (castP k y) = some j ∧ g.eqxyz[j]? = some e ∧ g.eqUij[j]? = some ue ∧
        Np.add (castP k y) (Np.sub (Np.sub e (castP k y)) (Np.round (Np.sub e (castP k y)))) = castP k y) := by
  have hopsne : ops ≠ [] := by
    intro h; have := hG.one_first; rw [h] at this; simp at this
  obtain ⟨g', hg', hxyz, hsym, heps, hlenU, hsy, hpn, hun⟩ := generatorSite_grid hG hk hE fns fus hor x u hsep
  rw [hg] at hg'; cases hg'
  set ps := (Orbit.result ops k E (0, 0, 0) x).1 with hps
  have hne : ps ≠ [] := result_ne_nil hG hk hE x hsep
  have hjlt := Orbit.nearestIdx_lt (24 * k) ps y hne
  have hfe := findEquivalent_grid (α := ℚ) hk E g ps y hne hxyz heps
  have hrel : relG ops k (castP k x) (castP k y) =
      decide (Orbit.boxDist (24 * k) (ps.getD (Orbit.nearestIdx (24 * k) ps y) y) y ≤ E) := by
    unfold relG
    rw [uncast_cast hk, uncast_cast hk, Bool.eq_iff_iff, decide_eq_true_eq]
    exact (adoption_iff_inOrbit hk hE hopsne hsep hfar).symm
  obtain ⟨c, op, hc, hop⟩ := result_class_head hk hE x hsep _ hjlt
  by_cases hA : Orbit.boxDist (24 * k) (ps.getD (Orbit.nearestIdx (24 * k) ps y) y) y ≤ E
  · rw [if_pos hA, hsym, hc, Option.bind_some, hop, Option.bind_some] at hfe
    refine ⟨fun syms hs => ?_, fun syms hs _ => ?_⟩
    · refine ⟨_, positionFormula_eq g _ syms _ _ hfe (fun p hp => symOf_some syms hs _ (hpn p hp)), ?_⟩
      rw [hrel, decide_eq_true hA]; rfl
    · refine ⟨⟨_, UFormula_eq g _ syms _ _ hfe hsy (fun p hp => usymOf_some syms hs _ (hun p hp))⟩,
        Orbit.nearestIdx (24 * k) ps y, castP k (ps.getD (Orbit.nearestIdx (24 * k) ps y) y), ?_⟩
      have hgd : ps.getD (Orbit.nearestIdx (24 * k) ps y) y = ps[Orbit.nearestIdx (24 * k) ps y] :=
        List.getD_eq_getElem _ _ hjlt
      have hlenc : (Orbit.result ops k E (0, 0, 0) x).2.1.length = ps.length := by
        simp [hps, Orbit.result]
      have hju : Orbit.nearestIdx (24 * k) ps y < g.eqUij.length := by rw [hlenU, hlenc]; exact hjlt
      refine ⟨g.eqUij[Orbit.nearestIdx (24 * k) ps y], eqIndex_grid hk g ps y hne hxyz, ?_, List.getElem?_eq_getElem hju, ?_⟩
      · rw [hxyz, List.getElem?_map, List.getElem?_eq_getElem hjlt, hgd]; rfl
      · have hred := adopted_eq_red hne (fun z hz => by
          rw [hps, Orbit.result_exact hk hE hsep] at hz
          exact List.mem_map.1 (Orbit.mem_dedupFirst.1 hz)) hfar hA
        have hc0 := centre_lattice (α := ℚ) hk (ps.getD (Orbit.nearestIdx (24 * k) ps y) y) y (by
          rw [hred]; simp [Orbit.red, Int.emod_emod_of_dvd _ (dvd_refl _)])
        unfold centreV at hc0
        rw [hc0]
        obtain ⟨y1, y2, y3⟩ := y
        simp [Np.add, Np.zip3, castP]
  · rw [if_neg hA] at hfe
    refine ⟨fun syms hs => ⟨[], ?_, ?_⟩, fun syms hs hr => ?_⟩
    · unfold Src.Constraints.positionFormula
      rw [hfe]; rfl
    · rw [hrel, decide_eq_false hA]; rfl
    · rw [hrel, decide_eq_false hA] at hr; exact absurd hr (by simp)

/-- **`GeneratorSite` on an exact listing satisfies `GenOK`** with the relation "same orbit" -/
theorem genOK_grid {ops : List Op} (hG : IsGroup ops) {k E : Int} (hk : 0 < k) (hE : 0 < E)
    (fns : List (SymOp ℚ) → List (V3 ℚ)) (fus : List (SymOp ℚ) → List (M3 ℚ)) (hor : OracleOK fns fus) (positions : List P3)
    (hsep : ∀ p ∈ positions, Orbit.Sep ops k E (0, 0, 0) p)
    (hfar : ∀ p ∈ positions, ∀ q ∈ positions, ∀ a ∈ ops, Orbit.img a k (0, 0, 0) p = Orbit.red k q ∨
      E < Orbit.boxDist (24 * k) (Orbit.img a k (0, 0, 0) p) (Orbit.red k q)) :
    GenOK (fun p u => Src.Constraints.generatorSiteInit (ops.map toSym) fns fus p u (castP k (0, 0, 0)) (sc k E))
      (relG ops k) (fun p => ∃ x ∈ positions, p = castP k x) := by
  constructor
  · rintro p u ⟨x, hx, rfl⟩
    obtain ⟨g, hg, _⟩ := generatorSite_grid hG hk hE fns fus hor x u (hsep x hx)
    exact ⟨g, hg⟩
  · rintro p u g ⟨x, hx, rfl⟩ hg
    obtain ⟨g', hg', _, _, _, _, _, hpn, _⟩ := generatorSite_grid hG hk hE fns fus hor x u (hsep x hx)
    rw [hg] at hg'; cases hg'; exact hpn
  · rintro p u g ⟨x, hx, rfl⟩ hg
    obtain ⟨g', hg', _, _, _, _, _, _, hun⟩ := generatorSite_grid hG hk hE fns fus hor x u (hsep x hx)
    rw [hg] at hg'; cases hg'; exact hun
  · rintro p u g q syms ⟨x, hx, rfl⟩ ⟨y, hy, rfl⟩ hg hs
    exact (genSite_listed hG hk hE fns fus hor (hsep x hx) (hfar x hx y hy) u g hg).1 syms hs
  · rintro p u g q syms ⟨x, hx, rfl⟩ ⟨y, hy, rfl⟩ hg hs hr
    exact (genSite_listed hG hk hE fns fus hor (hsep x hx) (hfar x hx y hy) u g hg).2 syms hs hr

theorem partRel_congr (r r' : Nat → Nat → Bool) : ∀ (fuel : Nat) (l : List Nat), (∀ i ∈ l, ∀ j ∈ l, r i j = r' i j) →
    Partition.partRel r fuel l = Partition.partRel r' fuel l
  | 0, l, _ => by cases l <;> rfl
  | fuel + 1, [], _ => rfl
  | fuel + 1, i :: rest, h => by
    have e1 : rest.filter (fun j => r i j) = rest.filter (fun j => r' i j) :=
      List.filter_congr (fun j hj => h i (List.mem_cons_self ..) j (List.mem_cons_of_mem _ hj))
    have e2 : rest.filter (fun j => !r i j) = rest.filter (fun j => !r' i j) :=
      List.filter_congr (fun j hj => by rw [h i (List.mem_cons_self ..) j (List.mem_cons_of_mem _ hj)])
    show (i, i :: rest.filter (fun j => r i j)) :: Partition.partRel r fuel (rest.filter fun j => !r i j) =
      (i, i :: rest.filter (fun j => r' i j)) :: Partition.partRel r' fuel (rest.filter fun j => !r' i j)
    rw [e1, e2, partRel_congr r r' fuel _ (fun a ha b hb =>
      h a (List.mem_cons_of_mem _ (List.mem_filter.1 ha).1) b (List.mem_cons_of_mem _ (List.mem_filter.1 hb).1))]

/-- **Full refinement of `SymmetryConstraints._findConstraints` on exact listings** (`findConstraints_grid_statement`): with the
transliterated `GeneratorSite.__init__` on top of the transliterated `expandPosition`, for every group of operations and every exact
listing that is separated as in C02, `coremap` IS `Partition.coremap` — so `DS.Props.C05Partition` (`coremap_partition`,
`coremap_classes`, `coremap_generators`, `tables_coremap`: the classes are exactly the symmetry orbits, one generator each, the first
in listing order) speaks about the current source in exact arithmetic. -/
theorem findConstraints_grid : findConstraints_grid_statement := by
  intro ops k E positions U fns fus hk hE hG hU hor hsep hfar
  have hok := genOK_grid hG hk hE fns fus hor positions hsep hfar
  have hrefl : ∀ p, (∃ x ∈ positions, p = castP k x) → relG ops k p p = true := by
    rintro p ⟨x, hx, rfl⟩
    unfold relG
    rw [uncast_cast hk]
    exact Partition.R_refl hG k x
  obtain ⟨st, h1, h2, h3, h4⟩ := findConstraints_eq hok hrefl (positions.map (castP k)) U (by simpa using hU)
    (by intro p hp; obtain ⟨x, hx, rfl⟩ := List.mem_map.1 hp; exact ⟨x, hx, rfl⟩)
  refine ⟨st, h1, ?_, h3⟩
  rw [h2, coremap_eq_partRel, List.length_map]
  apply partRel_congr
  intro i hi j hj
  have hi' : i < positions.length := List.mem_range.1 hi
  have hj' : j < positions.length := List.mem_range.1 hj
  unfold relI relG
  rw [List.getElem?_map, List.getElem?_map, List.getElem?_eq_getElem hi', List.getElem?_eq_getElem hj']
  simp only [Option.map_some, uncast_cast hk]
  rw [List.getD_eq_getElem?_getD, List.getD_eq_getElem?_getD, List.getElem?_eq_getElem hi', List.getElem?_eq_getElem hj']
  rfl

-- non-vacuity: the group `{1, −1}`, `D = 24`, `E = 1`, the listing `(0,0,6), (0,0,18), (0,0,0)`: two orbits
example : ∃ st, Src.Constraints.findConstraints
      (fun p u => Src.Constraints.generatorSiteInit ([Op.one, invOp].map toSym) (fun _ => []) (fun _ => []) p u (castP 1 (0, 0, 0)) (sc 1 1))
      ([(0, 0, 6), (0, 0, 18), (0, 0, 0)].map (castP 1)) [idM, idM, idM] =
      some (st, (st.coremap.map (·.1)).map fun i => (([(0, 0, 6), (0, 0, 18), (0, 0, 0)] : List P3).map (castP 1)).getD i (0, 0, 0)) ∧
    st.coremap = [(0, [0, 1]), (2, [2])] := by
  have hG : IsGroup [Op.one, invOp] := ⟨by decide, by decide, by decide, by decide, by decide, by decide⟩
  obtain ⟨st, h1, h2, _⟩ := findConstraints_grid [Op.one, invOp] 1 1 [(0, 0, 6), (0, 0, 18), (0, 0, 0)] [idM, idM, idM]
    (fun _ => []) (fun _ => []) (by decide) (by decide) hG rfl
    ⟨fun _ v hv => by simp at hv, fun _ => rfl, fun _ B hB => by simp at hB⟩ (by decide +kernel) (by decide +kernel)
  refine ⟨st, h1, ?_⟩
  rw [h2]; decide +kernel

/-- the end-to-end refinement for every tabulated space-group setting (groups by `DS.Props.C03.all_groups`) -/
theorem findConstraints_tables : ∀ p ∈ Gen.allC, ∀ (k E : Int) (positions : List P3) (U : List (M3 ℚ))
    (fns : List (SymOp ℚ) → List (V3 ℚ)) (fus : List (SymOp ℚ) → List (M3 ℚ)),
    0 < k → 0 < E → U.length = positions.length → OracleOK fns fus →
    (∀ x ∈ positions, Orbit.Sep p.1.ops k E (0, 0, 0) x) →
    (∀ x ∈ positions, ∀ q ∈ positions, ∀ a ∈ p.1.ops, Orbit.img a k (0, 0, 0) x = Orbit.red k q ∨
      E < Orbit.boxDist (24 * k) (Orbit.img a k (0, 0, 0) x) (Orbit.red k q)) →
    ∃ st, Src.Constraints.findConstraints
        (fun x u => Src.Constraints.generatorSiteInit (p.1.ops.map toSym) fns fus x u (castP k (0, 0, 0)) (sc k E))
        (positions.map (castP k)) U =
      some (st, (st.coremap.map (·.1)).map fun i => (positions.map (castP k)).getD i (0, 0, 0)) ∧
      st.coremap = Partition.coremap p.1.ops k positions ∧ st.positions = positions.map (castP k) :=
  fun p hp k E positions U fns fus hk hE hU hor hsep hfar =>
    findConstraints_grid p.1.ops k E positions U fns fus hk hE (DS.Props.C03.all_groups p hp) hU hor hsep hfar

end DS.Props.SrcConstraints

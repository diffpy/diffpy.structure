import DS.Lemmas.FormatsI

/-!
# C04 — writing a structure and reading it back preserves everything the format carries

Text layer (all inputs, all widths and precisions) and per-format round trips
`readStr(writeStr(s, f), f)` at the string level, on the exact-decimal models of
`DS.Model.Dec` / `DS.Model.Formats`.  `quant_f` rounds every carried quantity to the printed
precision and normalises text fields the way the reader does; `repr_f` is a decidable
representable range under which the proof goes through (for xcfg and cif it also carries clauses the first trip does
not use: nine tensor components, reduced coordinates that print below 1).  All seven formats have the file-level theorem `roundtrip_f`;
the second trip is `idem_f` (xyz, rawxyz, discus, pdffit, pdb; cif under `stableCif`) and
`idem_xcfg_partial` / `xcfg_same_columns` for xcfg.
-/
namespace DS.Props.C04
open DS.Dec DS.Formats

/-! ## Stage 1: exact decimal text layer -/

/-- `float("%w.pf" % x)` is `x` rounded half-even to `p` decimals, for every width `w` -/
theorem parseDec_fmtF (w p : Nat) (x : Rat) : pyFloat (fmtF w p x) = some (roundTo p x) :=
  pyFloat_fmtF w p x

/-- the printed number is within half a unit of the last printed place -/
theorem roundTo_error (p : Nat) (x : Rat) : |roundTo p x - x| ≤ 1 / (2 * ((10 ^ p : Nat) : Rat)) :=
  DS.Dec.roundTo_error p x

/-- a printed number re-prints to itself -/
theorem roundTo_idem (p : Nat) (x : Rat) : roundTo p (roundTo p x) = roundTo p x :=
  DS.Dec.roundTo_idem p x

/-- `float("%.Pg" % x)` is the number `%.Pg` denotes, for every precision -/
theorem parseDec_fmtG (P : Nat) (x : Rat) : parseDec (fmtG P x) = some (roundSig P x) :=
  DS.Dec.parseDec_fmtG P x

/-- `" ".join(tokens).split() == tokens` for non-empty blank-free tokens -/
theorem split_join (toks : List Str) (h : ∀ t ∈ toks, IsTok t) : splitWs ([' '].intercalate toks) = toks :=
  DS.Dec.split_join toks h

/-- fixed columns: the slice `[i:j]` of a line is the field that occupies these columns -/
theorem slice_fixed {A F R : Str} {i j : Nat} (hA : A.length = i) (hF : F.length = j - i) :
    slice i j (A ++ (F ++ R)) = F :=
  slice_mid hA hF

/-- `parse(tostring(lines))` hands `parseLines` the lines `toLines` produced -/
theorem text_lines (L : List Str) (hne : L ≠ []) (h : ∀ l ∈ L, NoNL l) (hlast : L.getLast hne ≠ []) :
    ofText (toText L) = L :=
  ofText_toText L hne h hlast

/-- `%.Pg` is correctly rounded: the printed number is within half a unit of its last significant
digit, `10^(X-P+1)` with `X` the decimal exponent of `|x|` -/
theorem roundSig_error (P : Nat) (hP : 1 ≤ P) (x : Rat) (hx : x ≠ 0) :
    |roundSigP P x - x| ≤ (10 : Rat) ^ (sciExp x.num.natAbs x.den - (P : Int) + 1) / 2 :=
  roundSigP_error P hP x hx

/-- the decimal exponent used by `%g` is the right one: `10^X ≤ n/d < 10^(X+1)` -/
theorem sciExp_correct (n d : Nat) (hn : 0 < n) (hd : 0 < d) :
    (10 : Rat) ^ (sciExp n d) ≤ (n : Rat) / (d : Rat) ∧ (n : Rat) / (d : Rat) < (10 : Rat) ^ (sciExp n d + 1) :=
  sciExp_spec n d hn hd

/-- the hypotheses of `roundSig_error` are satisfiable (`%.6g` of 1/3) -/
example : (1 : Nat) ≤ 6 ∧ ((1 : Rat) / 3 ≠ 0) := ⟨by decide, by norm_num⟩

/-! ## Stage 2: per-format round trips (string level) -/

theorem roundtrip_xyz (d : XyzS) (h : reprXyz d = true) : parseTextXyz (writeTextXyz d) = .ok (quantXyz d) :=
  DS.Formats.roundtrip_xyz d h

example : reprXyz ⟨"NaCl  ".toList, [⟨"Na1+".toList, 0, 1/2, -1/3⟩, ⟨"Cl".toList, 1/2, 1/2, 1/2⟩]⟩ = true := by decide +kernel
example : reprXyz ⟨[], []⟩ = true := by decide +kernel

theorem roundtrip_rawxyz (d : List PAtom) (h : reprRaw d = true) : parseTextRaw (writeTextRaw d) = .ok (quantRaw d) :=
  DS.Formats.roundtrip_rawxyz d h

example : reprRaw [⟨"Na1+".toList, 0, 1/2, -1/3⟩, ⟨"Cl".toList, 1/2, 1/2, 1/2⟩] = true := by decide +kernel
example : reprRaw [⟨[], 0, 1/2, -1/3⟩, ⟨[], 1/2, 1/2, 1/2⟩] = true := by decide +kernel

theorem roundtrip_discus (d : DiscusS) (h : reprDiscus d = true) :
    parseTextDiscus (writeTextDiscus d) = .ok (quantDiscus d) :=
  DS.Formats.roundtrip_discus d h

example : reprDiscus ⟨"Ni fcc".toList, "F m -3 m".toList, 25, 0, ⟨3, 3, 3, 90, 90, 90⟩,
    [⟨"Ni".toList, ⟨0, 1/2, 1/2⟩, 1/3⟩]⟩ = true := by decide +kernel

theorem roundtrip_pdffit (d : PdffitS) (h : reprPdffit d = true) :
    parseTextPdffit (writeTextPdffit d) = .ok (quantPdffit d) :=
  DS.Formats.roundtrip_pdffit d h

example : reprPdffit ⟨"Ni fcc".toList, 1, 0, 0, 1, 0, "Fm-3m".toList, 0, 12, ⟨3, 3, 3, 90, 90, 120⟩, ⟨0, 0, 0, 0, 0, 0⟩,
    [⟨"Na1+".toList, ⟨0, 1/2, 1/2⟩, 1/3, ⟨0, 0, 0⟩, 0, ⟨1/100, 1/100, 1/50⟩, ⟨0, 0, 0⟩, ⟨1/200, 0, 0⟩, ⟨0, 0, 0⟩⟩]⟩ = true := by
  decide +kernel

theorem roundtrip_pdb (d : PdbS) (h : reprPdb d = true) : parseTextPdb (writeTextPdb d) = .ok (quantPdb d) :=
  DS.Formats.roundtrip_pdb d h

/-- non-vacuity of `roundtrip_pdb` (negative and column-filling coordinates, ANISOU, CRYST1) -/
theorem roundtrip_pdb_example : reprPdb exPdb = true := exPdb_repr

/-- the column-width conditions of `reprPdb`, numerically: a value whose rounded magnitude has at
most `d` integer digits fits `%w.pf` when `sign + d + 1 + p ≤ w` -/
theorem pdb_fits_of_bound (w p d : Nat) (x : Rat) (hd : 1 ≤ d) (hp : 1 ≤ p) (hm : scaledAbs p x < 10 ^ (d + p))
    (hw : (if x < 0 then 1 else 0) + d + 1 + p ≤ w) : fitsF w p x = true :=
  fitsF_of_bound w p d x hd hp hm hw

/-! ## second round trip: the re-read structure is a fixed point (no drift, growth or failure) -/

/-- a number printed with `P` significant digits re-prints to itself -/
theorem roundSig_idem (P : Nat) (x : Rat) : roundSig P (roundSig P x) = roundSig P x :=
  DS.Dec.roundSig_idem P x

theorem idem_xyz (d : XyzS) (h : reprXyz d = true) : parseTextXyz (writeTextXyz (quantXyz d)) = .ok (quantXyz d) :=
  DS.Formats.idem_xyz d h

theorem idem_rawxyz (d : List PAtom) (h : reprRaw d = true) : parseTextRaw (writeTextRaw (quantRaw d)) = .ok (quantRaw d) :=
  DS.Formats.idem_rawxyz d h

theorem idem_discus (d : DiscusS) (h : reprDiscus d = true) :
    parseTextDiscus (writeTextDiscus (quantDiscus d)) = .ok (quantDiscus d) :=
  DS.Formats.idem_discus d h

theorem idem_pdffit (d : PdffitS) (h : reprPdffit d = true) :
    parseTextPdffit (writeTextPdffit (quantPdffit d)) = .ok (quantPdffit d) :=
  DS.Formats.idem_pdffit d h

theorem idem_pdb (d : PdbS) (h : reprPdb d = true) : parseTextPdb (writeTextPdb (quantPdb d)) = .ok (quantPdb d) :=
  DS.Formats.idem_pdb d h

/-- the representable range is closed under the round trip (what was read can be written again) -/
theorem repr_closed :
    (∀ d, reprXyz d = true → reprXyz (quantXyz d) = true) ∧ (∀ d, reprRaw d = true → reprRaw (quantRaw d) = true) ∧
    (∀ d, reprDiscus d = true → reprDiscus (quantDiscus d) = true) ∧
    (∀ d, reprPdffit d = true → reprPdffit (quantPdffit d) = true) ∧ (∀ d, reprPdb d = true → reprPdb (quantPdb d) = true) :=
  ⟨reprXyz_quant, reprRaw_quant, reprDiscus_quant, reprPdffit_quant, reprPdb_quant⟩

/-! ## XCFG and CIF: the file-level statements -/

/-- full-strength statement for XCFG: `parse(write(d)) = quant(d)` on the modelled writer and reader,
for every document in `reprXcfg = rangeXcfg ∧ wfXcfg` -/
def roundtrip_xcfg_statement : Prop := DS.Formats.roundtrip_xcfg_statement

/-- full-strength statement for CIF on the layout `P_cif.toLines` emits (PyCifRW itself is not
modelled) -/
def roundtrip_cif_statement : Prop := DS.Formats.roundtrip_cif_statement

/-- XCFG: `readStr(writeStr(s, "xcfg"), "xcfg")` is the quantised document, for every document of the
range (at least one atom, nine base components, nine tensor components, element symbols that are single non-numeric
tokens, auxiliary names that are tokens, reduced coordinates that print below 1) that is consistent (`wfXcfg`: one value per stored auxiliary and a
velocity on every atom when the first has one — otherwise the real writer raises `AttributeError`) -/
theorem roundtrip_xcfg : roundtrip_xcfg_statement := DS.Formats.roundtrip_xcfg

theorem roundtrip_xcfg' (d : XcfgS) (h : reprXcfg d = true) : parseXcfg (ofText (toText (writeXcfg d))) = .ok (quantXcfg d) :=
  DS.Formats.roundtrip_xcfg d h

/-- non-vacuity of `roundtrip_xcfg`: stored auxiliary, partial occupancy, anisotropic U, velocities -/
example : reprXcfg ⟨[3, 0, 0, 0, 3, 0, 0, 0, 3], false, ["charge".toList, "Uiso".toList],
    [⟨"Na".toList, 22.9898, ⟨0, 1/2, -1/3⟩, 1/2, [1/100, 0, 0, 0, 1/50, 1/300, 0, 1/300, 1/100], some ⟨1, 2, 3⟩, [1]⟩,
     ⟨"cl1-".toList, 35.453, ⟨1/4, 1/4, 1/4⟩, 1, [0, 0, 0, 0, 0, 0, 0, 0, 0], some ⟨0, 0, 1/7⟩, [-1]⟩]⟩ = true := by decide +kernel

/-- the two consistency clauses are needed: a document with a value too many is written with an extra
column and the reader rejects the text (the model's writer is total; the real one raises) -/
example : parseXcfg (ofText (toText (writeXcfg ⟨[3, 0, 0, 0, 3, 0, 0, 0, 3], false, [],
    [⟨"C".toList, 12, ⟨0, 0, 0⟩, 1, [0, 0, 0, 0, 0, 0, 0, 0, 0], none, [1]⟩]⟩))) = .error .sfe := by decide +kernel

/-- CIF: `parse(write(d)) = quant(d)` for every document with at least one atom whose element symbols
have the form letters[digit sign] (any title, any cell, any ADPs given by nine components) -/
theorem roundtrip_cif : roundtrip_cif_statement := DS.Formats.roundtrip_cif

theorem roundtrip_cif' (d : CifS) (h : reprCif d = true) : parseCif (ofText (toText (writeCif d))) = .ok (quantCif d) :=
  DS.Formats.roundtrip_cif d h

/-- non-vacuity of `roundtrip_cif`: two-line title, repeated element, isotropic and anisotropic atoms -/
example : reprCif ⟨"NaCl\nrock salt".toList, ⟨5.64, 5.64, 5.64, 90, 90, 90⟩,
    [⟨"Na1+".toList, ⟨0, 0, 0⟩, 1/100, 1, [1/100, 0, 0, 0, 1/100, 0, 0, 0, 1/100]⟩,
     ⟨"Cl".toList, ⟨1/2, 1/2, 1/2⟩, 1/75, 1/2, [1/100, 0, 1/500, 0, 1/50, 0, 1/500, 0, 1/100]⟩,
     ⟨"Cl".toList, ⟨1/2, 0, 0⟩, 0, 1, [0, 0, 0, 0, 0, 0, 0, 0, 0]⟩]⟩ = true := by decide +kernel

/-! ## XCFG and CIF: second round trip

The reader's result has its own type, so the second trip goes through the document the writer sees for
the re-read structure (`reloadCif`, `reloadXcfg`: the reader's attribute assignments, with the ADP
semantics of a lattice with orthogonal axes; compared off-line with the real reader on 300 random
structures each, not part of the continuous correspondence). -/

/-- CIF: what was read can be written and read again (no failure on the second trip) -/
theorem repr_closed_cif (d : CifS) (h : reprCif d = true) : reprCif (reloadCif (quantCif d)) = true :=
  DS.Formats.reprCif_reload d h

/-- CIF: the second trip is again a first trip of the re-read document, unconditionally -/
theorem second_cif (d : CifS) (h : reprCif d = true) :
    parseCif (ofText (toText (writeCif (reloadCif (quantCif d))))) = .ok (quantCif (reloadCif (quantCif d))) :=
  DS.Formats.roundtrip_cif _ (DS.Formats.reprCif_reload d h)

/-- CIF: the second reading is the first reading (no drift), for documents that are stable in the sense
of `stableCif`: element symbols in normal form (else the site labels are renumbered), anisotropic tensors
still anisotropic after rounding to 6 decimals (else the ADP type switches), equivalent isotropic value
of the rounded tensor printing as before.  Each excluded point is a real change on the second trip. -/
theorem idem_cif (d : CifS) (h : reprCif d = true) (hs : stableCif d = true) :
    parseCif (ofText (toText (writeCif (reloadCif (quantCif d))))) = .ok (quantCif d) :=
  DS.Formats.idem_cif d h hs

/-- non-vacuity of `idem_cif` (isotropic, anisotropic and zero ADPs, an ion, a repeated element) -/
example : reprCif ⟨"NaCl\nrock salt".toList, ⟨5.64, 5.64, 5.64, 90, 90, 90⟩,
    [⟨"Na1+".toList, ⟨0, 0, 0⟩, 1/100, 1, [1/100, 0, 0, 0, 1/100, 0, 0, 0, 1/100]⟩,
     ⟨"Cl".toList, ⟨1/2, 1/2, 1/2⟩, 1/75, 1/2, [1/100, 0, 1/500, 0, 1/50, 0, 1/500, 0, 1/100]⟩,
     ⟨"Cl".toList, ⟨1/2, 0, 0⟩, 0, 1, [0, 0, 0, 0, 0, 0, 0, 0, 0]⟩]⟩ = true ∧
  stableCif ⟨"NaCl\nrock salt".toList, ⟨5.64, 5.64, 5.64, 90, 90, 90⟩,
    [⟨"Na1+".toList, ⟨0, 0, 0⟩, 1/100, 1, [1/100, 0, 0, 0, 1/100, 0, 0, 0, 1/100]⟩,
     ⟨"Cl".toList, ⟨1/2, 1/2, 1/2⟩, 1/75, 1/2, [1/100, 0, 1/500, 0, 1/50, 0, 1/500, 0, 1/100]⟩,
     ⟨"Cl".toList, ⟨1/2, 0, 0⟩, 0, 1, [0, 0, 0, 0, 0, 0, 0, 0, 0]⟩]⟩ = true := by decide +kernel

/-- the stability clauses are needed: two symbols that differ only in letter case get the labels
`NA1`, `Na1` on the first trip and `Na1`, `Na2` on the second -/
example : (quantCif ⟨[], ⟨4, 4, 4, 90, 90, 90⟩,
      [⟨"NA".toList, ⟨0, 0, 0⟩, 0, 1, [0, 0, 0, 0, 0, 0, 0, 0, 0]⟩,
       ⟨"Na".toList, ⟨1/2, 1/2, 1/2⟩, 0, 1, [0, 0, 0, 0, 0, 0, 0, 0, 0]⟩]⟩).atoms.map (·.label) = ["NA1".toList, "Na1".toList] ∧
    (quantCif (reloadCif (quantCif ⟨[], ⟨4, 4, 4, 90, 90, 90⟩,
      [⟨"NA".toList, ⟨0, 0, 0⟩, 0, 1, [0, 0, 0, 0, 0, 0, 0, 0, 0]⟩,
       ⟨"Na".toList, ⟨1/2, 1/2, 1/2⟩, 0, 1, [0, 0, 0, 0, 0, 0, 0, 0, 0]⟩]⟩))).atoms.map (·.label) = ["Na1".toList, "Na2".toList] := by
  decide +kernel

/-- full-strength second-trip statement for XCFG: the second reading is the first one whenever the
re-read document is representable, the occupancy / displacement classification survives printing, and the
second write chooses the same length unit (printed exactly) and does not recentre.
NOT proved in this form: `idem_xcfg_partial` assumes directly that the three position columns reprint
(instead of deriving it from "same length unit, no recentring", which needs a theory of the double
rounding `fl` that is not developed). -/
def idem_xcfg_statement : Prop :=
  ∀ (unit : Bool) (mass : Str → Rat) (d : XcfgS), reprXcfg d = true →
    reprXcfg (reloadXcfg unit mass (quantXcfg d)) = true →
    classStableXcfg mass d = true →
    (xcfgLayout (reloadXcfg unit mass (quantXcfg d))).a = (xcfgLayout d).a →
    roundSig 8 ((xcfgLayout d).a : Rat) = ((xcfgLayout d).a : Rat) →
    (xcfgLayout (reloadXcfg unit mass (quantXcfg d))).shift = ⟨0, 0, 0⟩ →
    parseXcfg (ofText (toText (writeXcfg (reloadXcfg unit mass (quantXcfg d))))) = .ok (quantXcfg d)

/-- XCFG: the second trip is again a first trip of the re-read document whenever that document is
representable (no failure) -/
theorem second_xcfg (unit : Bool) (mass : Str → Rat) (d : XcfgS)
    (h' : reprXcfg (reloadXcfg unit mass (quantXcfg d)) = true) :
    parseXcfg (ofText (toText (writeXcfg (reloadXcfg unit mass (quantXcfg d))))) =
      .ok (quantXcfg (reloadXcfg unit mass (quantXcfg d))) :=
  DS.Formats.roundtrip_xcfg _ h'

/-- XCFG, no auxiliary growth (the defect repaired by 4ed75d5, as a theorem): the second write emits
exactly the auxiliary columns of the first (occupancy and displacement columns among them) and makes the same
choice for velocities, whenever some non-unit occupancy and some anisotropic tensor survive printing with 8
significant digits (`classStableXcfg`; otherwise a column is legitimately dropped) -/
theorem xcfg_same_columns (unit : Bool) (mass : Str → Rat) (d : XcfgS) (h : reprXcfg d = true)
    (hs : classStableXcfg mass d = true) :
    (xcfgLayout (reloadXcfg unit mass (quantXcfg d))).aux = (xcfgLayout d).aux ∧
    (xcfgLayout (reloadXcfg unit mass (quantXcfg d))).noVel = (xcfgLayout d).noVel :=
  let hc := DS.Formats.xcfg_same_columns unit mass d h hs
  ⟨hc.2.1, hc.1⟩

/-- XCFG, proved part of the second trip: under `stableXcfg` (re-read document representable;
classification of occupancies and tensors survives printing; same length unit; position columns reprint)
the second reading is the first reading: same atoms, same auxiliary columns, same values -/
theorem idem_xcfg_partial (unit : Bool) (mass : Str → Rat) (d : XcfgS) (h : reprXcfg d = true)
    (hs : stableXcfg unit mass d = true) :
    parseXcfg (ofText (toText (writeXcfg (reloadXcfg unit mass (quantXcfg d))))) = .ok (quantXcfg d) :=
  DS.Formats.idem_xcfg_partial unit mass d h hs

/-- non-vacuity of `xcfg_same_columns` and `idem_xcfg_partial` (stored auxiliary, partial occupancy,
anisotropic U, velocities, a negative coordinate that makes the first write recentre the structure) -/
example : stableXcfg false (fun _ => 0) ⟨[3, 0, 0, 0, 3, 0, 0, 0, 3], false, ["charge".toList, "Uiso".toList],
    [⟨"Na".toList, 22.9898, ⟨0, 1/2, -1/3⟩, 1/2, [1/100, 0, 0, 0, 1/50, 1/300, 0, 1/300, 1/100], some ⟨1, 2, 3⟩, [1]⟩,
     ⟨"cl1-".toList, 35.453, ⟨1/4, 1/4, 1/4⟩, 1, [0, 0, 0, 0, 0, 0, 0, 0, 0], some ⟨0, 0, 1/7⟩, [-1]⟩]⟩ = true := by
  decide +kernel

/-- `classStableXcfg` is needed: an occupancy that prints as `1` makes the second write drop the column -/
example : (xcfgLayout ⟨[3, 0, 0, 0, 3, 0, 0, 0, 3], false, [],
      [⟨"C".toList, 12, ⟨0, 0, 0⟩, 1 - 1 / 10 ^ 12, [0, 0, 0, 0, 0, 0, 0, 0, 0], none, []⟩]⟩).aux = ["occupancy".toList] ∧
    (xcfgLayout (reloadXcfg false (fun _ => 12) (quantXcfg ⟨[3, 0, 0, 0, 3, 0, 0, 0, 3], false, [],
      [⟨"C".toList, 12, ⟨0, 0, 0⟩, 1 - 1 / 10 ^ 12, [0, 0, 0, 0, 0, 0, 0, 0, 0], none, []⟩]⟩))).aux = [] := by
  decide +kernel

/-- XCFG, one record: every entry line reads back, column by column, as the printed numbers -/
theorem roundtrip_xcfg_partial (L : XLayout) (a : XAtom) :
    ∃ vs : List Rat, xcfgEntry L a = ssv (vs.map g8) ∧
      (splitWs (xcfgEntry L a)).mapM parseDec = some (vs.map (roundSig 8)) :=
  xcfgEntry_roundtrip L a

/-- CIF, one record: every `_atom_site` row splits into its eight values and the numeric ones
read back rounded to the printed precision -/
theorem roundtrip_cif_partial (label : Str) (a : CifAtom) (hl : IsTok label) (he : IsTok a.el) :
    splitWs (cifAtomLine label a) =
      [label, a.el, fmtFbody 6 a.xyz.x, fmtFbody 6 a.xyz.y, fmtFbody 6 a.xyz.z, fmtFbody 6 a.uiso,
       (if uIsIso a.u then "Uiso".toList else "Uani".toList), fmtFbody 4 a.occ] ∧
    ([fmtFbody 6 a.xyz.x, fmtFbody 6 a.xyz.y, fmtFbody 6 a.xyz.z, fmtFbody 6 a.uiso, fmtFbody 4 a.occ].mapM parseDec
      = some [roundTo 6 a.xyz.x, roundTo 6 a.xyz.y, roundTo 6 a.xyz.z, roundTo 6 a.uiso, roundTo 4 a.occ]) :=
  cif_row_roundtrip label a hl he

/-- the hypotheses of `roundtrip_cif_partial` are satisfiable -/
example : IsTok "Na1".toList ∧ IsTok "Na".toList :=
  ⟨⟨by decide, by intro c hc; revert c; decide⟩, ⟨by decide, by intro c hc; revert c; decide⟩⟩

end DS.Props.C04

import DS.Lemmas.SymText
import DS.Model.Sinks
import DS.Gen.Sinks
/-!
# C17 — file content is treated as data, never executed

(a) `getSymOp` is modelled by the literal grammar of `DS/Model/SymText.lean` (no evaluator exists in
    the model: the only operations are digit conversion, addition, division of two literals, mod 1).
(b) `Gen.sinks` is regenerated on every run by `translate/sinks.py` from the `ast` of every module
    reachable from the parser entry points; the theorems below are re-decided against it.
-/
namespace DS.Props.C17
open DS DS.SymText DS.Sinks

/-! ### (a) operator text -/

/-- An accepted operator is numeric: there are token lists for the three components such that each
rotation row is the sum of the signed unit vectors of its variable terms and each translation is
`Frac.fract` of the sum of its literal numbers, with numerator in `[0, den)`; that `fract` keeps the value
modulo 1 is spelt out for the first component (last conjunct). -/
theorem symop_numeric (s : List Char) (o : SymOp) (h : parseSymOp s = .ok o) :
    ∃ a b c rest ta tb tc,
      splitComma (normalize s) = a :: b :: c :: rest ∧
      parseRow a = some ta ∧ parseRow b = some tb ∧ parseRow c = some tc ∧
      o.r1 = rowVec ta ∧ o.r2 = rowVec tb ∧ o.r3 = rowVec tc ∧
      o.t1 = (rowConst ta).fract ∧ o.t2 = (rowConst tb).fract ∧ o.t3 = (rowConst tc).fract ∧
      (0 ≤ o.t1.num ∧ o.t1.num < o.t1.den) ∧ (0 ≤ o.t2.num ∧ o.t2.num < o.t2.den) ∧ (0 ≤ o.t3.num ∧ o.t3.num < o.t3.den) ∧
      (∃ k : Int, (rowConst ta).num = o.t1.num + k * (rowConst ta).den) := by
  unfold parseSymOp at h
  cases hsp : splitComma (normalize s) with
  | nil => simp [hsp] at h
  | cons a rest =>
    simp only [hsp] at h
    cases ha : parseRow a with
    | none => simp [ha] at h
    | some ta =>
      simp only [ha] at h
      cases rest with
      | nil => simp at h
      | cons b rest2 =>
        simp only at h
        cases hb : parseRow b with
        | none => simp [hb] at h
        | some tb =>
          simp only [hb] at h
          cases rest2 with
          | nil => simp at h
          | cons c rest3 =>
            simp only at h
            cases hc : parseRow c with
            | none => simp [hc] at h
            | some tc =>
              simp only [hc, Except.ok.injEq] at h
              subst h
              have oka := (scanRow_alphabet _ _ _ _ ha).2
              have okb := (scanRow_alphabet _ _ _ _ hb).2
              have okc := (scanRow_alphabet _ _ _ _ hc).2
              have fa := fract_range _ (rowConst_den_pos _ oka)
              have fb := fract_range _ (rowConst_den_pos _ okb)
              have fc := fract_range _ (rowConst_den_pos _ okc)
              exact ⟨a, b, c, rest3, ta, tb, tc, rfl, ha, hb, hc, rfl, rfl, rfl, rfl, rfl, rfl,
                ⟨fa.1, fa.2.1⟩, ⟨fb.1, fb.2.1⟩, ⟨fc.1, fc.2.1⟩, fract_congr _⟩

/-- Any character outside the alphabet `0-9 . / + - x y z` in one of the three components
(after removal of blanks and lower-casing) makes the whole operator a format error. -/
theorem symop_rejects (s : List Char) (a b c : List Char) (rest : List (List Char))
    (hsp : splitComma (normalize s) = a :: b :: c :: rest)
    (hbad : ∃ ch ∈ a ++ b ++ c, inAlphabet ch = false) :
    parseSymOp s = .error .format := by
  obtain ⟨ch, hmem, hch⟩ := hbad
  have key : ∀ cs toks, parseRow cs = some toks → ch ∈ cs → False := by
    intro cs toks hp hm
    have := (scanRow_alphabet _ _ _ _ hp).1 ch hm
    rw [this] at hch; cases hch
  simp only [List.mem_append] at hmem
  unfold parseSymOp
  simp only [hsp]
  cases ha : parseRow a with
  | none => rfl
  | some ta =>
    cases hb : parseRow b with
    | none => rfl
    | some tb =>
      cases hc : parseRow c with
      | none => rfl
      | some tc =>
        rcases hmem with (hm | hm) | hm
        · exact (key _ _ ha hm).elim
        · exact (key _ _ hb hm).elim
        · exact (key _ _ hc hm).elim

/-- fewer than three components: never accepted (the source raises `IndexError` on `eqlist[i]`, or
reports a malformed earlier component first) -/
theorem symop_too_few (s : List Char) (h : (splitComma (normalize s)).length < 3) :
    parseSymOp s = .error .index ∨ parseSymOp s = .error .format := by
  unfold parseSymOp
  cases hsp : splitComma (normalize s) with
  | nil => exact Or.inl rfl
  | cons a rest =>
    simp only
    cases parseRow a with
    | none => exact Or.inr rfl
    | some ta =>
      cases rest with
      | nil => exact Or.inl rfl
      | cons b rest2 =>
        simp only
        cases parseRow b with
        | none => exact Or.inr rfl
        | some tb =>
          cases rest2 with
          | nil => exact Or.inl rfl
          | cons c rest3 => rw [hsp] at h; simp at h; omega

/-- all 27 rows with entries in {-1,0,1} -/
def rows27 : List (Int × Int × Int) :=
  [-1, 0, 1].flatMap fun a => [-1, 0, 1].flatMap fun b => [-1, 0, 1].map fun c => (a, b, c)

/-- rendering then parsing a row gives the row back: rotation entries exactly, translation `k/24` as
the same rational in `[0,1)` -/
def roundTripsRow (r : Int × Int × Int) (k : Nat) : Bool :=
  match parseRow (renderRow r k) with
  | some toks => rowVec toks == r && (rowConst toks).fract.num * 24 == (k : Int) * (rowConst toks).fract.den
  | none => false

theorem render_parse : ∀ r ∈ rows27, ∀ k ∈ List.range 24, roundTripsRow r k = true := by
  decide +kernel

/-! ### (b) sinks -/

/-- The reviewed exceptions.  Each entry is matched on module, function, kind, the derivation of the
critical argument (single-assignment locals substituted) and the preceding `if …: raise` guards, so
any change to one of these call sites invalidates the entry. -/
def allowList : List Allow := [
  { module := "parsers", func := "getParser", kind := .exec,
    derivation := "'from diffpy.structure.parsers import %s as pm' % parser_index[format]['module']",
    guards := "format not in parser_index",
    reason := "the imported module name is the 'module' value of the literal registry `parser_index`; the format name comes from the caller (Structure.read / loadStructure / transtru), never from file content, and unknown names are rejected before the lookup" },
  { module := "parsers.p_cif", func := "P_cif._get_atom_setters", kind := .getattr,
    derivation := "P_cif . (P_cif._atom_setters.get('_tr' + p.lower(), '_tr_ignore'))",
    guards := "",
    reason := "the attribute name is a value of the class-level table `_atom_setters` (built from a literal tuple of `_tr_*` method names) or the literal default; a loop tag from the file only selects among them; the object is the parser class" },
  { module := "parsers.p_xcfg", func := "_assign_auxiliaries", kind := .setattr,
    derivation := "a . (prop if prop[1] <= prop[2] else prop[0] + prop[2] + prop[1])",
    guards := "",
    reason := "sets a displacement-parameter attribute (U11..B33 after index ordering) on the atom being built; the value is a float of the data row" },
  { module := "parsers.p_xcfg", func := "_assign_auxiliaries", kind := .setattr,
    derivation := "a . (prop)",
    guards := "",
    reason := "auxiliary column name from the file used as attribute name on the returned atom only; the value is a float of the data row; no call results" }
]

/-- no eval/exec/compile/import/process/file-writing/unpickling call on the parse path takes a
possibly file-derived argument, outside the reviewed list -/
theorem no_tainted_exec_sink : taintedExecSinks allowList Gen.sinks = [] := by decide +kernel

/-- no getattr/setattr/format call on the parse path takes a possibly file-derived name, outside the
reviewed list (in particular the format-field expressions of XCFG auxiliaries are used only by the
writer, which is not on the parse path) -/
theorem attr_sinks_reviewed : taintedAttrSinks allowList Gen.sinks = [] := by decide +kernel

/-- the translator's plain-text scan for `eval(`/`exec(`/`compile(`/`__import__(` agrees with its ast pass -/
theorem sink_scan_crosscheck : Gen.sinkCrosscheck = true := by decide

/-- the only sinks of kind eval/exec/compile/import anywhere in the reachable modules are the
allow-listed ones (so `getSymOp` contains no evaluator) -/
theorem no_eval_anywhere :
    (Gen.sinks.filter fun s => (s.kind == .eval || s.kind == .exec || s.kind == .compile || s.kind == .import_
        || s.kind == .importlib) && !allowed allowList s) = [] := by decide +kernel

/-! ### non-vacuity -/

/-- every allow-list entry is in use (a stale entry fails the build) -/
example : allowList.all (fun a => Gen.sinks.any a.covers) = true := by decide +kernel

/-- the parse path contains sinks (the filters above do not run over an empty list) -/
example : (Gen.sinks.filter (·.onParsePath)).length ≥ 4 := by decide

example : ∃ o, parseSymOp "x, 1/2-Y, z+.5".toList = .ok o ∧ o.r2 = (0, -1, 0) ∧ o.t2 = ⟨1, 2⟩ ∧ o.t3 = ⟨5, 10⟩ :=
  ⟨_, rfl, by decide, by decide, by decide⟩

-- equality of outcomes is decidable, so the examples below are settled by evaluation in the kernel alone
deriving instance DecidableEq for Except

example : parseSymOp "x,y,z+__import__('os').getcwd()".toList = .error .format := by decide +kernel
example : parseSymOp "x,y,2**-1".toList = .error .format := by decide +kernel
example : parseSymOp "x,y,(1)/2".toList = .error .format := by decide +kernel
example : parseSymOp "x,y,1e0".toList = .error .format := by decide +kernel
example : parseSymOp "x,y".toList = .error .index := by decide +kernel

end DS.Props.C17

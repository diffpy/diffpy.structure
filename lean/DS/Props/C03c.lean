import DS.Lemmas.SymType
import DS.Gen.SIndex
/-!
# C03 (c) — the International Tables number agrees with the TYPE the operations imply: rotation vs screw, mirror vs glide

For an operation `g = (R, t)`: `n` the order of `R`, `N = 1 + R + … + R^(n-1)`, `s = N t` (`g^n` is the pure translation
`s`), `L` the translation lattice of the setting (ℤ-span of the unit translations and of the listed centring
translations).  The *screw order* of `g` is the least `m ≥ 1` with `m·s ∈ N(L)` (`DS.SymType.IsScrewOrder`): 1 for a coset
that contains a pure rotation / reflection / roto-inversion, 2 for 2₁ and ordinary glides, 4 for 4₁/4₃/d, 3 for 3₁/3₂, 6 for
6₁/6₅.  The census `(det R, trace R, m) ↦ number of cosets` is compared with the committed reference census of
`number % 1000` (`DS.Ref.itCensus`).

`Gen.allS` is regenerated from the repository's tables on every run (`translate/screw.py`); `Gen.allS_ok` is the
conjunction of the per-setting kernel obligations `sgN_type : checkScrew sgN sgN_sc = true := by decide +kernel`.
Settings whose operations give another census get no such theorem; they are counted in `Gen.nTypeBad`
(`Gen.typeBadNumbers`; the known one is #3004, I 1 2₁ 1, whose census is that of No. 5) and, when only the census
differs, come with the kernel-checked pair `sgN_type_ops : … = true`, `sgN_type_census : … = false`.
-/
namespace DS.Props.C03c
open DS DS.SymType

/-- If the checker accepts then for every operation the claimed `m` really is its screw order — (a) the witness
gives `m·s ∈ N(L)`, (b) the functionals exclude `m'·s ∈ N(L)` for every `1 ≤ m' < m` and *all* integer combinations of
the generators — and the census equals the reference census of `number % 1000`. -/
theorem checkScrew_sound {g : SG} {c : List OpCert} (h : checkScrew g c = true) : TypeOK g (c.map (·.m)) :=
  SymType.checkScrew_sound h

/-- hence, for every tabulated setting that passed: screw orders of all operations and census of the type -/
theorem all_types_ok : ∀ p ∈ Gen.allS, TypeOK p.1 (p.2.map (·.m)) :=
  fun p hp => checkScrew_sound (Gen.allS_ok p hp)

/-- the screw orders are determined by the operations: any two assignments coincide (so `TypeOK` pins the census) -/
theorem orders_unique {gens : List V} {ops : List Op} {ms ms' : List Nat}
    (h : OrdersAre gens ops ms) (h' : OrdersAre gens ops ms') : ms = ms' :=
  SymType.orders_unique h h'

/-- Origin shift: conjugating `(R, t)` by the translation `u` changes `t` to `t + (1 - R) u` and leaves `s = N t`
unchanged, because `N (1 - R) = 0` when `R^n = 1`. -/
theorem origin_shift_invariant {R : M} {n : Nat} (h : pow R n = Mat3.one) (t u : V) :
    (sumPow R n).mulVec (t.add (u.sub (R.mulVec u))) = (sumPow R n).mulVec t :=
  sumPow_shift h t u

/-- … hence the screw order of every operation, and with it the census, does not depend on the origin -/
theorem screw_order_origin_invariant (gens : List V) (a : Op) (u : V) (m : Nat) :
    IsScrewOrder gens (shift a u) m ↔ IsScrewOrder gens a m :=
  isScrewOrder_shift gens a u m

/-- the screw order belongs to the coset `a·T`: adding a lattice translation to `t` does not change it -/
theorem screw_order_coset_invariant {gens : List V} (a : Op) {l : V} (hl : Span gens l) (m : Nat) :
    IsScrewOrder gens (translate a l) m ↔ IsScrewOrder gens a m :=
  isScrewOrder_translate a hl m

/-- every translated setting is either in `allS` or counted as a finding -/
theorem coverage : Gen.allS.length + Gen.nTypeBad = Gen.allSG.length := Gen.allS_length

/-- the reference keys of every type are pairwise distinct (so the three clauses of `CensusIs` describe a tally) -/
theorem ref_keys_nodup : ∀ e ∈ Ref.itCensusTable, (e.2.map (·.1)).Nodup := by decide +kernel

/-! ### non-vacuity -/

/-- the two-fold operation of P2₁ (unique axis b): `-x, y+1/2, -z` -/
def op21 : Op := ⟨-1, 0, 0, 0, 1, 0, 0, 0, -1, 0, 12, 0⟩
/-- the two-fold operation of P2: `-x, y, -z` -/
def op2 : Op := ⟨-1, 0, 0, 0, 1, 0, 0, 0, -1, 0, 0, 0⟩
/-- the four-fold operation of P4₁: `-y, x, z+1/4` -/
def op41 : Op := ⟨0, -1, 0, 1, 0, 0, 0, 0, 1, 0, 0, 6⟩
/-- the four-fold operation of P4₂: `-y, x, z+1/2` -/
def op42 : Op := ⟨0, -1, 0, 1, 0, 0, 0, 0, 1, 0, 0, 12⟩
/-- the I centring translation -/
def opI : Op := ⟨1, 0, 0, 0, 1, 0, 0, 0, 1, 12, 12, 12⟩

def p21 : SG := { number := 4, nsym := 2, nprim := 2, short := "P21", pdb := "P 1 21 1", pgname := "PG2",
                  system := .monoclinic, ops := [Op.one, op21] }
def p2 : SG := { p21 with number := 3, ops := [Op.one, op2] }
def ops41 : List Op := [Op.one, op41, op41.comp op41, op41.comp (op41.comp op41)]
def p41 : SG := { p21 with number := 76, nsym := 4, nprim := 4, system := CSys.tetragonal, ops := ops41 }
/-- I 1 2₁ 1 as tabulated under #3004 -/
def i21 : SG := { p21 with number := 3004, nsym := 4, nprim := 2, ops := [Op.one, op21, opI, opI.comp op21] }

/-- P2₁ has m = 2 -/
example : IsScrewOrder (latGens p21.ops) op21 2 :=
  checkOp_sound (c := ⟨2, [0, -1], [(⟨0, 1, 0⟩, 48)]⟩) (by decide +kernel)
/-- … and not 1 (uniqueness) -/
example : ¬ IsScrewOrder (latGens p21.ops) op21 1 := fun h =>
  absurd (isScrewOrder_unique h (checkOp_sound (c := ⟨2, [0, -1], [(⟨0, 1, 0⟩, 48)]⟩) (by decide +kernel))) (by decide +kernel)
/-- P2 has m = 1 -/
example : IsScrewOrder (latGens p2.ops) op2 1 := checkOp_sound (c := ⟨1, [], []⟩) (by decide +kernel)
/-- P4₁ has m = 4 -/
example : IsScrewOrder (latGens p41.ops) op41 4 :=
  checkOp_sound (c := ⟨4, [0, 0, -1], [(⟨0, 0, 1⟩, 96), (⟨0, 0, 1⟩, 96), (⟨0, 0, 1⟩, 96)]⟩) (by decide +kernel)
/-- P4₂ has m = 2 -/
example : IsScrewOrder (latGens p41.ops) op42 2 :=
  checkOp_sound (c := ⟨2, [0, 0, -1], [(⟨0, 0, 1⟩, 96)]⟩) (by decide +kernel)
/-- with the I centring the 2₁ coset contains a pure rotation: m = 1 (why #3004 is not of type No. 4) -/
example : IsScrewOrder (latGens i21.ops) op21 1 := checkOp_sound (c := ⟨1, [0, 0, 0, 0, -1], []⟩) (by decide +kernel)

/-- whole settings: P2₁ and P2 are accepted with their own numbers … -/
example : TypeOK p21 [1, 2] := checkScrew_sound (c := [⟨1, [], []⟩, ⟨2, [0, -1], [(⟨0, 1, 0⟩, 48)]⟩]) (by decide +kernel)
example : TypeOK p2 [1, 1] := checkScrew_sound (c := [⟨1, [], []⟩, ⟨1, [], []⟩]) (by decide +kernel)
/-- … and rejected with each other's (the checker is not trivially true) -/
example : checkScrew { p21 with number := 3 } [⟨1, [], []⟩, ⟨2, [0, -1], [(⟨0, 1, 0⟩, 48)]⟩] = false := by decide +kernel
example : checkScrew p21 [⟨1, [], []⟩, ⟨1, [], []⟩] = false := by decide +kernel
example : checkTypeOps i21 [⟨1, [], []⟩, ⟨1, [0, 0, 0, 0, -1], []⟩, ⟨1, [0, 0, 0, 0, -1], []⟩, ⟨1, [], []⟩] = true
    ∧ checkTypeCensus i21 [⟨1, [], []⟩, ⟨1, [0, 0, 0, 0, -1], []⟩, ⟨1, [0, 0, 0, 0, -1], []⟩, ⟨1, [], []⟩] = false := by
  decide +kernel

/-- the origin-shift lemma applies to a real rotation part: order 4 -/
example : pow (rot op41) 4 = Mat3.one := by decide +kernel
example : IsOrd (rot op41) 4 := (ordSum_spec (R := rot op41) (N := ⟨0, 0, 0, 0, 0, 0, 0, 0, 4⟩) (by decide +kernel)).1

/-- the generated list is not empty -/
example : 0 < Gen.allS.length := by
  have := coverage; have h : Gen.nTypeBad < Gen.allSG.length := by decide +kernel
  omega

end DS.Props.C03c

import DS.Lemmas.OrbitGap
import DS.Props.C03
/-!
# C02 (sites within tolerance of a special position) — `expandPosition` merges the near-coincident
images and returns one position per closeness class

Model: `DS.Orbit` (`expandPosition` transcribed literally on exact coordinates in units `1/(24k)`,
tolerance `E`).  `Props/C02.lean` treats sites whose images are equal or farther apart than `E`
(`Sep`); here the images may be *near* each other: any two images are within `E/4` of each other
(close) or farther apart than `2E` (far) — hypothesis `Gap`, decidable.
-/
namespace DS.Props.C02Gap
open DS DS.Orbit

/-! ### 1. the periodic box distance is a metric on the cell -/

theorem boxDist_symm {D : Int} {p q : P3} (hp : InCell D p) (hq : InCell D q) :
    boxDist D p q = boxDist D q p := Orbit.boxDist_comm hp.pos p q

theorem boxDist_self {D : Int} {p : P3} (hp : InCell D p) : boxDist D p p = 0 := Orbit.boxDist_self hp

theorem boxDist_nonneg {D : Int} {p q : P3} (hp : InCell D p) (hq : InCell D q) :
    0 ≤ boxDist D p q := Orbit.boxDist_nonneg hp.pos p q

theorem boxDist_eq_zero {D : Int} {p q : P3} (hp : InCell D p) (hq : InCell D q)
    (h : boxDist D p q = 0) : p = q := Orbit.boxDist_eq_zero hp hq h

theorem boxDist_triangle {D : Int} {p q r : P3} (hp : InCell D p) (hq : InCell D q) (hr : InCell D r) :
    boxDist D p r ≤ boxDist D p q + boxDist D q r := Orbit.boxDist_triangle hp.pos p q r

/-! ### 2. closeness is an equivalence relation on the images -/

/-- under the gap hypothesis "within `E/4`" is reflexive, symmetric and transitive on the images -/
theorem close_equivalence {k E : Int} (hk : 0 < k) (hE : 0 < E) {off x : P3} {ops : List Op}
    (hgap : Gap ops k E off x) :
    (∀ a ∈ ops, closeB (24 * k) E (img a k off x) (img a k off x) = true) ∧
    (∀ a ∈ ops, ∀ b ∈ ops, closeB (24 * k) E (img a k off x) (img b k off x) = true →
        closeB (24 * k) E (img b k off x) (img a k off x) = true) ∧
    (∀ a ∈ ops, ∀ b ∈ ops, ∀ c ∈ ops, closeB (24 * k) E (img a k off x) (img b k off x) = true →
        closeB (24 * k) E (img b k off x) (img c k off x) = true →
        closeB (24 * k) E (img a k off x) (img c k off x) = true) :=
  have hc := closeness_of_gap hk hE hgap
  ⟨fun _ ha => hc.refl hk hE ha, fun _ ha _ hb h => hc.symm hk ha hb h, hc.trans⟩

/-- images in one bucket of the hash table are close -/
theorem same_bucket_close {k E : Int} (hk : 0 < k) (hE : 0 < E) {off x : P3} {ops : List Op}
    (hgap : Gap ops k E off x) {a b : Op} (ha : a ∈ ops) (hb : b ∈ ops)
    (h : bucket E (img a k off x) = bucket E (img b k off x)) :
    closeB (24 * k) E (img a k off x) (img b k off x) = true :=
  (closeness_of_gap hk hE hgap).of_bucket_eq hk hE ha hb h

/-! ### 3. the loop invariant -/

/-- the invariant holds before the loop -/
theorem invariant_init (k E : Int) (off x : P3) :
    GInv k E off x [] { positions := [], keymap := [], classes := [] } :=
  ginv_iff.2 (classInv_init _ k E off x)

/-- one iteration of the literal loop (bucket hit / alias to the nearest listed position / new
position) preserves the invariant `GInv` -/
theorem invariant_step {k E : Int} (hk : 0 < k) (hE : 0 < E) {off x : P3} {done : List Op} {s : St}
    {a : Op} (hinv : GInv k E off x done s) (hgap : Gap (done ++ [a]) k E off x) :
    GInv k E off x (done ++ [a]) (stepOp k E off x s a) :=
  ginv_iff.2 (classInv_step (closeness_of_gap hk hE hgap) hk hE (List.subset_append_left _ _)
    (List.mem_append_right _ List.mem_cons_self) (ginv_iff.1 hinv))

/-- the invariant holds for the final state -/
theorem invariant_final {k E : Int} (hk : 0 < k) (hE : 0 < E) {off x : P3} {ops : List Op}
    (hgap : Gap ops k E off x) : GInv k E off x ops (expand ops k E off x) :=
  ginv_iff.2 (expand_classInv (closeness_of_gap hk hE hgap) hk hE)

/-! ### 4. the result -/

/-- **expandPosition merges images within tolerance.**  Positions = the first image (table order)
of each closeness class; operation lists = for each listed position the operations whose image is
close to it; multiplicity = number of classes. -/
theorem gap_result {k E : Int} (hk : 0 < k) (hE : 0 < E) {off x : P3} {ops : List Op}
    (hgap : Gap ops k E off x) :
    result ops k E off x =
      (dedupBy (closeB (24 * k) E) (ops.map (fun g => img g k off x)),
       (dedupBy (closeB (24 * k) E) (ops.map (fun g => img g k off x))).map
          (fun p => ops.filter (fun g => closeB (24 * k) E p (img g k off x))),
       (dedupBy (closeB (24 * k) E) (ops.map (fun g => img g k off x))).length) :=
  result_classes (closeness_of_gap hk hE hgap) hk hE

/-- the input site (reduced into the cell) is listed first whenever the identity is the first operation -/
theorem gap_input_first {k E : Int} (hk : 0 < k) (hE : 0 < E) {off x : P3} {ops : List Op}
    (hgap : Gap ops k E off x) (h1 : ops.head? = some Op.one) :
    (result ops k E off x).1.head? = some (red k x) :=
  result_head (closeness_of_gap hk hE hgap) hk hE h1

/-- the returned positions are pairwise farther apart than twice the tolerance -/
theorem gap_positions_far {k E : Int} (hk : 0 < k) (hE : 0 < E) {off x : P3} {ops : List Op}
    (hgap : Gap ops k E off x) {i j : Nat} (hi : i < (result ops k E off x).1.length)
    (hj : j < (result ops k E off x).1.length) (hij : i ≠ j) :
    2 * E < boxDist (24 * k) (result ops k E off x).1[i] (result ops k E off x).1[j] :=
  positions_far hk hE hgap hi hj hij

/-- every operation is attributed to exactly one returned position, one within `E/4` of its image -/
theorem gap_attribution {k E : Int} (hk : 0 < k) (hE : 0 < E) {off x : P3} {ops : List Op}
    (hgap : Gap ops k E off x) (g : Op) (hg : g ∈ ops) :
    ∃ i, ∃ (hi : i < (result ops k E off x).1.length),
      boxDist (24 * k) (result ops k E off x).1[i] (img g k off x) * 4 ≤ E ∧
      g ∈ (result ops k E off x).2.1.getD i [] ∧
      ∀ j (_ : j < (result ops k E off x).1.length), g ∈ (result ops k E off x).2.1.getD j [] → j = i := by
  obtain ⟨i, hi, h1, h2, h3⟩ := result_attribution (closeness_of_gap hk hE hgap) hk hE g hg
  exact ⟨i, hi, closeB_iff.1 h1, h2, h3⟩

/-- when the images are moreover separated (`Sep`) the statement is the one of `C02.orbit_exact` -/
theorem gap_agrees_with_exact {k E : Int} (hk : 0 < k) (hE : 0 < E) {off x : P3} {ops : List Op}
    (hgap : Gap ops k E off x) (hsep : Sep ops k E off x) :
    result ops k E off x =
      (dedupFirst (ops.map (fun g => img g k off x)),
       (dedupFirst (ops.map (fun g => img g k off x))).map
          (fun p => ops.filter (fun g => decide (img g k off x = p))),
       (dedupFirst (ops.map (fun g => img g k off x))).length) :=
  result_exact hk hE hsep

/-! ### 5. a perturbed special site has the multiplicity and the classes of the exact site -/

/-- closeness of the images of the perturbed site = equality of the images of the special site -/
theorem close_iff_exact_eq {k E : Int} (hk : 0 < k) (hE : 0 < E) {off x x0 : P3} {ops : List Op}
    (hsep : Sep ops k E off x0) (hnear : Near ops k E off x x0) {a b : Op} (ha : a ∈ ops) (hb : b ∈ ops) :
    boxDist (24 * k) (img a k off x) (img b k off x) * 4 ≤ E ↔ img a k off x0 = img b k off x0 := by
  rw [← closeB_iff]; exact close_iff_eq_of_near hk hE hsep hnear ha hb

/-- when distinct images of the special site are farther apart than `3E`, every perturbation of it
within `E/8` satisfies `Gap` -/
theorem gap_of_perturbation {k E : Int} (hk : 0 < k) (hE : 0 < E) {off x x0 : P3} {ops : List Op}
    (hsep : Sep ops k (3 * E) off x0) (hnear : Near ops k E off x x0) : Gap ops k E off x :=
  gap_of_near hk hE hsep hnear

/-- **counts of a perturbed special site.**  `x0` exactly special (`Sep`), `x` within `E/8` of it
image by image (`Near`) and satisfying `Gap`: `expandPosition` returns for `x` the same operation
classes and the same multiplicity as for `x0`, the positions correspond index by index within
`E/8`, and for a group of operations multiplicity × class size = group order for every class. -/
theorem perturbed_counts {k E : Int} (hk : 0 < k) (hE : 0 < E) {off x x0 : P3} {ops : List Op}
    (hG : IsGroup ops) (hsep : Sep ops k E off x0) (hgap : Gap ops k E off x)
    (hnear : Near ops k E off x x0) :
    (result ops k E off x).2.1 = (result ops k E off x0).2.1 ∧
    (result ops k E off x).2.2 = (result ops k E off x0).2.2 ∧
    (result ops k E off x).2.2 = (dedupFirst (ops.map (fun g => img g k off x0))).length ∧
    (∀ cl ∈ (result ops k E off x).2.1, (result ops k E off x).2.2 * cl.length = ops.length) ∧
    (result ops k E off x).1.length = (result ops k E off x0).1.length ∧
    (∀ i (h : i < (result ops k E off x).1.length) (h0 : i < (result ops k E off x0).1.length),
      boxDist (24 * k) (result ops k E off x).1[i] (result ops k E off x0).1[i] * 8 ≤ E) := by
  rw [result_near_opReps hk hE hsep hgap hnear, result_exact_opReps hk hE hsep]
  refine ⟨rfl, rfl, ?_, ?_, by simp, ?_⟩
  · rw [dedupFirst_eq_opReps, List.length_map]
  · intro cl hcl
    exact fibres_count hG cl hcl
  · intro i h h0
    simp only [List.getElem_map]
    exact hnear _ (opReps_sub (List.getElem_mem _))

/-- the same with the gap hypothesis discharged by a separation `> 3E` of the exact site -/
theorem perturbed_counts_of_sep3 {k E : Int} (hk : 0 < k) (hE : 0 < E) {off x x0 : P3} {ops : List Op}
    (hG : IsGroup ops) (hsep : Sep ops k (3 * E) off x0) (hnear : Near ops k E off x x0) :
    (result ops k E off x).2.1 = (result ops k E off x0).2.1 ∧
    (result ops k E off x).2.2 = (dedupFirst (ops.map (fun g => img g k off x0))).length ∧
    (∀ cl ∈ (result ops k E off x).2.1, (result ops k E off x).2.2 * cl.length = ops.length) := by
  have hsep1 : Sep ops k E off x0 := hsep.weaken (by omega)
  have h := perturbed_counts hk hE hG hsep1 (gap_of_near hk hE hsep hnear) hnear
  exact ⟨h.1, h.2.2.1, h.2.2.2.1⟩

/-- every tabulated setting: for a perturbed special site multiplicity × class size = `num_sym_equiv` -/
theorem tables_perturbed_counts (p : SG × Cert) (hp : p ∈ Gen.allC) {k E : Int} (hk : 0 < k) (hE : 0 < E)
    {off x x0 : P3} (hsep : Sep p.1.ops k E off x0) (hgap : Gap p.1.ops k E off x)
    (hnear : Near p.1.ops k E off x x0) :
    (result p.1.ops k E off x).1.head? = some (red k x) ∧
    ∀ cl ∈ (result p.1.ops k E off x).2.1, (result p.1.ops k E off x).2.2 * cl.length = p.1.nsym := by
  have hG := C03.all_groups p hp
  refine ⟨gap_input_first hk hE hgap hG.one_first, ?_⟩
  intro cl hcl
  rw [(perturbed_counts hk hE hG hsep hgap hnear).2.2.2.1 cl hcl]
  exact (C03.all_counts p hp).nsym

/-! ### non-vacuity -/

/-- a site a few units (of `1/7200000`) off the special position `(1/4, 0, 0.13)` (mirror plane
`y = 0`) of a concrete tabulated setting, tolerance 1e-5; the images `y = ±2` fall into different
buckets, so the alias branch of the loop is exercised.  The gap hypothesis holds … -/
example : Gap Gen.witness.1.ops 300000 72 (0, 0, 0) (1800001, 7199998, 936000) := by decide +kernel

/-- … while the images are **not** separated (`C02.orbit_exact` does not apply to this site) -/
example : ¬ Sep Gen.witness.1.ops 300000 72 (0, 0, 0) (1800001, 7199998, 936000) := by decide +kernel

/-- the special position itself is separated by more than `3E`, and the site above is a perturbation
of it within `E/8` -/
example : Sep Gen.witness.1.ops 300000 (3 * 72) (0, 0, 0) (1800000, 0, 936000) ∧
    Near Gen.witness.1.ops 300000 72 (0, 0, 0) (1800001, 7199998, 936000) (1800000, 0, 936000) := by
  decide +kernel

/-- the merge really happens on that site: fewer positions than operations, more than one class -/
example : (result Gen.witness.1.ops 300000 72 (0, 0, 0) (1800001, 7199998, 936000)).2.2
      < Gen.witness.1.ops.length ∧
    1 < (result Gen.witness.1.ops 300000 72 (0, 0, 0) (1800001, 7199998, 936000)).2.2 := by
  decide +kernel

/-- on that site the alias branch is really taken: more buckets are registered than positions listed -/
example : (expand Gen.witness.1.ops 300000 72 (0, 0, 0) (1800001, 7199998, 936000)).positions.length
    < (expand Gen.witness.1.ops 300000 72 (0, 0, 0) (1800001, 7199998, 936000)).keymap.length := by
  decide +kernel

end DS.Props.C02Gap

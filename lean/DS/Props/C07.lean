import DS.Lemmas.Cif
import DS.Props.C02
import DS.Props.C03
import DS.Props.C06
/-!
# C07 — the symmetry expansion step of the CIF reader

Model: `DS.Cif.expand` (`P_cif._expandAsymmetricUnit`, exact coordinates in units `1/(24k)`, exact
rational tensors), composed of the literal `expandPosition` model `DS.Orbit.result` (C02) and the
tensor rotation `Con.rotT (Con.rotQ g)` (C06); `DS.CifNum.floatMatch` (`leading_float`'s prefix
extraction).

What is proved about the model:
* the atom list is the concatenation, in site order, of one block per listed site (`expand_grouped`,
  `expand_length`, `atom_parent`);
* every image carries the element, occupancy, anisotropy flag of its parent, the label `L` / `L_<j+1>`
  and the image number `j`, numbered `0 … m−1` (`image_attrs`, `images_numbered`);
* under the separation hypothesis of C02 the positions of a block are exactly the orbit of the site:
  every distinct image once, in first-occurrence order, the site itself first (`image_positions`,
  `first_image`, `positions_nodup`, `mem_positions`);
* an anisotropic image carries `R_g U R_gᵀ` with `g` the first tabulated operation that generates the
  image, and — for a group and a tensor invariant under the site symmetry — *any* operation that
  generates the image gives this same tensor (`image_tensor`, `tensor_any_rep`, `image_tensor_any`);
* atom labels are pairwise different (`labels_unique`, `labels_unique_of_no_underscore`);
* the result depends on the symmetry source only through the resolved operation list
  (`sym_source_irrelevant`), permuting the listed sites permutes the blocks (`expand_perm_sites`);
* a standard-uncertainty suffix does not change the text that is converted to a number (`esd_ignored`);
* all of it for every tabulated setting, with `multiplicity × |site symmetry| = num_sym_equiv`
  (`tables_cif`).
-/
namespace DS.Props.C07
open DS DS.Cif DS.Orbit DS.Con

/-! ### 1. blocks in site order -/

/-- the atoms are the images grouped by parent site, in site order -/
theorem expand_grouped (ops : List Op) (k E : Int) (sites : List Site) :
    expand ops k E sites = sites.zipIdx.flatMap (fun si => expandSite ops k E si.2 si.1) :=
  expandFrom_eq ops k E 0 sites

/-- the number of atoms is the sum of the multiplicities of the listed sites -/
theorem expand_length (ops : List Op) (k E : Int) (sites : List Site) :
    (expand ops k E sites).length =
      (sites.map (fun s => (Orbit.result ops k E (0, 0, 0) s.x).1.length)).sum :=
  expandFrom_length ops k E 0 sites

/-- the block of one site has as many atoms as `expandPosition` returned positions -/
theorem block_length (ops : List Op) (k E : Int) (i : Nat) (s : Site) :
    (expandSite ops k E i s).length = (Orbit.result ops k E (0, 0, 0) s.x).1.length :=
  expandSite_length ops k E i s

/-- every atom belongs to the block of the listed site whose index it carries -/
theorem atom_parent {ops : List Op} {k E : Int} {sites : List Site} {a : OutAtom} :
    a ∈ expand ops k E sites ↔ ∃ i s, sites[i]? = some s ∧ a ∈ expandSite ops k E i s := by
  rw [expand_grouped, List.mem_flatMap]
  constructor
  · rintro ⟨⟨s, i⟩, hsi, ha⟩
    exact ⟨i, s, List.mem_zipIdx_iff_getElem?.1 hsi, ha⟩
  · rintro ⟨i, s, hsi, ha⟩
    exact ⟨(s, i), List.mem_zipIdx_iff_getElem?.2 hsi, ha⟩

/-! ### 2. attributes of the images -/

/-- every image carries the index, element, occupancy and anisotropy flag of its parent, and the
label `L` (first image) or `L_<j+1>` -/
theorem image_attrs {ops : List Op} {k E : Int} {i : Nat} {s : Site} {a : OutAtom}
    (ha : a ∈ expandSite ops k E i s) :
    a.site = i ∧ a.elem = s.elem ∧ a.occ = s.occ ∧ a.aniso = s.aniso ∧
      a.label = imageLabel s.label a.img ∧ a.img < (Orbit.result ops k E (0, 0, 0) s.x).1.length := by
  obtain ⟨j, hj, rfl⟩ := mem_expandSite.1 ha
  exact ⟨rfl, rfl, rfl, rfl, rfl, hj⟩

/-- the images of a site are numbered `0, 1, …, m−1` in order -/
theorem images_numbered (ops : List Op) (k E : Int) (i : Nat) (s : Site) :
    (expandSite ops k E i s).map (·.img) = List.range (Orbit.result ops k E (0, 0, 0) s.x).1.length :=
  expandSite_img ops k E i s

/-- the same attributes for an atom of the whole list -/
theorem atom_attrs {ops : List Op} {k E : Int} {sites : List Site} {a : OutAtom}
    (ha : a ∈ expand ops k E sites) :
    ∃ s, sites[a.site]? = some s ∧ a.elem = s.elem ∧ a.occ = s.occ ∧ a.aniso = s.aniso ∧
      a.label = imageLabel s.label a.img := by
  obtain ⟨i, s, hs, hb⟩ := atom_parent.1 ha
  obtain ⟨h1, h2, h3, h4, h5, _⟩ := image_attrs hb
  exact ⟨s, h1 ▸ hs, h2, h3, h4, h5⟩

/-! ### 3. positions: exactly the orbit -/

/-- **the positions of a block are exactly the orbit of the site**: the distinct images under the
operation list, each once, in the order in which the table first produces them -/
theorem image_positions {ops : List Op} {k E : Int} (hk : 0 < k) (hE : 0 < E) (i : Nat) (s : Site)
    (hsep : Sep ops k E (0, 0, 0) s.x) :
    (expandSite ops k E i s).map (·.pos) = dedupFirst (ops.map (fun g => img g k (0, 0, 0) s.x)) := by
  rw [expandSite_pos, Orbit.result_exact hk hE hsep]

/-- the first atom of a block sits at the listed site itself (reduced into the cell) -/
theorem first_image {ops : List Op} {k E : Int} (hk : 0 < k) (hE : 0 < E) (i : Nat) (s : Site)
    (hsep : Sep ops k E (0, 0, 0) s.x) (h1 : ops.head? = some Op.one) :
    ((expandSite ops k E i s).map (·.pos)).head? = some (red k s.x) := by
  rw [expandSite_pos]
  exact C02.input_first hk hE hsep h1

/-- no position occurs twice within a block -/
theorem positions_nodup {ops : List Op} {k E : Int} (hk : 0 < k) (hE : 0 < E) (i : Nat) (s : Site)
    (hsep : Sep ops k E (0, 0, 0) s.x) : ((expandSite ops k E i s).map (·.pos)).Nodup := by
  rw [image_positions hk hE i s hsep]; exact nodup_dedupFirst _

/-- a point is occupied by an atom of the block iff it is an image of the site -/
theorem mem_positions {ops : List Op} {k E : Int} (hk : 0 < k) (hE : 0 < E) (i : Nat) (s : Site)
    (hsep : Sep ops k E (0, 0, 0) s.x) (p : P3) :
    p ∈ (expandSite ops k E i s).map (·.pos) ↔ ∃ g ∈ ops, img g k (0, 0, 0) s.x = p := by
  rw [image_positions hk hE i s hsep, mem_dedupFirst, List.mem_map]

/-! ### 4. displacement tensors -/

/-- **the tensor of an image**: an anisotropic site's image at `p` carries `R_g U R_gᵀ` where `g` is
the first operation of the table that maps the site to `p`; an isotropic site's images carry the
parent's tensor unchanged -/
theorem image_tensor {ops : List Op} {k E : Int} (hk : 0 < k) (hE : 0 < E) {i : Nat} {s : Site}
    (hsep : Sep ops k E (0, 0, 0) s.x) {a : OutAtom} (ha : a ∈ expandSite ops k E i s) :
    (s.aniso = true → ∃ g, ops.find? (fun g => decide (img g k (0, 0, 0) s.x = a.pos)) = some g ∧
        a.U = rotT (rotQ g) s.U) ∧
    (s.aniso = false → a.U = s.U) := by
  obtain ⟨j, hj, rfl⟩ := mem_expandSite.1 ha
  refine ⟨fun han => ?_, fun han => by simp [han]⟩
  have hr := Orbit.result_exact hk hE hsep
  simp only [mult, hr] at hj
  simp only [hr, han, if_true]
  set ps := dedupFirst (ops.map (fun g => img g k (0, 0, 0) s.x)) with hps
  rw [List.getD_eq_getElem (l := ps) (d := ((0, 0, 0) : P3)) hj,
    List.getD_eq_getElem (l := ps.map _) (d := ([] : List Op)) (by simpa using hj), List.getElem_map]
  have hmem : ps[j] ∈ ops.map (fun g => img g k (0, 0, 0) s.x) := mem_dedupFirst.1 (List.getElem_mem hj)
  obtain ⟨g0, hg0, e0⟩ := List.mem_map.1 hmem
  have hsome : (ops.find? (fun g => decide (img g k (0, 0, 0) s.x = ps[j]))).isSome :=
    List.find?_isSome.2 ⟨g0, hg0, by simpa using e0⟩
  obtain ⟨g, hg⟩ := Option.isSome_iff_exists.1 hsome
  exact ⟨g, hg, by rw [headD_filter_eq_find hg]⟩

/-- **any operation of the class gives the same tensor**: in a group, two operations that send the
site to the same point rotate a tensor that is invariant under the site symmetry to the same result -/
theorem tensor_any_rep {ops : List Op} (hG : IsGroup ops) (k : Int) (x : P3) (U : Mat3 Q)
    (hU : InvT (ops.filter (fun h => decide (img h k (0, 0, 0) x = red k x))) U)
    {g g' : Op} (hg : g ∈ ops) (hg' : g' ∈ ops)
    (e : img g k (0, 0, 0) x = img g' k (0, 0, 0) x) :
    rotT (rotQ g') U = rotT (rotQ g) U := by
  obtain ⟨gi, hgi, hggi, hgig⟩ := hG.inv g hg
  have hh : gi.comp g' ∈ ops := hG.closed gi hgi g' hg'
  have hfix : img (gi.comp g') k (0, 0, 0) x = red k x := by
    rw [← img_comp, ← e, img_comp, hgig, img_one]
  have hmem : gi.comp g' ∈ ops.filter (fun h => decide (img h k (0, 0, 0) x = red k x)) := by
    simp [List.mem_filter, hh, hfix]
  have hcomp : g.comp (gi.comp g') = g' := by
    rw [comp_assoc, hggi, one_comp (hG.range g' hg')]
  have := C06.eq_tensor_coset_indep' hU g (gi.comp g') hmem
  rw [hcomp] at this
  exact this

/-- consequently the tensor of an image is `R_g U R_gᵀ` for *every* tabulated operation `g` that
generates the image, when the parent's tensor obeys the site symmetry -/
theorem image_tensor_any {ops : List Op} (hG : IsGroup ops) {k E : Int} (hk : 0 < k) (hE : 0 < E)
    {i : Nat} {s : Site} (hsep : Sep ops k E (0, 0, 0) s.x) (han : s.aniso = true)
    (hU : InvT (ops.filter (fun h => decide (img h k (0, 0, 0) s.x = red k s.x))) s.U)
    {a : OutAtom} (ha : a ∈ expandSite ops k E i s) {g : Op} (hg : g ∈ ops)
    (e : img g k (0, 0, 0) s.x = a.pos) :
    a.U = rotT (rotQ g) s.U := by
  obtain ⟨g0, hfind, hU0⟩ := (image_tensor hk hE hsep ha).1 han
  have hg0 : g0 ∈ ops := List.mem_of_find?_eq_some hfind
  have e0 : img g0 k (0, 0, 0) s.x = a.pos := by simpa using List.find?_some hfind
  rw [hU0]
  exact tensor_any_rep hG k s.x s.U hU hg hg0 (e.trans e0.symm)

/-! ### 5. labels -/

/-- **atom labels are unique** when the site labels are pairwise different and no site label
coincides with a generated image label `T_<j+1>` of a listed site `T` -/
theorem labels_unique {ops : List Op} {k E : Int} {sites : List Site}
    (hnd : (sites.map (·.label)).Nodup)
    (hno : ∀ s ∈ sites, ∀ t ∈ sites, ∀ j, j < (Orbit.result ops k E (0, 0, 0) t.x).1.length → 1 ≤ j →
      s.label ≠ imageLabel t.label j) :
    ((expand ops k E sites).map (·.label)).Nodup := by
  rw [Cif.expand, expandFrom_labels, List.nodup_flatMap]
  refine ⟨fun s _ => List.Nodup.map (fun a b h => imageLabel_inj s.label h) List.nodup_range, ?_⟩
  have hp : sites.Pairwise (fun a b => a.label ≠ b.label) := List.pairwise_map.1 hnd
  refine hp.imp_of_mem ?_
  intro s t hs ht hne
  show List.Disjoint _ _
  intro l h1 h2
  obtain ⟨j, hj, rfl⟩ := List.mem_map.1 h1
  obtain ⟨j', hj', e⟩ := List.mem_map.1 h2
  rw [List.mem_range] at hj hj'
  rcases Nat.eq_zero_or_pos j with h0 | hpos <;> rcases Nat.eq_zero_or_pos j' with h0' | hpos'
  · subst h0 h0'; rw [imageLabel_zero, imageLabel_zero] at e; exact hne e.symm
  · subst h0; rw [imageLabel_zero] at e; exact hno s hs t ht j' hj' hpos' e.symm
  · subst h0'; rw [imageLabel_zero] at e; exact hno t ht s hs j hj hpos e
  · exact hne (imageLabel_pos_inj hpos' hpos e).1.symm

/-- in particular when no site label contains an underscore -/
theorem labels_unique_of_no_underscore {ops : List Op} {k E : Int} {sites : List Site}
    (hnd : (sites.map (·.label)).Nodup) (hu : ∀ s ∈ sites, '_' ∉ s.label.toList) :
    ((expand ops k E sites).map (·.label)).Nodup := by
  refine labels_unique hnd (fun s hs t _ j _ hj e => hu s hs ?_)
  rw [e, imageLabel_pos t.label hj]
  simp [String.toList_append]

/-! ### 6. the symmetry source -/

/-- the atoms depend on the symmetry source only through the operation list -/
theorem expand_congr {ops ops' : List Op} (h : ops = ops') (k E : Int) (sites : List Site) :
    expand ops k E sites = expand ops' k E sites := by rw [h]

/-- two ways of giving the symmetry (operator list, Hermann–Mauguin symbol, number, …) that resolve
to the same operation list give the same atoms — whatever the resolver is -/
theorem sym_source_irrelevant {Src : Type} (resolve : Src → Option (List Op)) (a b : Src)
    (h : resolve a = resolve b) (k E : Int) (sites : List Site) :
    (resolve a).map (fun ops => expand ops k E sites) = (resolve b).map (fun ops => expand ops k E sites) := by
  rw [h]

/-- an atom without the index of its parent site -/
def core (a : OutAtom) : Nat × String × String × P3 × Rat × Bool × Mat3 Rat :=
  (a.img, a.label, a.elem, a.pos, a.occ, a.aniso, a.U)

theorem expandFrom_core (ops : List Op) (k E : Int) : ∀ (n : Nat) (sites : List Site),
    (expandFrom ops k E n sites).map core = sites.flatMap (fun s => (expandSite ops k E 0 s).map core)
  | _, [] => by simp [expandFrom]
  | n, s :: ss => by
    have h : (expandSite ops k E n s).map core = (expandSite ops k E 0 s).map core := by
      simp [expandSite, core]
    simp only [expandFrom, List.map_append, List.flatMap_cons, h, expandFrom_core ops k E (n + 1) ss]

/-- listing the sites in another order permutes the atoms (block-wise; only the parent indices change) -/
theorem expand_perm_sites (ops : List Op) (k E : Int) {sites sites' : List Site} (h : sites.Perm sites') :
    ((expand ops k E sites).map core).Perm ((expand ops k E sites').map core) := by
  rw [Cif.expand, Cif.expand, expandFrom_core, expandFrom_core]
  exact h.flatMap_right _

/-! ### 7. standard-uncertainty suffixes -/

/-- **`value(esd)` reads as `value`**: for a CIF number `d` (`[sign] digits ['.' digits*]` or
`[sign] '.' digits`) the text `leading_float` converts is `d` itself, with or without a
parenthesised suffix -/
theorem esd_ignored {d : List Char} (h : CifNum.isFloatLit d = true) (ds : List Char) :
    CifNum.floatPrefix (d ++ '(' :: ds ++ [')']) = CifNum.floatPrefix d ∧ CifNum.floatPrefix d = d :=
  CifNum.esd_ignored h ds

/-- with an exponent: `[sign] mantissa [eE] [sign] digits` followed by a non-digit -/
theorem esd_ignored_exp {sg m x : List Char} (hs : CifNum.IsSignOpt sg) (hm : CifNum.IsMant m)
    (hx : CifNum.IsExp x) (ds : List Char) :
    CifNum.floatPrefix (sg ++ m ++ x ++ ('(' :: ds ++ [')'])) = sg ++ m ++ x ∧
    CifNum.floatPrefix (sg ++ m ++ x) = sg ++ m ++ x := by
  have h1 := CifNum.floatMatch_litExp hs hm hx (rest := '(' :: ds ++ [')']) (CifNum.next_cons.2 (by decide))
  have h2 := CifNum.floatMatch_litExp hs hm hx (rest := []) (CifNum.next_nil _)
  rw [List.append_nil] at h2
  simp only [CifNum.floatPrefix, h1, h2, Option.getD_some, and_self]

/-! ### 8. the tabulated settings -/

/-- for every tabulated setting and every site whose images are separated: the block is exactly the
orbit, site first; multiplicity × site-symmetry order = `num_sym_equiv`; the tensor of each image
is `R_g U R_gᵀ` for the first — and, for a tensor obeying the site symmetry, for every — tabulated
operation `g` generating that image -/
theorem tables_cif (p : SG × Cert) (hp : p ∈ Gen.allC) {k E : Int} (hk : 0 < k) (hE : 0 < E)
    (i : Nat) (s : Site) (hsep : Sep p.1.ops k E (0, 0, 0) s.x) :
    (expandSite p.1.ops k E i s).map (·.pos) = dedupFirst (p.1.ops.map (fun g => img g k (0, 0, 0) s.x)) ∧
    ((expandSite p.1.ops k E i s).map (·.pos)).head? = some (red k s.x) ∧
    (expandSite p.1.ops k E i s).length *
        p.1.ops.countP (fun g => decide (img g k (0, 0, 0) s.x = red k s.x)) = p.1.nsym ∧
    ∀ a ∈ expandSite p.1.ops k E i s,
      (s.aniso = false → a.U = s.U) ∧
      (s.aniso = true → ∃ g, p.1.ops.find? (fun g => decide (img g k (0, 0, 0) s.x = a.pos)) = some g ∧
        a.U = rotT (rotQ g) s.U) ∧
      (s.aniso = true → InvT (p.1.ops.filter (fun h => decide (img h k (0, 0, 0) s.x = red k s.x))) s.U →
        ∀ g ∈ p.1.ops, img g k (0, 0, 0) s.x = a.pos → a.U = rotT (rotQ g) s.U) := by
  have hG := C03.all_groups p hp
  refine ⟨image_positions hk hE i s hsep, first_image hk hE i s hsep hG.one_first, ?_, ?_⟩
  · have := (C02.tables_orbit_exact p hp hk hE hsep).2
    rw [block_length]
    exact this
  · intro a ha
    have ht := image_tensor hk hE hsep ha
    exact ⟨ht.2, ht.1, fun han hU g hg e => image_tensor_any hG hk hE hsep han hU ha hg e⟩

/-! ### non-vacuity -/

/-- a general position of the witness setting -/
def wSite : Site :=
  { label := "C1", elem := "C", x := (600000, 600000, 312000), occ := 1, aniso := true,
    U := ⟨1/100, 1/300, 1/200, 1/300, 2/100, 0, 1/200, 0, 3/100⟩ }

/-- a site on the mirror plane of the witness setting, with a tensor obeying the mirror -/
def mSite : Site :=
  { label := "O1", elem := "O", x := (600000, 0, 312000), occ := 1/2, aniso := true,
    U := ⟨1/100, 0, 1/200, 0, 2/100, 0, 1/200, 0, 3/100⟩ }

theorem wSite_sep : Sep Gen.witness.1.ops 100000 24 (0, 0, 0) wSite.x := by decide +kernel
theorem mSite_sep : Sep Gen.witness.1.ops 100000 24 (0, 0, 0) mSite.x := by decide +kernel

/-- `image_positions`, `first_image`, `image_tensor`, `tables_cif`: the hypotheses hold for a concrete
tabulated setting and sites; the blocks have 8 resp. 4 atoms -/
example : Gen.witness ∈ Gen.allC ∧ (0 : Int) < 100000 ∧ (0 : Int) < 24 ∧
    Sep Gen.witness.1.ops 100000 24 (0, 0, 0) wSite.x ∧ Sep Gen.witness.1.ops 100000 24 (0, 0, 0) mSite.x ∧
    Gen.witness.1.ops.head? = some Op.one ∧
    (expandSite Gen.witness.1.ops 100000 24 0 wSite).length = 8 ∧
    (expandSite Gen.witness.1.ops 100000 24 1 mSite).length = 4 :=
  ⟨Gen.witness_mem, by decide, by decide, wSite_sep, mSite_sep, (C03.all_groups _ Gen.witness_mem).one_first,
   by rw [block_length]; decide +kernel, by rw [block_length]; decide +kernel⟩

/-- `tensor_any_rep` / `image_tensor_any`: a group, two different operations with the same image of a
site, a tensor invariant under the (non-trivial) site symmetry -/
example : IsGroup Gen.witness.1.ops ∧ mSite.aniso = true ∧
    InvT (Gen.witness.1.ops.filter (fun h => decide (img h 100000 (0, 0, 0) mSite.x = red 100000 mSite.x))) mSite.U ∧
    ∃ g ∈ Gen.witness.1.ops, ∃ g' ∈ Gen.witness.1.ops, g ≠ g' ∧
      img g 100000 (0, 0, 0) mSite.x = img g' 100000 (0, 0, 0) mSite.x :=
  ⟨C03.all_groups _ Gen.witness_mem, rfl, inInvT_iff.1 (by decide +kernel), by decide +kernel⟩

/-- a tensor with `U23 ≠ 0`, invariant under the mirror `x = 0` of `mm2` -/
def pU : Mat3 Q := ⟨1/100, 0, 0, 0, 2/100, 1/300, 0, 1/300, 3/100⟩

/- the same with operations that do rotate the tensor (group `mm2`, a site on the mirror `x = 0`, the
tensor `pU`): the two operations generating the second image are the mirror `m_y` and the axis `2_z`;
both change the tensor, to the same result -/

example : IsGroup C06.mm2 ∧
    InvT (C06.mm2.filter (fun h => decide (img h 100000 (0, 0, 0) (0, 600000, 312000) = red 100000 (0, 600000, 312000)))) pU ∧
    ∃ g ∈ C06.mm2, ∃ g' ∈ C06.mm2, g ≠ g' ∧
      img g 100000 (0, 0, 0) (0, 600000, 312000) = img g' 100000 (0, 0, 0) (0, 600000, 312000) ∧
      rotT (rotQ g) pU ≠ pU ∧ rotT (rotQ g') pU = rotT (rotQ g) pU :=
  ⟨C06.mm2_isGroup, inInvT_iff.1 (by decide +kernel), by decide +kernel⟩

/-- `labels_unique`: two sites with different underscore-free labels -/
example : ([wSite, mSite].map (·.label)).Nodup ∧ ∀ s ∈ [wSite, mSite], '_' ∉ s.label.toList := by
  decide

example : ((expand Gen.witness.1.ops 100000 24 [wSite, mSite]).map (·.label)).Nodup :=
  labels_unique_of_no_underscore (by decide) (by decide)

/-- the hypothesis of `labels_unique` is needed: a listed label `C1_2` collides with the second image of `C1` -/
example : ¬ ((expand Gen.witness.1.ops 100000 24 [wSite, { wSite with label := "C1_2" }]).map (·.label)).Nodup := by
  rw [Cif.expand, expandFrom_labels]
  decide +kernel

/-- `esd_ignored` on concrete strings -/
example : CifNum.isFloatLit "0.2500".toList = true ∧
    CifNum.floatPrefix "0.2500(12)".toList = "0.2500".toList := by decide
example : CifNum.floatPrefix "-1.5(3)".toList = "-1.5".toList ∧ CifNum.floatPrefix "12(1)".toList = "12".toList ∧
    CifNum.floatPrefix "1.5E-3(2)".toList = "1.5E-3".toList := by decide
example : CifNum.IsSignOpt ['-'] ∧ CifNum.IsMant "1.5".toList ∧ CifNum.IsExp "E-3".toList :=
  ⟨Or.inr ⟨'-', by decide, rfl⟩,
   ⟨['1'], ['5'], by decide, by decide, Or.inr (Or.inl ⟨by decide, by decide⟩)⟩,
   ⟨'E', ['-'], ['3'], by decide, Or.inr ⟨'-', by decide, rfl⟩, by decide, by decide, by decide⟩⟩

/-- `sym_source_irrelevant`: a resolver with two sources that agree -/
example : (fun b : Bool => if b then some Gen.witness.1.ops else some Gen.witness.1.ops) true =
    (fun b : Bool => if b then some Gen.witness.1.ops else some Gen.witness.1.ops) false := rfl

end DS.Props.C07

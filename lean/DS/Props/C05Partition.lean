import DS.Lemmas.Partition
import DS.Props.C03

/-!
C05, last clause: "constraining a whole list of positions partitions it into exactly its symmetry
orbits with one generator each" (`SymmetryConstraints._findConstraints`).

`Partition.coremap ops k positions` is the model of `coremap` (generator index ↦ member indices) on
exact positions (integers in units of `1/(24·k)`), for the tabulated origin (`sgoffset = 0`).
`Partition.inOrbit ops k p q = true` says that `q` is, modulo lattice translations, an image of `p`
under an operation of `ops`.
-/
namespace DS.Props.C05Partition
open DS DS.Partition

/-- **1.** For a group, "same orbit" is an equivalence relation on positions; it only depends on
the positions modulo lattice translations, and moving either point by an operation of the group
does not change it. -/
theorem sameOrbit_equiv {ops : List Op} (hG : IsGroup ops) (k : Int) :
    Equivalence (fun p q : P3 => inOrbit ops k p q = true) ∧
    (∀ p q : P3, inOrbit ops k p q = inOrbit ops k (redP k p) (redP k q)) ∧
    (∀ p q v w : P3, inOrbit ops k (shiftBy k p v) (shiftBy k q w) = inOrbit ops k p q) ∧
    (∀ g ∈ ops, ∀ p q : P3,
      inOrbit ops k (Orbit.img g k (0, 0, 0) p) q = inOrbit ops k p q ∧
      inOrbit ops k p (Orbit.img g k (0, 0, 0) q) = inOrbit ops k p q) :=
  ⟨R_equivalence hG k, inOrbit_red ops k,
   fun p q v w => by rw [inOrbit_red, redP_shiftBy, redP_shiftBy, ← inOrbit_red],
   fun _ hg p q => ⟨inOrbit_img_left hG hg k p q, inOrbit_img_right hG hg k p q⟩⟩

/-- **2.** `coremap` is a partition of the listing (true for every list of operations): the member
lists are pairwise disjoint, together they list every index `0 … n-1` exactly once, each member
list is increasing and starts with its generator index, and the generator indices increase. -/
theorem coremap_partition (ops : List Op) (k : Int) (positions : List P3) :
    ((coremap ops k positions).map (·.2)).Pairwise List.Disjoint ∧
    ((coremap ops k positions).flatMap (·.2)).Perm (List.range positions.length) ∧
    (∀ e ∈ coremap ops k positions, e.2.Pairwise (· < ·) ∧ e.2.head? = some e.1) ∧
    ((coremap ops k positions).map (·.1)).Pairwise (· < ·) :=
  ⟨coremap_disjoint ops k positions, coremap_perm ops k positions,
   fun _ he => ⟨coremap_members_sorted ops k positions he, coremap_head ops k positions he⟩,
   coremap_generators_sorted ops k positions⟩

/-- every listed index belongs to exactly one class -/
theorem coremap_unique_class (ops : List Op) (k : Int) (positions : List P3) {i : Nat}
    (hi : i < positions.length) : ∃ e ∈ coremap ops k positions, i ∈ e.2 ∧
      ∀ e' ∈ coremap ops k positions, i ∈ e'.2 → e' = e := by
  obtain ⟨e, he, hie⟩ := coremap_exists_class ops k positions hi
  refine ⟨e, he, hie, fun e' he' hie' => ?_⟩
  have hd := List.pairwise_map.1 (coremap_disjoint ops k positions)
  by_contra hne
  -- the instance `List.Pairwise.forall` asks for
  have hsym : Std.Symm (fun a b : Nat × List Nat => a.2.Disjoint b.2) := ⟨fun _ _ h => h.symm⟩
  exact hd.forall he' he hne hie' hie

/-- **3.** The classes ARE the symmetry orbits: two listed indices lie in the same member list iff
their positions are in the same orbit. -/
theorem coremap_classes {ops : List Op} (hG : IsGroup ops) (k : Int) (positions : List P3)
    {i j : Nat} (hi : i < positions.length) (hj : j < positions.length) :
    SameClass (coremap ops k positions) i j ↔ inOrbit ops k positions[i] positions[j] = true :=
  sameClass_iff ops k positions (R_equivalence hG k) hi hj

/-- **3'.** The generator of a class is a listed index, its member list consists of exactly the listed
positions of its orbit, and it is the first listed position of that orbit; the generators are
exactly the indices that are the first of their orbit, hence the number of classes is the number of
distinct orbits met. -/
theorem coremap_generators {ops : List Op} (hG : IsGroup ops) (k : Int) (positions : List P3) :
    (∀ e ∈ coremap ops k positions, ∃ hg : e.1 < positions.length,
      (∀ (j : Nat) (hj : j < positions.length),
        j ∈ e.2 ↔ inOrbit ops k positions[e.1] positions[j] = true) ∧
      (∀ (j : Nat) (hj : j < positions.length),
        inOrbit ops k positions[j] positions[e.1] = true → e.1 ≤ j)) ∧
    (coremap ops k positions).map (·.1) =
      (List.range positions.length).filter (firstOfOrbit ops k positions) ∧
    (coremap ops k positions).length =
      ((List.range positions.length).filter (firstOfOrbit ops k positions)).length := by
  have hE := R_equivalence hG k
  refine ⟨fun e he => ?_, coremap_generators_eq ops k positions hE, ?_⟩
  · obtain ⟨hg, hcl⟩ := coremap_class ops k positions hE he
    exact ⟨hg, hcl, fun j hj hR => coremap_gen_first ops k positions hE he hj hg hR⟩
  · rw [← coremap_generators_eq ops k positions hE, List.length_map]

/-- **4.** Listing the same positions in another order gives the same classes, transported along
the permutation: the number of classes is the same, and two entries of the new listing share a
class iff the same two positions share a class in the old listing. -/
theorem coremap_shuffle {ops : List Op} (hG : IsGroup ops) (k : Int) {positions positions' : List P3}
    (hperm : positions'.Perm positions) :
    (coremap ops k positions').length = (coremap ops k positions).length ∧
    ∀ (i j i' j' : Nat) (hi : i < positions.length) (hj : j < positions.length)
      (hi' : i' < positions'.length) (hj' : j' < positions'.length),
      positions'[i'] = positions[i] → positions'[j'] = positions[j] →
      (SameClass (coremap ops k positions') i' j' ↔ SameClass (coremap ops k positions) i j) := by
  have hE := R_equivalence hG k
  refine ⟨Nat.le_antisymm (coremap_length_le ops k hE hperm.subset)
    (coremap_length_le ops k hE hperm.symm.subset), ?_⟩
  intro i j i' j' hi hj hi' hj' ei ej
  rw [sameClass_iff ops k positions' hE hi' hj', sameClass_iff ops k positions hE hi hj, ei, ej]

/-- **4, explicit form.** The new listing is given by the list `σ` of old indices (a permutation of
`0 … n-1`): new entries `i'`, `j'` share a class iff the old entries `σ[i']`, `σ[j']` do. -/
theorem coremap_shuffle_idx {ops : List Op} (hG : IsGroup ops) (k : Int) (positions : List P3)
    (σ : List Nat) (hσ : σ.Perm (List.range positions.length)) :
    (σ.map (fun i => positions.getD i (0, 0, 0))).Perm positions ∧
    (coremap ops k (σ.map (fun i => positions.getD i (0, 0, 0)))).length = (coremap ops k positions).length ∧
    ∀ (i' j' : Nat) (hi' : i' < σ.length) (hj' : j' < σ.length),
      (SameClass (coremap ops k (σ.map (fun i => positions.getD i (0, 0, 0)))) i' j' ↔
        SameClass (coremap ops k positions) σ[i'] σ[j']) := by
  have hrange : (List.range positions.length).map (fun i => positions.getD i (0, 0, 0)) = positions := by
    apply List.ext_getElem
    · simp
    · intro i h₁ h₂; simp [List.getElem?_eq_getElem h₂]
  have hperm : (σ.map (fun i => positions.getD i (0, 0, 0))).Perm positions := by
    have := hσ.map (fun i => positions.getD i (0, 0, 0))
    rwa [hrange] at this
  have hlt : ∀ (i' : Nat) (hi' : i' < σ.length), σ[i'] < positions.length := fun i' hi' =>
    List.mem_range.1 (hσ.subset (List.getElem_mem hi'))
  refine ⟨hperm, (coremap_shuffle hG k hperm).1, fun i' j' hi' hj' => ?_⟩
  refine (coremap_shuffle hG k hperm).2 σ[i'] σ[j'] i' j' (hlt i' hi') (hlt j' hj')
    (by simpa using hi') (by simpa using hj') ?_ ?_
  · rw [List.getElem_map, List.getD_eq_getElem _ _ (hlt i' hi')]
  · rw [List.getElem_map, List.getD_eq_getElem _ _ (hlt j' hj')]

/-- **4'.** Adding integer lattice vectors (`24·k` units per lattice step) to the listed positions
does not change `coremap` (true for every list of operations). -/
theorem coremap_shift (ops : List Op) (k : Int) (positions shifts : List P3)
    (h : positions.length ≤ shifts.length) :
    coremap ops k (List.zipWith (shiftBy k) positions shifts) = coremap ops k positions :=
  coremap_congr_red ops k (map_red_zipWith_shiftBy k positions shifts h)

/-- the same for a single listed position -/
theorem coremap_shift_one (ops : List Op) (k : Int) (positions : List P3) (i : Nat)
    (hi : i < positions.length) (v : P3) :
    coremap ops k (positions.set i (shiftBy k positions[i] v)) = coremap ops k positions := by
  apply coremap_congr_red
  rw [List.map_set, redP_shiftBy, ← List.getElem_map (redP k) (h := by simpa using hi), List.set_getElem_self]

/-- **5.** Every tabulated space-group setting: `coremap` partitions any listing into exactly its
symmetry orbits with one generator each — the first listed position of the orbit. -/
theorem tables_coremap : ∀ p ∈ Gen.allC, ∀ (k : Int) (positions : List P3),
    Equivalence (fun a b : P3 => inOrbit p.1.ops k a b = true) ∧
    ((coremap p.1.ops k positions).flatMap (·.2)).Perm (List.range positions.length) ∧
    ((coremap p.1.ops k positions).map (·.2)).Pairwise List.Disjoint ∧
    (∀ e ∈ coremap p.1.ops k positions, e.2.Pairwise (· < ·) ∧ e.2.head? = some e.1) ∧
    (∀ (i j : Nat) (hi : i < positions.length) (hj : j < positions.length),
      SameClass (coremap p.1.ops k positions) i j ↔
        inOrbit p.1.ops k positions[i] positions[j] = true) ∧
    (coremap p.1.ops k positions).map (·.1) =
      (List.range positions.length).filter (firstOfOrbit p.1.ops k positions) ∧
    (∀ positions' : List P3, positions'.Perm positions →
      (coremap p.1.ops k positions').length = (coremap p.1.ops k positions).length) ∧
    (∀ shifts : List P3, positions.length ≤ shifts.length →
      coremap p.1.ops k (List.zipWith (shiftBy k) positions shifts) = coremap p.1.ops k positions) := by
  intro p hp k positions
  have hG := DS.Props.C03.all_groups p hp
  have h2 := coremap_partition p.1.ops k positions
  exact ⟨(sameOrbit_equiv hG k).1, h2.2.1, h2.1, h2.2.2.1,
    fun i j hi hj => coremap_classes hG k positions hi hj,
    (coremap_generators hG k positions).2.1,
    fun _ hperm => (coremap_shuffle hG k hperm).1,
    fun shifts h => coremap_shift p.1.ops k positions shifts h⟩

/-! ### non-vacuity: the witness group (8 operations), two orbits interleaved plus a third -/

/-- positions 0, 2, 4 are one orbit (2: image under the third operation; 4: position 0 moved by the
lattice vector (1,−2,0)); 1 and 3 another (3: image under the third operation); 5 is alone -/
def demo : List P3 :=
  [(600000, 600000, 312000), (100, 200, 300), (1800000, 600000, 2088000), (2399900, 200, 2399700),
   (3000000, -4200000, 312000), (7, 7, 7)]

example : IsGroup Gen.witness.1.ops := DS.Props.C03.all_groups _ Gen.witness_mem

example : coremap Gen.witness.1.ops 100000 demo = [(0, [0, 2, 4]), (1, [1, 3]), (5, [5])] := by
  decide +kernel

-- the relation is neither empty nor total on the listing
example : inOrbit Gen.witness.1.ops 100000 (600000, 600000, 312000) (1800000, 600000, 2088000) = true ∧
    inOrbit Gen.witness.1.ops 100000 (600000, 600000, 312000) (100, 200, 300) = false := by
  decide +kernel

-- the listing in another order: same classes, transported (old indices 1,0,5,3,4,2)
example : coremap Gen.witness.1.ops 100000
    [(100, 200, 300), (600000, 600000, 312000), (7, 7, 7), (2399900, 200, 2399700),
     (3000000, -4200000, 312000), (1800000, 600000, 2088000)] = [(0, [0, 3]), (1, [1, 4, 5]), (2, [2])] := by
  decide +kernel

-- every listed position moved by a lattice vector: same `coremap` (evaluated, not via the theorem)
example : coremap Gen.witness.1.ops 100000 (List.zipWith (shiftBy 100000) demo
    [(1, 0, 0), (0, -1, 2), (0, 0, 0), (3, 3, 3), (0, 0, 0), (-1, -1, -1)]) =
    [(0, [0, 2, 4]), (1, [1, 3]), (5, [5])] := by
  decide +kernel

-- generators = first of orbit
example : (List.range demo.length).filter (firstOfOrbit Gen.witness.1.ops 100000 demo) = [0, 1, 5] := by
  decide +kernel

-- the conclusions of `tables_coremap` for the witness, on `demo`
example : SameClass (coremap Gen.witness.1.ops 100000 demo) 2 4 ∧
    ¬ SameClass (coremap Gen.witness.1.ops 100000 demo) 2 3 := by
  have h := (tables_coremap _ Gen.witness_mem 100000 demo).2.2.2.2.1
  refine ⟨(h 2 4 (by decide) (by decide)).2 (by decide +kernel), fun hc => ?_⟩
  have := (h 2 3 (by decide) (by decide)).1 hc
  revert this
  decide +kernel

end DS.Props.C05Partition

import DS.Props.SrcCifSym
import DS.Props.C07
/-!
# Source tie: the symmetry expansion step of the CIF reader (serves C07)

`DS/Gen/SrcCifSym.lean` is written on every run by `translate/src_cifsym.py` from the current
`src/diffpy/structure/parsers/p_cif.py`; besides `_parse_space_group_symop_operation_xyz` (tie: `DS.Props.SrcCifSym`) it holds
`P_cif._expandAsymmetricUnit` statement by statement: `Src.CifSym.expandAsymmetricUnit` with its loop bodies
`expandAsymmetricUnit_decide` (the `zip` loop that settles the displacement type of sites the file did not decide),
`expandAsymmetricUnit_image` (inner loop: one image atom), `expandAsymmetricUnit_site` (outer loop: one listed site), over abstract
atoms (`X.PAtom`: label, element, occupancy, xyz, anisotropy flag, U, opaque rest), an abstract `ExpandAsymmetricUnit` result
(`X.Eau`: `multiplicity`, `expandedpos`, `expandedUijs`, `Uisotropy`) and the `anisotropy` dictionary as an association list.
A statement outside the translator's templates yields `expandAsymmetricUnit_untranslatable`, and nothing below elaborates.

Proved here (every operation list, grid, listing, payload type, atom-setter implementation obeying `AtomLaws`):
* `expandAsymmetricUnit_eq` — when every listed label is already in the `anisotropy` dictionary (the case the C07 model covers:
  `Site.aniso` given) and the `ExpandAsymmetricUnit` object holds what the orbit model yields per site (`EauOf`), the method raises
  nothing, leaves the dictionary alone and replaces `self.stru` by `blocks`: per listed site, in order, the atoms of
  `DS.Cif.expandSite` with the parent's remaining attributes;
* `expandAsymmetricUnit_expand` — the same read against `DS.Cif.expand` (the list `DS.Props.C07` speaks about): all six data
  attributes of the atoms agree, in order, and each atom carries the opaque rest of its parent site;
* `eauModel_ok` + the example of section 6 — `EauOf` is satisfiable for every listing (non-vacuity), and the transliteration evaluated
  on the witness setting with the two sites of `DS.Props.C07` yields the 12 atoms of the model;
* `aniso_default` — a site whose label is NOT in the dictionary (and is the first listed site with that label) gets the flag
  `!Uisotropy[i]`, and the decision is recorded under its label; `aniso_default_later` — a site whose label is in the
  dictionary when the loop starts is left alone and the recorded decision stays; `aniso_default_same_label` — so is a later
  site with the label of an earlier one; `decide_known` — all labels known:
  the loop changes nothing;
* `index_error_multiplicity`, `index_error_pos` — the Python indexing is kept: a too short `multiplicity` / `expandedpos` raises
  `IndexError` (the method has no guard).

Interface hypotheses (NOT discharged): `AtomLaws` (what the two `Atom` setters do, C09's subject) and `EauOf`.  The clauses of `EauOf` are what `DS.Props.SrcConstraints.expandAsymmetricUnit_eq` +
`generatorSiteInit_eq` + `DS.Props.SrcSym.refines` give for `multiplicity` and `expandedpos` on exact grid sites (over an ordered
field, positions `x/D`), but the cast from that scalar layer to the integer grid of `DS.Cif`, and the tensor clause
(`eqUij = R·U·Rᵀ` only for a tensor the site symmetry allows — the reader stores the projection, C06) are not proved here.
-/
namespace DS.Props.SrcCifExpand
open DS DS.Cif DS.CifSym DS.Src.CifSym DS.Src.CifSym.X

/-! ### 0. list plumbing -/

theorem mapM_ok {α β : Type} (f : α → Except Exn β) (g : α → β) :
    ∀ (l : List α), (∀ x ∈ l, f x = .ok (g x)) → l.mapM f = .ok (l.map g)
  | [], _ => rfl
  | a :: l, h => by
    rw [List.mapM_cons, h a List.mem_cons_self, mapM_ok f g l (fun x hx => h x (List.mem_cons_of_mem _ hx))]
    rfl

theorem foldlM_append_ok {α β : Type} (f : α → Except Exn β) (g : α → β) (l : List α) (init : List β)
    (h : ∀ x ∈ l, f x = .ok (g x)) :
    l.foldlM (fun acc t => do let o ← f t; pure (acc ++ [o])) init = .ok (init ++ l.map g) := by
  rw [DS.Props.SrcCifSym.foldlM_append, mapM_ok f g l h]; rfl

theorem mem_enumerateFrom {A : Type} : ∀ (l : List A) (n i : Nat) (a : A),
    (i, a) ∈ enumerateFrom n l → n ≤ i ∧ l[i - n]? = some a
  | [], _, _, _, h => by simp [enumerateFrom] at h
  | b :: l, n, i, a, h => by
    simp only [enumerateFrom, List.mem_cons, Prod.mk.injEq] at h
    rcases h with ⟨rfl, rfl⟩ | h
    · simp
    · obtain ⟨h1, h2⟩ := mem_enumerateFrom l (n + 1) i a h
      refine ⟨by omega, ?_⟩
      have : i - n = (i - (n + 1)) + 1 := by omega
      rw [this, List.getElem?_cons_succ]; exact h2

theorem pyIdx_some {A : Type} {l : List A} {n : Nat} {x : A} (h : l[n]? = some x) : pyIdx l n = .ok x := by
  simp [pyIdx, h, pure, Except.pure]

theorem pyIdx_none {A : Type} {l : List A} {n : Nat} (h : l.length ≤ n) : pyIdx l n = .error Exn.indexError := by
  simp [pyIdx, List.getElem?_eq_none h]

/-! ### 1. the vocabulary of the statement -/

/-- atoms over the exact grid of `DS.Cif`: positions in units `1/(24k)`, rational tensors and occupancies; `R` = everything else an
`Atom` carries -/
abbrev CAtom (R : Type) := PAtom P3 (Mat3 Rat) Rat R

/-- the listed site an atom of the asymmetric unit stands for -/
def siteOf {R : Type} (a : CAtom R) : Site :=
  { label := a.label, elem := a.element, x := a.xyz, occ := a.occupancy, aniso := a.anisotropy, U := a.U }

/-- the atom `Atom(ca)` becomes when it is given the label, position and tensor of an image -/
def ofOut {R : Type} (ca : CAtom R) (o : OutAtom) : CAtom R := { ca with label := o.label, xyz := o.pos, U := o.U }

/-- the six data attributes of an atom / of a model atom -/
def dataOf {R : Type} (a : CAtom R) : String × String × P3 × Rat × Bool × Mat3 Rat :=
  (a.label, a.element, a.xyz, a.occupancy, a.anisotropy, a.U)
def outData (o : OutAtom) : String × String × P3 × Rat × Bool × Mat3 Rat := (o.label, o.elem, o.pos, o.occ, o.aniso, o.U)

/-- what the two setters of `Atom` the method uses are assumed to do (their source: `atom.py`, C09 / `DS.Props.SrcAtom`) -/
structure AtomLaws {P T O R : Type} (ops : AtomOps P T O R) : Prop where
  /-- `a.U = v` on an anisotropic atom stores `v` and nothing else -/
  setU_aniso : ∀ (v : T) (a : PAtom P T O R), a.anisotropy = true → ops.setU v a = { a with U := v }
  /-- `a.anisotropy = b` sets the flag … -/
  setAnisotropy_flag : ∀ (b : Bool) (a : PAtom P T O R), (ops.setAnisotropy b a).anisotropy = b
  /-- … and keeps the label -/
  setAnisotropy_label : ∀ (b : Bool) (a : PAtom P T O R), (ops.setAnisotropy b a).label = a.label

/-- the `j`-th atom of the block of site `i` (the function `DS.Cif.expandSite` maps over `range`) -/
def outAt (G : List Op) (k E : Int) (i : Nat) (s : Site) (j : Nat) : OutAtom :=
  { site := i, img := j, label := imageLabel s.label j, elem := s.elem,
    pos := (Orbit.result G k E (0, 0, 0) s.x).1.getD j (0, 0, 0), occ := s.occ, aniso := s.aniso,
    U := if s.aniso then Con.rotT (Con.rotQ (((Orbit.result G k E (0, 0, 0) s.x).2.1.getD j []).headD Op.one)) s.U else s.U }

theorem expandSite_eq (G : List Op) (k E : Int) (i : Nat) (s : Site) :
    expandSite G k E i s = (List.range (Orbit.result G k E (0, 0, 0) s.x).1.length).map (outAt G k E i s) := rfl

/-- **the interface to `ExpandAsymmetricUnit`**: the object holds, per listed site, the number of positions and the positions
`expandPosition` returns (model `Orbit.result`), and — for the anisotropic sites — the parent's tensor rotated by the first
operation generating each image -/
structure EauOf (G : List Op) (k E : Int) (sites : List Site) (eau : Eau P3 (Mat3 Rat)) : Prop where
  multiplicity : eau.multiplicity = sites.map fun s => (Orbit.result G k E (0, 0, 0) s.x).1.length
  expandedpos : eau.expandedpos = sites.map fun s => (Orbit.result G k E (0, 0, 0) s.x).1
  expandedUijs : ∀ (i : Nat) (s : Site), sites[i]? = some s → s.aniso = true →
    ∃ row, eau.expandedUijs[i]? = some row ∧ ∀ j, j < (Orbit.result G k E (0, 0, 0) s.x).1.length →
      row[j]? = some (Con.rotT (Con.rotQ (((Orbit.result G k E (0, 0, 0) s.x).2.1.getD j []).headD Op.one)) s.U)

/-- the `ExpandAsymmetricUnit` object of the model -/
def eauModel (G : List Op) (k E : Int) (sites : List Site) : Eau P3 (Mat3 Rat) :=
  { multiplicity := sites.map fun s => (Orbit.result G k E (0, 0, 0) s.x).1.length
    expandedpos := sites.map fun s => (Orbit.result G k E (0, 0, 0) s.x).1
    expandedUijs := sites.map fun s => (List.range (Orbit.result G k E (0, 0, 0) s.x).1.length).map fun j =>
      Con.rotT (Con.rotQ (((Orbit.result G k E (0, 0, 0) s.x).2.1.getD j []).headD Op.one)) s.U
    Uisotropy := sites.map fun s => !s.aniso }

/-- non-vacuity of `EauOf`, for every listing -/
theorem eauModel_ok (G : List Op) (k E : Int) (sites : List Site) : EauOf G k E sites (eauModel G k E sites) := by
  refine ⟨rfl, rfl, ?_⟩
  intro i s hs _
  refine ⟨(List.range (Orbit.result G k E (0, 0, 0) s.x).1.length).map fun j =>
      Con.rotT (Con.rotQ (((Orbit.result G k E (0, 0, 0) s.x).2.1.getD j []).headD Op.one)) s.U, ?_, ?_⟩
  · simp only [eauModel, List.getElem?_map, hs, Option.map_some]
  · intro j hj
    simp [hj]

/-- the atoms the reader is to produce: per listed site, in order, the images of `DS.Cif.expandSite`, each with the remaining
attributes of its parent -/
def blocksFrom {R : Type} (G : List Op) (k E : Int) (n : Nat) (cas : List (CAtom R)) : List (CAtom R) :=
  (enumerateFrom n cas).flatMap fun e => (expandSite G k E e.1 (siteOf e.2)).map (ofOut e.2)

def blocks {R : Type} (G : List Op) (k E : Int) (cas : List (CAtom R)) : List (CAtom R) := blocksFrom G k E 0 cas

/-! ### 2. the loops -/

section
variable {R : Type}

/-- **inner loop body**: the `j`-th image of site `i` -/
theorem image_eq {ops : AtomOps P3 (Mat3 Rat) Rat R} (hops : AtomLaws ops) {G : List Op} {k E : Int} {sites : List Site}
    {eau : Eau P3 (Mat3 Rat)} (h : EauOf G k E sites eau) {i : Nat} {ca : CAtom R} (hi : sites[i]? = some (siteOf ca))
    {j : Nat} (hj : j < (Orbit.result G k E (0, 0, 0) ca.xyz).1.length) :
    expandAsymmetricUnit_image ops eau i ca j = .ok (ofOut ca (outAt G k E i (siteOf ca) j)) := by
  have hpos : eau.expandedpos[i]? = some (Orbit.result G k E (0, 0, 0) ca.xyz).1 := by
    rw [h.expandedpos, List.getElem?_map, hi]; rfl
  have hpj : (Orbit.result G k E (0, 0, 0) ca.xyz).1[j]? = some ((Orbit.result G k E (0, 0, 0) ca.xyz).1.getD j (0, 0, 0)) := by
    rw [List.getD_eq_getElem?_getD, List.getElem?_eq_getElem hj]; rfl
  have hlab : imageLabel ca.label j = if decide (j > 0) = true then ca.label ++ ("_" ++ toString (j + 1)) else ca.label := by
    unfold imageLabel
    rcases Nat.eq_zero_or_pos j with rfl | hp
    · simp
    · have : j ≠ 0 := by omega
      simp [hp, this, String.append_assoc]
  unfold expandAsymmetricUnit_image
  simp only [pyIdx_some hpos, pyIdx_some hpj, bind, Except.bind, pure, Except.pure, ofOut, outAt, siteOf, hlab]
  rcases Bool.eq_false_or_eq_true ca.anisotropy with han | han
  · obtain ⟨row, hrow, hr⟩ := h.expandedUijs i (siteOf ca) hi han
    have hrj := hr j hj
    simp only [siteOf] at hrj
    by_cases hp : j > 0 <;> simp [hp, han, pyIdx_some hrow, pyIdx_some hrj, hops.setU_aniso]
  · by_cases hp : j > 0 <;> simp [hp, han]

/-- **outer loop body**: the block of site `i` is appended -/
theorem site_eq {ops : AtomOps P3 (Mat3 Rat) Rat R} (hops : AtomLaws ops) {G : List Op} {k E : Int} {sites : List Site}
    {eau : Eau P3 (Mat3 Rat)} (h : EauOf G k E sites eau) {i : Nat} {ca : CAtom R} (hi : sites[i]? = some (siteOf ca))
    (acc : List (List (CAtom R))) :
    expandAsymmetricUnit_site ops eau acc (i, ca) = .ok (acc ++ [(expandSite G k E i (siteOf ca)).map (ofOut ca)]) := by
  have hm : eau.multiplicity[i]? = some (Orbit.result G k E (0, 0, 0) ca.xyz).1.length := by
    rw [h.multiplicity, List.getElem?_map, hi]; rfl
  have key := foldlM_append_ok (fun j => expandAsymmetricUnit_image ops eau i ca j) (fun j => ofOut ca (outAt G k E i (siteOf ca) j))
    (List.range (Orbit.result G k E (0, 0, 0) ca.xyz).1.length) [] (fun j hj => image_eq hops h hi (List.mem_range.1 hj))
  unfold expandAsymmetricUnit_site
  simp only [pyIdx_some hm, bind, Except.bind, pure, Except.pure] at key ⊢
  rw [key, expandSite_eq, List.map_map]
  rfl

theorem sites_eq {ops : AtomOps P3 (Mat3 Rat) Rat R} (hops : AtomLaws ops) {G : List Op} {k E : Int} {sites : List Site}
    {eau : Eau P3 (Mat3 Rat)} (h : EauOf G k E sites eau) :
    ∀ (l : List (Nat × CAtom R)) (acc : List (List (CAtom R))), (∀ e ∈ l, sites[e.1]? = some (siteOf e.2)) →
      l.foldlM (expandAsymmetricUnit_site ops eau) acc =
        .ok (acc ++ l.map fun e => (expandSite G k E e.1 (siteOf e.2)).map (ofOut e.2))
  | [], acc, _ => by simp [pure, Except.pure]
  | e :: l, acc, hl => by
    rw [List.foldlM_cons, site_eq hops h (hl e List.mem_cons_self)]
    simp only [bind, Except.bind]
    rw [sites_eq hops h l _ (fun e' he' => hl e' (List.mem_cons_of_mem _ he'))]
    simp

theorem forZipMut_cons {A B S : Type} (body : S → A → B → A × S) (s : S) (a : A) (as : List A) (b : B) (bs : List B) :
    forZipMut body s (a :: as) (b :: bs) =
      ((body s a b).1 :: (forZipMut body (body s a b).2 as bs).1, (forZipMut body (body s a b).2 as bs).2) := rfl

theorem decide_decided {P T O R : Type} (ops : AtomOps P T O R) (anis : Dict) (ca : PAtom P T O R) (u : Bool)
    (h : dictHas anis ca.label = true) : expandAsymmetricUnit_decide ops anis ca u = (ca, anis) := by
  simp [expandAsymmetricUnit_decide, h]

/-- **all displacement types decided**: the `zip` loop changes neither the atoms nor the dictionary -/
theorem decide_known {P T O R : Type} (ops : AtomOps P T O R) (anis : Dict) :
    ∀ (stru : List (PAtom P T O R)) (uis : List Bool), (∀ a ∈ stru, dictHas anis a.label = true) →
      forZipMut (expandAsymmetricUnit_decide ops) anis stru uis = (stru, anis)
  | [], _, _ => by simp [forZipMut]
  | _ :: _, [], _ => by simp [forZipMut]
  | a :: stru, u :: uis, h => by
    rw [forZipMut_cons, decide_decided ops anis a u (h a List.mem_cons_self),
      decide_known ops anis stru uis (fun b hb => h b (List.mem_cons_of_mem _ hb))]

/-- **the expansion step is the model** (atoms with their remaining attributes): every listed label decided, the
`ExpandAsymmetricUnit` object as the orbit model describes it -/
theorem expandAsymmetricUnit_eq {ops : AtomOps P3 (Mat3 Rat) Rat R} (hops : AtomLaws ops) (G : List Op) (k E : Int)
    (mkEau : List P3 → List (Mat3 Rat) → Except Exn (Eau P3 (Mat3 Rat))) (st : XState P3 (Mat3 Rat) Rat R) (eau : Eau P3 (Mat3 Rat))
    (hmk : mkEau (st.stru.map (·.xyz)) (st.stru.map (·.U)) = .ok eau)
    (h : EauOf G k E (st.stru.map siteOf) eau)
    (hknown : ∀ a ∈ st.stru, dictHas st.anisotropy a.label = true) :
    expandAsymmetricUnit ops mkEau st = .ok { stru := blocks G k E st.stru, anisotropy := st.anisotropy } := by
  unfold expandAsymmetricUnit
  simp only [hmk, bind, Except.bind, decide_known ops st.anisotropy st.stru eau.Uisotropy hknown]
  rw [sites_eq hops h]
  · simp [pure, Except.pure, blocks, blocksFrom, enumerate, List.flatMap_def]
  · intro e he
    obtain ⟨_, h2⟩ := mem_enumerateFrom _ _ _ _ (show (e.1, e.2) ∈ enumerateFrom 0 st.stru from he)
    rw [List.getElem?_map, show e.1 = e.1 - 0 from rfl, h2]; rfl

/-! ### 3. against `DS.Cif.expand` -/

theorem blocksFrom_cons (G : List Op) (k E : Int) (n : Nat) (a : CAtom R) (cas : List (CAtom R)) :
    blocksFrom G k E n (a :: cas) = (expandSite G k E n (siteOf a)).map (ofOut a) ++ blocksFrom G k E (n + 1) cas := by
  simp [blocksFrom, enumerateFrom]

theorem block_data (G : List Op) (k E : Int) (n : Nat) (a : CAtom R) :
    ((expandSite G k E n (siteOf a)).map (ofOut a)).map dataOf = (expandSite G k E n (siteOf a)).map outData := by
  rw [expandSite_eq, List.map_map, List.map_map, List.map_map]
  rfl

theorem blocksFrom_data (G : List Op) (k E : Int) : ∀ (n : Nat) (cas : List (CAtom R)),
    (blocksFrom G k E n cas).map dataOf = (expandFrom G k E n (cas.map siteOf)).map outData
  | _, [] => by simp [blocksFrom, enumerateFrom, expandFrom]
  | n, a :: cas => by
    rw [blocksFrom_cons, List.map_append, block_data, blocksFrom_data G k E (n + 1) cas]
    simp [expandFrom]

theorem site_ge (G : List Op) (k E : Int) : ∀ (n : Nat) (sites : List Site), ∀ o ∈ expandFrom G k E n sites, n ≤ o.site
  | _, [], o, h => by simp [expandFrom] at h
  | n, s :: ss, o, h => by
    simp only [expandFrom, List.mem_append] at h
    rcases h with h | h
    · exact (C07.image_attrs h).1.ge
    · exact Nat.le_of_succ_le (site_ge G k E (n + 1) ss o h)

theorem blocksFrom_rest (G : List Op) (k E : Int) : ∀ (n : Nat) (cas : List (CAtom R)),
    (blocksFrom G k E n cas).map (fun a => some a.rest) =
      (expandFrom G k E n (cas.map siteOf)).map (fun o => cas[o.site - n]?.map (·.rest))
  | _, [] => by simp [blocksFrom, enumerateFrom, expandFrom]
  | n, a :: cas => by
    rw [blocksFrom_cons, List.map_append, blocksFrom_rest G k E (n + 1) cas]
    simp only [List.map_cons, expandFrom, List.map_append, List.map_map]
    congr 1
    · apply List.map_congr_left
      intro o ho
      simp [(C07.image_attrs ho).1, ofOut]
    · apply List.map_congr_left
      intro o ho
      have := site_ge G k E (n + 1) _ o ho
      have e : o.site - n = (o.site - (n + 1)) + 1 := by omega
      simp [e]

/-- **the expansion step is `DS.Cif.expand`**: under the hypotheses of `expandAsymmetricUnit_eq` the method returns normally, keeps
the dictionary, and the new atom list agrees with the model's in all six data attributes, atom by atom in order; every atom
carries the remaining attributes of the listed site it was copied from -/
theorem expandAsymmetricUnit_expand {ops : AtomOps P3 (Mat3 Rat) Rat R} (hops : AtomLaws ops) (G : List Op) (k E : Int)
    (mkEau : List P3 → List (Mat3 Rat) → Except Exn (Eau P3 (Mat3 Rat))) (st : XState P3 (Mat3 Rat) Rat R) (eau : Eau P3 (Mat3 Rat))
    (hmk : mkEau (st.stru.map (·.xyz)) (st.stru.map (·.U)) = .ok eau)
    (h : EauOf G k E (st.stru.map siteOf) eau)
    (hknown : ∀ a ∈ st.stru, dictHas st.anisotropy a.label = true) :
    ∃ st', expandAsymmetricUnit ops mkEau st = .ok st' ∧ st'.anisotropy = st.anisotropy ∧
      st'.stru.map dataOf = (Cif.expand G k E (st.stru.map siteOf)).map outData ∧
      st'.stru.map (fun a => some a.rest) =
        (Cif.expand G k E (st.stru.map siteOf)).map (fun o => st.stru[o.site]?.map (·.rest)) :=
  ⟨_, expandAsymmetricUnit_eq hops G k E mkEau st eau hmk h hknown, rfl, blocksFrom_data G k E 0 st.stru,
    by simpa [blocks, Cif.expand] using blocksFrom_rest G k E 0 st.stru⟩

/-! ### 4. Python indexing is kept -/

/-- `self.eau.multiplicity[i]` past the end: `IndexError` -/
theorem index_error_multiplicity {P T O R : Type} (ops : AtomOps P T O R) (eau : Eau P T) (acc : List (List (PAtom P T O R)))
    (i : Nat) (ca : PAtom P T O R) (h : eau.multiplicity.length ≤ i) :
    expandAsymmetricUnit_site ops eau acc (i, ca) = .error Exn.indexError := by
  simp [expandAsymmetricUnit_site, pyIdx_none h, bind, Except.bind]

/-- `self.eau.expandedpos[i]` past the end: `IndexError` -/
theorem index_error_pos {P T O R : Type} (ops : AtomOps P T O R) (eau : Eau P T) (i j : Nat) (ca : PAtom P T O R)
    (h : eau.expandedpos.length ≤ i) : expandAsymmetricUnit_image ops eau i ca j = .error Exn.indexError := by
  simp [expandAsymmetricUnit_image, pyIdx_none h, bind, Except.bind]

/-- `self.eau.expandedpos[i][j]` past the end of the row: `IndexError` -/
theorem index_error_row {P T O R : Type} (ops : AtomOps P T O R) (eau : Eau P T) (i j : Nat) (ca : PAtom P T O R)
    (row : List P) (hi : eau.expandedpos[i]? = some row) (h : row.length ≤ j) :
    expandAsymmetricUnit_image ops eau i ca j = .error Exn.indexError := by
  simp [expandAsymmetricUnit_image, pyIdx_some hi, pyIdx_none h, bind, Except.bind]

end

/-! ### 5. the displacement type of sites the file did not decide -/

theorem dictHas_cons (p : String × Bool) (d : Dict) (k : String) : dictHas (p :: d) k = (p.1 == k || dictHas d k) := by
  simp [dictHas]

theorem dictGet_cons (p : String × Bool) (d : Dict) (k : String) :
    dictGet (p :: d) k = if p.1 == k then some p.2 else dictGet d k := by
  simp only [dictGet, List.find?_cons]
  cases p.1 == k <;> simp

theorem dictHas_of_get {d : Dict} {k : String} {v : Bool} (h : dictGet d k = some v) : dictHas d k = true := by
  induction d with
  | nil => simp [dictGet] at h
  | cons p d ih =>
    rw [dictGet_cons] at h; rw [dictHas_cons]
    cases hp : p.1 == k <;> simp_all

theorem dictGet_append_fresh (d : Dict) (k k' : String) (v : Bool) (h : dictHas d k' = false) :
    dictGet (d ++ [(k, v)]) k' = if k == k' then some v else none := by
  induction d with
  | nil => simp [dictGet]
  | cons p d ih =>
    rw [dictHas_cons, Bool.or_eq_false_iff] at h
    rw [List.cons_append, dictGet_cons, h.1, ih h.2]; rfl

theorem dictGet_set_fresh (d : Dict) (k : String) (v : Bool) (h : dictHas d k = false) : dictGet (dictSet d k v) k = some v := by
  simp [dictSet, h, dictGet_append_fresh d k k v h]

theorem dictGet_set_other (d : Dict) (k k' : String) (v w : Bool) (h : dictHas d k = false) (h' : dictGet d k' = some w) :
    dictGet (dictSet d k v) k' = some w := by
  simp only [dictSet, h, Bool.false_eq_true, if_false]
  induction d with
  | nil => simp [dictGet] at h'
  | cons p d ih =>
    rw [dictHas_cons, Bool.or_eq_false_iff] at h
    rw [dictGet_cons] at h'
    rw [List.cons_append, dictGet_cons]
    cases hp : p.1 == k'
    · rw [hp] at h'
      exact ih h.2 h'
    · simpa [hp] using h'

theorem dictHas_set_other (d : Dict) (k k' : String) (v : Bool) (h : dictHas d k = false) (hne : k ≠ k') (h' : dictHas d k' = false) :
    dictHas (dictSet d k v) k' = false := by
  simp only [dictSet, h, Bool.false_eq_true, if_false]
  simp only [dictHas, List.any_append, List.any_cons, List.any_nil, Bool.or_false] at h' ⊢
  simp [h', hne]

section
variable {P T O R : Type}

theorem decide_undecided {ops : AtomOps P T O R} (hops : AtomLaws ops) (anis : Dict) (ca : PAtom P T O R) (u : Bool)
    (h : dictHas anis ca.label = false) :
    expandAsymmetricUnit_decide ops anis ca u = (ops.setAnisotropy (!u) ca, dictSet anis ca.label (!u)) := by
  simp [expandAsymmetricUnit_decide, h, hops.setAnisotropy_flag, hops.setAnisotropy_label]

theorem decide_keeps {ops : AtomOps P T O R} (hops : AtomLaws ops) (anis : Dict) (a : PAtom P T O R) (u : Bool)
    {l : String} {v : Bool} (h : dictGet anis l = some v) :
    dictGet (expandAsymmetricUnit_decide ops anis a u).2 l = some v := by
  rcases Bool.eq_false_or_eq_true (dictHas anis a.label) with hd | hd
  · rw [decide_decided ops anis a u hd]; exact h
  · rw [decide_undecided hops anis a u hd]; exact dictGet_set_other anis a.label l _ v hd h

theorem decide_fresh {ops : AtomOps P T O R} (hops : AtomLaws ops) (anis : Dict) (a : PAtom P T O R) (u : Bool)
    {l : String} (hne : a.label ≠ l) (h : dictHas anis l = false) :
    dictHas (expandAsymmetricUnit_decide ops anis a u).2 l = false := by
  rcases Bool.eq_false_or_eq_true (dictHas anis a.label) with hd | hd
  · rw [decide_decided ops anis a u hd]; exact h
  · rw [decide_undecided hops anis a u hd]; exact dictHas_set_other anis a.label l _ hd hne h

theorem loop_keeps {ops : AtomOps P T O R} (hops : AtomLaws ops) (l : String) (v : Bool) :
    ∀ (stru : List (PAtom P T O R)) (uis : List Bool) (anis : Dict), dictGet anis l = some v →
      dictGet (forZipMut (expandAsymmetricUnit_decide ops) anis stru uis).2 l = some v
  | [], _, _, h => by simpa [forZipMut] using h
  | _ :: _, [], _, h => by simpa [forZipMut] using h
  | a :: stru, u :: uis, anis, h => by
    rw [forZipMut_cons]
    exact loop_keeps hops l v stru uis _ (decide_keeps hops anis a u h)

/-- a site whose label is in the dictionary when the loop starts is left alone -/
theorem aniso_default_later {ops : AtomOps P T O R} (hops : AtomLaws ops) :
    ∀ (stru : List (PAtom P T O R)) (uis : List Bool) (anis : Dict) (i : Nat) (ca : PAtom P T O R) (v : Bool),
      stru[i]? = some ca → dictGet anis ca.label = some v →
      (forZipMut (expandAsymmetricUnit_decide ops) anis stru uis).1[i]? = some ca ∧
        dictGet (forZipMut (expandAsymmetricUnit_decide ops) anis stru uis).2 ca.label = some v := by
  intro stru uis anis i ca v hi hv
  refine ⟨?_, loop_keeps hops ca.label v stru uis anis hv⟩
  induction stru generalizing uis anis i with
  | nil => simp at hi
  | cons a stru ih =>
    cases uis with
    | nil => simpa [forZipMut] using hi
    | cons u uis =>
      rw [forZipMut_cons]
      cases i with
      | zero =>
        simp only [List.getElem?_cons_zero, Option.some.injEq] at hi
        subst hi
        simp [decide_decided ops anis a u (dictHas_of_get hv)]
      | succ i =>
        simp only [List.getElem?_cons_succ] at hi ⊢
        exact ih uis _ i hi (decide_keeps hops anis a u hv)

theorem aniso_default_first {ops : AtomOps P T O R} (hops : AtomLaws ops) :
    ∀ (stru : List (PAtom P T O R)) (uis : List Bool) (anis : Dict) (i : Nat) (ca : PAtom P T O R) (u : Bool),
      stru[i]? = some ca → uis[i]? = some u → dictHas anis ca.label = false →
      (∀ n c, n < i → stru[n]? = some c → c.label ≠ ca.label) →
      (forZipMut (expandAsymmetricUnit_decide ops) anis stru uis).1[i]? = some (ops.setAnisotropy (!u) ca) ∧
        dictGet (forZipMut (expandAsymmetricUnit_decide ops) anis stru uis).2 ca.label = some (!u) ∧
        ∀ i' cb, i < i' → stru[i']? = some cb → cb.label = ca.label →
          (forZipMut (expandAsymmetricUnit_decide ops) anis stru uis).1[i']? = some cb := by
  intro stru
  induction stru with
  | nil => intro _ _ i ca u hi; simp at hi
  | cons a stru ih =>
    intro uis anis i ca u hi hu hd hfirst
    cases uis with
    | nil => simp at hu
    | cons u0 uis =>
      rw [forZipMut_cons]
      cases i with
      | zero =>
        simp only [List.getElem?_cons_zero, Option.some.injEq] at hi hu
        subst hi; subst hu
        rw [decide_undecided hops anis a u0 hd]
        have hrec := dictGet_set_fresh anis a.label (!u0) hd
        refine ⟨by simp, loop_keeps hops a.label (!u0) stru uis _ hrec, fun i' cb hlt hi' hl => ?_⟩
        obtain ⟨n', rfl⟩ := Nat.exists_eq_succ_of_ne_zero (Nat.ne_of_gt hlt)
        exact (aniso_default_later hops stru uis _ n' cb (!u0) hi' (hl ▸ hrec)).1
      | succ i =>
        simp only [List.getElem?_cons_succ] at hi hu ⊢
        have hne : a.label ≠ ca.label := hfirst 0 a (Nat.succ_pos i) rfl
        obtain ⟨h1, h2, h3⟩ := ih uis _ i ca u hi hu (decide_fresh hops anis a u0 hne hd)
          (fun n c hn hc => hfirst (n + 1) c (Nat.succ_lt_succ hn) hc)
        refine ⟨h1, h2, fun i' cb hlt hi' hl => ?_⟩
        obtain ⟨n', rfl⟩ := Nat.exists_eq_succ_of_ne_zero (Nat.ne_of_gt (Nat.zero_lt_of_lt hlt))
        exact h3 n' cb (Nat.lt_of_succ_lt_succ hlt) hi' hl

/-- **the anisotropy-defaulting clause**: a listed site `i` whose label is not in the dictionary, and is not the label of an earlier
listed site, gets the flag `not Uisotropy[i]` (through the `anisotropy` setter of `Atom`), and the dictionary records that decision
under its label -/
theorem aniso_default {ops : AtomOps P T O R} (hops : AtomLaws ops) :
    ∀ (stru : List (PAtom P T O R)) (uis : List Bool) (anis : Dict) (i : Nat) (ca : PAtom P T O R) (u : Bool),
      stru[i]? = some ca → uis[i]? = some u → dictHas anis ca.label = false →
      (∀ i' c, i' < i → stru[i']? = some c → c.label ≠ ca.label) →
      (forZipMut (expandAsymmetricUnit_decide ops) anis stru uis).1[i]? = some (ops.setAnisotropy (!u) ca) ∧
        ((forZipMut (expandAsymmetricUnit_decide ops) anis stru uis).1[i]?.map (·.anisotropy)) = some (!u) ∧
        dictGet (forZipMut (expandAsymmetricUnit_decide ops) anis stru uis).2 ca.label = some (!u) := by
  intro stru uis anis i ca u hi hu hd hfirst
  obtain ⟨h1, h2, -⟩ := aniso_default_first hops stru uis anis i ca u hi hu hd hfirst
  exact ⟨h1, by rw [h1, Option.map_some, hops.setAnisotropy_flag], h2⟩

/-- … so that a later site with the same label keeps the flag it has, and the dictionary keeps the first decision -/
theorem aniso_default_same_label {ops : AtomOps P T O R} (hops : AtomLaws ops)
    (stru : List (PAtom P T O R)) (uis : List Bool) (anis : Dict) (i i' : Nat) (ca cb : PAtom P T O R) (u : Bool)
    (hi : stru[i]? = some ca) (hu : uis[i]? = some u) (hd : dictHas anis ca.label = false)
    (hfirst : ∀ n c, n < i → stru[n]? = some c → c.label ≠ ca.label)
    (hlt : i < i') (hi' : stru[i']? = some cb) (hl : cb.label = ca.label) :
    (forZipMut (expandAsymmetricUnit_decide ops) anis stru uis).1[i']? = some cb ∧
      dictGet (forZipMut (expandAsymmetricUnit_decide ops) anis stru uis).2 ca.label = some (!u) := by
  obtain ⟨-, h2, h3⟩ := aniso_default_first hops stru uis anis i ca u hi hu hd hfirst
  exact ⟨h3 i' cb hlt hi' hl, h2⟩

end

/-! ### 6. non-vacuity -/

/-- setters that store and do nothing else (what `Atom` does on an anisotropic atom) -/
def recOps (P T O R : Type) : AtomOps P T O R :=
  { setAnisotropy := fun b a => { a with anisotropy := b }, setU := fun v a => { a with U := v } }

/-- `AtomLaws` is satisfiable -/
theorem recOps_laws (P T O R : Type) : AtomLaws (recOps P T O R) := ⟨fun _ _ _ => rfl, fun _ _ => rfl, fun _ _ => rfl⟩

/-- the two sites of `DS.Props.C07` as atoms of the asymmetric unit -/
def wAtom : CAtom Unit :=
  { label := "C1", element := "C", occupancy := 1, xyz := (600000, 600000, 312000), anisotropy := true,
    U := ⟨1/100, 1/300, 1/200, 1/300, 2/100, 0, 1/200, 0, 3/100⟩, rest := () }
def mAtom : CAtom Unit :=
  { label := "O1", element := "O", occupancy := 1/2, xyz := (600000, 0, 312000), anisotropy := true,
    U := ⟨1/100, 0, 1/200, 0, 2/100, 0, 1/200, 0, 3/100⟩, rest := () }

def wState : XState P3 (Mat3 Rat) Rat Unit := { stru := [wAtom, mAtom], anisotropy := [("C1", true), ("O1", true)] }

/-- `expandAsymmetricUnit_eq` / `_expand`: the hypotheses hold for the witness setting and the two sites of `DS.Props.C07`
(both labels decided by the file), and the method then returns the 8 + 4 atoms of the model -/
example : [wAtom, mAtom].map siteOf = [C07.wSite, C07.mSite] ∧
    (∀ a ∈ wState.stru, dictHas wState.anisotropy a.label = true) ∧
    EauOf Gen.witness.1.ops 100000 24 (wState.stru.map siteOf) (eauModel Gen.witness.1.ops 100000 24 (wState.stru.map siteOf)) ∧
    ∃ st', expandAsymmetricUnit (recOps _ _ _ _) (fun _ _ => .ok (eauModel Gen.witness.1.ops 100000 24 (wState.stru.map siteOf))) wState
        = .ok st' ∧ st'.stru.length = 12 ∧ st'.anisotropy = wState.anisotropy := by
  refine ⟨rfl, by decide, eauModel_ok _ _ _ _, ?_⟩
  obtain ⟨st', h1, h2, h3, _⟩ := expandAsymmetricUnit_expand (recOps_laws _ _ _ _) Gen.witness.1.ops 100000 24
    (fun _ _ => .ok (eauModel Gen.witness.1.ops 100000 24 (wState.stru.map siteOf))) wState _ rfl (eauModel_ok _ _ _ _) (by decide)
  refine ⟨st', h1, ?_, h2⟩
  have := congrArg List.length h3
  rw [List.length_map, List.length_map, C07.expand_length] at this
  rw [this]
  decide +kernel

/-- `aniso_default`, `aniso_default_same_label`: two listed sites with one undecided label; symmetry allows an anisotropic tensor at
the first (`Uisotropy = False`) and only an isotropic one at the second — the first is made anisotropic, the second is left as it
was, the dictionary records the first decision -/
example : let a1 : CAtom Unit := { wAtom with anisotropy := false }
    let a2 : CAtom Unit := { mAtom with label := "C1", anisotropy := false }
    let r := forZipMut (expandAsymmetricUnit_decide (recOps _ _ _ _)) [] [a1, a2] [false, true]
    dictHas [] a1.label = false ∧ r.1.map (·.anisotropy) = [true, false] ∧ r.2 = [("C1", true)] := by
  decide

/-- the Python indexing: an `ExpandAsymmetricUnit` object with fewer entries than listed sites raises `IndexError` -/
example : expandAsymmetricUnit (recOps _ _ _ _) (fun _ _ => .ok (eauModel Gen.witness.1.ops 100000 24 [C07.wSite])) wState
    = .error Exn.indexError := by
  have h := site_eq (recOps_laws _ _ _ _) (eauModel_ok Gen.witness.1.ops 100000 24 [C07.wSite]) (i := 0) (ca := wAtom) rfl []
  have h2 := index_error_multiplicity (recOps _ _ _ _) (eauModel Gen.witness.1.ops 100000 24 [C07.wSite])
    ([] ++ [(expandSite Gen.witness.1.ops 100000 24 0 (siteOf wAtom)).map (ofOut wAtom)]) 1 mAtom (by decide)
  simp only [expandAsymmetricUnit, bind, Except.bind, wState,
    decide_known (recOps _ _ _ _) [("C1", true), ("O1", true)] [wAtom, mAtom] _ (by decide), enumerate, enumerateFrom,
    List.foldlM_cons, h, h2]

end DS.Props.SrcCifExpand

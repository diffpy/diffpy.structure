import DS.Gen.SrcAtom
/-!
# Source tie for the ADP code of `atom.py` (serves C09; indirectly C14, C07, C04)

`DS/Gen/SrcAtom.lean` is regenerated on every run by `translate/pysrc.py` from the current
`src/diffpy/structure/atom.py` by symbolic execution of the method bodies (branches become nested
`if`/`match`, in-place array updates become record updates, `_get_Uij/_set_Uij` are specialised to
the six index pairs the properties use).  The theorems state that the hand-written state machine
`DS.AtomS` — the object of every C09 theorem — computes the same function, for every scalar type.
-/
namespace DS.Props.SrcAtom
open DS
set_option linter.unusedSectionVars false

section
variable {α : Type} [Add α] [Mul α] [Sub α] [Neg α] [Div α] [OfNat α 0] [OfNat α 1]
  [OfNat α 2] [OfNat α 3] [OfNat α 8] [LT α] [DecidableLT α] [Elem α] [AdpConst α]

theorem BtoU_eq : (Src.Atom.BtoU : α) = BtoU := rfl
theorem UtoB_eq : (Src.Atom.UtoB : α) = UtoB := rfl
/-- `Uisoequiv` getter: flag off / no lattice / the six-term formula -/
theorem uisoequiv_eq (s : AtomS α) : Src.Atom.uisoequiv s = s.uisoequiv := by
  unfold Src.Atom.uisoequiv AtomS.uisoequiv
  cases s.aniso <;> cases s.lat <;> rfl
/-- `U` getter including the rewrite of the storage of an isotropic atom -/
theorem getU_eq (s : AtomS α) : Src.Atom.getU s = s.getU := by
  unfold Src.Atom.getU AtomS.getU
  cases s.aniso <;> rfl
theorem setU_eq (s : AtomS α) (m : Mat3 α) : Src.Atom.setU s m = s.setU m := rfl

theorem get_Uij_eq (s : AtomS α) :
    Src.Atom.get_Uij_00 s = s.getUij .i0 .i0 ∧ Src.Atom.get_Uij_11 s = s.getUij .i1 .i1 ∧
    Src.Atom.get_Uij_22 s = s.getUij .i2 .i2 ∧ Src.Atom.get_Uij_01 s = s.getUij .i0 .i1 ∧
    Src.Atom.get_Uij_02 s = s.getUij .i0 .i2 ∧ Src.Atom.get_Uij_12 s = s.getUij .i1 .i2 :=
  ⟨rfl, rfl, rfl, rfl, rfl, rfl⟩

theorem set_Uij_eq (s : AtomS α) (v : α) :
    Src.Atom.set_Uij_00 s v = s.setUij .i0 .i0 v ∧ Src.Atom.set_Uij_11 s v = s.setUij .i1 .i1 v ∧
    Src.Atom.set_Uij_22 s v = s.setUij .i2 .i2 v ∧ Src.Atom.set_Uij_01 s v = s.setUij .i0 .i1 v ∧
    Src.Atom.set_Uij_02 s v = s.setUij .i0 .i2 v ∧ Src.Atom.set_Uij_12 s v = s.setUij .i1 .i2 v := by
  refine ⟨?_, ?_, ?_, ?_, ?_, ?_⟩ <;>
    simp only [Src.Atom.set_Uij_00, Src.Atom.set_Uij_11, Src.Atom.set_Uij_22, Src.Atom.set_Uij_01,
      Src.Atom.set_Uij_02, Src.Atom.set_Uij_12, AtomS.setUij, Mat3.set] <;>
    cases s.aniso <;> rfl

theorem setUiso_eq (s : AtomS α) (v : α) : Src.Atom.setUiso s v = s.setUiso v := by
  unfold Src.Atom.setUiso AtomS.setUiso
  rw [uisoequiv_eq]
  cases s.aniso <;> rfl

theorem setAniso_eq (s : AtomS α) (b : Bool) : Src.Atom.setAniso s b = s.setAniso b := by
  unfold Src.Atom.setAniso AtomS.setAniso
  rw [uisoequiv_eq, getU_eq]
  cases b <;> cases s.aniso <;> rfl

theorem bisoequiv_eq (s : AtomS α) : Src.Atom.bisoequiv s = s.bisoequiv := by
  unfold Src.Atom.bisoequiv AtomS.bisoequiv
  rw [uisoequiv_eq]; rfl
theorem setBiso_eq (s : AtomS α) (v : α) : Src.Atom.setBiso s v = s.setBiso v := by
  unfold Src.Atom.setBiso AtomS.setBiso
  rw [setUiso_eq]; rfl

/-- the six `Bij` getters … -/
theorem get_Bij_eq (s : AtomS α) :
    Src.Atom.get_B11 s = s.getBij .i0 .i0 ∧ Src.Atom.get_B22 s = s.getBij .i1 .i1 ∧
    Src.Atom.get_B33 s = s.getBij .i2 .i2 ∧ Src.Atom.get_B12 s = s.getBij .i0 .i1 ∧
    Src.Atom.get_B13 s = s.getBij .i0 .i2 ∧ Src.Atom.get_B23 s = s.getBij .i1 .i2 :=
  ⟨rfl, rfl, rfl, rfl, rfl, rfl⟩
/-- … and setters -/
theorem set_Bij_eq (s : AtomS α) (v : α) :
    Src.Atom.set_B11 s v = s.setBij .i0 .i0 v ∧ Src.Atom.set_B22 s v = s.setBij .i1 .i1 v ∧
    Src.Atom.set_B33 s v = s.setBij .i2 .i2 v ∧ Src.Atom.set_B12 s v = s.setBij .i0 .i1 v ∧
    Src.Atom.set_B13 s v = s.setBij .i0 .i2 v ∧ Src.Atom.set_B23 s v = s.setBij .i1 .i2 v := by
  have h := fun w => set_Uij_eq s w
  refine ⟨?_, ?_, ?_, ?_, ?_, ?_⟩
  · exact (h _).1
  · exact (h _).2.1
  · exact (h _).2.2.1
  · exact (h _).2.2.2.1
  · exact (h _).2.2.2.2.1
  · exact (h _).2.2.2.2.2
end

/-- the twelve `Uij`/`Bij` properties are wired to `_get_Uij/_set_Uij` with the index pairs and the
`_UtoB`/`_BtoU` factors the model assumes -/
theorem tensorProps_eq : Src.Atom.tensorProps =
    [("U11", "self._get_Uij(0, 0)", "self._set_Uij(0, 0, value)"),
     ("U22", "self._get_Uij(1, 1)", "self._set_Uij(1, 1, value)"),
     ("U33", "self._get_Uij(2, 2)", "self._set_Uij(2, 2, value)"),
     ("U12", "self._get_Uij(0, 1)", "self._set_Uij(0, 1, value)"),
     ("U13", "self._get_Uij(0, 2)", "self._set_Uij(0, 2, value)"),
     ("U23", "self._get_Uij(1, 2)", "self._set_Uij(1, 2, value)"),
     ("B11", "_UtoB * self._get_Uij(0, 0)", "self._set_Uij(0, 0, _BtoU * value)"),
     ("B22", "_UtoB * self._get_Uij(1, 1)", "self._set_Uij(1, 1, _BtoU * value)"),
     ("B33", "_UtoB * self._get_Uij(2, 2)", "self._set_Uij(2, 2, _BtoU * value)"),
     ("B12", "_UtoB * self._get_Uij(0, 1)", "self._set_Uij(0, 1, _BtoU * value)"),
     ("B13", "_UtoB * self._get_Uij(0, 2)", "self._set_Uij(0, 2, _BtoU * value)"),
     ("B23", "_UtoB * self._get_Uij(1, 2)", "self._set_Uij(1, 2, _BtoU * value)")] := rfl

end DS.Props.SrcAtom

import DS.Model.CifSym
/-!
# C07 — which symmetry a CIF is read with (decision logic of `_parse_space_group_symop_operation_xyz`)

Theorems about `DS.CifSym.resolve`, which `DS.Props.SrcCifSym.parseSymops_eq` identifies with the transliteration of the
current source.  For every block, every environment (the library functions as parameters) and every prior parser state:

* `resolve_fresh` — the result does not depend on what the parser object read before (space group, name, asymmetric unit of
  the previous file);
* `listed_tabulated_wins` — an operator list that is a tabulated setting decides, whatever the names and numbers say;
* `by_identifier` — without operators the identifier decides; `sgid_order` — it is taken in the order IT number, Int-Tables
  number, H-M alt, ref, H-M;
* `custom_when_unidentified` — a listed, untabulated operator list without a usable identifier gives an ad-hoc group with
  exactly the listed operators, named after the Hall symbol;
* `no_symmetry_rejected` — no operators and no usable identifier: the format error;
* `bad_operator_rejected` — an operator text that `getSymOp` rejects rejects the file;
* `first_synonym_wins` — when both loop names occur, `_space_group_symop_operation_xyz` is the one read; `second_synonym` —
  the other name is read when it occurs alone; `resolve_spacegroup` — the stored space group is `choose` of the listed operators.

Full-strength statement and its failure: `listed_ops_decide_statement` ("when operators are listed, the group used consists
of exactly those operators") is FALSE of the present code — `listed_ops_decide_statement_false`: a listed, untabulated operator
list together with a known identifier is expanded with the identifier's tabulated operators (`listed_ops_overridden`); replayed
on the implementation by harness/c07.py (known finding `symsource:listed-ops-overridden`).  What holds is
`listed_ops_decide_partial` (no usable identifier, or the list is tabulated).
-/
namespace DS.Props.C07Sym
open DS.CifSym

variable {G Op A : Type}

/-- the operations of the group the reader ends up with, given the operations of the tabulated settings -/
def SGRes.ops (opsOf : G → List Op) : SGRes G Op → List Op
  | .tab g => opsOf g
  | .custom _ _ ops => ops

/-- **history independence**: two parser objects with any prior contents but the same atom list read the same symmetry -/
theorem resolve_fresh (env : Env G Op) (b : Block) (s₁ s₂ : PState G Op A) (h : s₁.stru = s₂.stru) :
    resolve env b s₁ = resolve env b s₂ := by
  unfold resolve
  cases listedOps env b with
  | error e => rfl
  | ok ops =>
    cases hc : choose env b ops with
    | error e => simp [bind, Except.bind, hc]
    | ok r =>
      simp only [bind, Except.bind, hc, pure, Except.pure]
      cases s₁; cases s₂; simp_all

/-- the outcome kind and the space group depend on nothing but the block -/
theorem resolve_spacegroup (env : Env G Op) (b : Block) (st : PState G Op A) :
    (resolve env b st).map (·.spacegroup) = (listedOps env b >>= choose env b).map some := by
  unfold resolve
  cases listedOps env b with
  | error e => rfl
  | ok ops =>
    cases hc : choose env b ops with
    | error e => simp [bind, Except.bind, hc, Except.map]
    | ok r => simp [bind, Except.bind, hc, pure, Except.pure, Except.map]

/-- **a tabulated operator list decides**, whatever the names and numbers in the block say -/
theorem listed_tabulated_wins (env : Env G Op) (b : Block) (ops : List Op) (g : G) (hne : ops ≠ [])
    (hf : env.find ops = some g) : choose env b ops = .ok (.tab g) := by
  simp [choose, hne, hf, pure, Except.pure]

/-- **without operators the identifier decides** -/
theorem by_identifier (env : Env G Op) (b : Block) (g : G) (hs : sgid b ≠ "") (hi : env.isId (sgid b) = true)
    (hg : env.getSG (sgid b) = .ok g) : choose env b [] = .ok (.tab g) := by
  simp [choose, hs, hi, hg, bind, Except.bind, pure, Except.pure]

theorem pyOr_assoc (a b c : String) : pyOr (pyOr a b) c = pyOr a (pyOr b c) := by
  unfold pyOr
  by_cases ha : a = "" <;> simp [ha]

/-- the order in which the identifier items are consulted -/
theorem sgid_order (b : Block) :
    sgid b = (if b.getD "_space_group_IT_number" ≠ "" then b.getD "_space_group_IT_number"
      else if b.getD "_symmetry_Int_Tables_number" ≠ "" then b.getD "_symmetry_Int_Tables_number"
      else if b.getD "_space_group_name_H-M_alt" ≠ "" then b.getD "_space_group_name_H-M_alt"
      else if b.getD "_space_group_name_H-M_ref" ≠ "" then b.getD "_space_group_name_H-M_ref"
      else b.getD "_symmetry_space_group_name_H-M") := by
  simp only [sgid, hm, pyOr_assoc]
  simp only [pyOr, bne_iff_ne]

/-- **listed, untabulated, no usable identifier: an ad-hoc group with exactly the listed operators** -/
theorem custom_when_unidentified (env : Env G Op) (b : Block) (ops : List Op) (hne : ops ≠ [])
    (hf : env.find ops = none) (hid : sgid b = "" ∨ env.isId (sgid b) = false) :
    choose env b ops = .ok (.custom ("CIF " ++ pyOr (hall b) "data") (crystalSystem env b) ops) := by
  rcases hid with h | h <;> simp [choose, hne, hf, h, pure, Except.pure]

/-- **no operators, no usable identifier: the format error** -/
theorem no_symmetry_rejected (env : Env G Op) (b : Block) (hid : sgid b = "" ∨ env.isId (sgid b) = false) :
    choose env b [] = .error .structureFormatError := by
  rcases hid with h | h <;> simp [choose, h]

/-- the operator list read is that of the first synonym present (`hn`); a rejected operator text rejects the file, with the
error kind `e` that every rejected text of the column has (`hfirst`) -/
theorem bad_operator_rejected (env : Env G Op) (b : Block) (st : PState G Op A) (n : String) (rest : List String)
    (hn : symSynonyms.filter b.has = n :: rest) (e : Exn) (t : String) (ht : t ∈ b.col n)
    (hbad : env.getSymOp t = .error e) (hfirst : ∀ t' ∈ b.col n, ∀ e', env.getSymOp t' = .error e' → e' = e) :
    resolve env b st = .error e := by
  have hl : listedOps env b = .error e := by
    unfold listedOps; rw [hn]
    show (b.col n).mapM env.getSymOp = .error e
    generalize b.col n = l at ht hfirst
    induction l with
    | nil => cases ht
    | cons a l ih =>
      rw [List.mapM_cons]
      cases ha : env.getSymOp a with
      | error e' =>
        have := hfirst a (by simp) e' ha
        simp [bind, Except.bind, this]
      | ok o =>
        have hta : t ∈ l := by
          rcases List.mem_cons.1 ht with h | h
          · subst h; rw [hbad] at ha; cases ha
          · exact h
        have := ih hta (fun t' ht' => hfirst t' (List.mem_cons_of_mem _ ht'))
        simp [bind, Except.bind, this]
  unfold resolve; rw [hl]; rfl

/-- when both loop names occur, `_space_group_symop_operation_xyz` is the one read -/
theorem first_synonym_wins (env : Env G Op) (b : Block) (h : b.has "_space_group_symop_operation_xyz" = true) :
    listedOps env b = (b.col "_space_group_symop_operation_xyz").mapM env.getSymOp := by
  unfold listedOps symSynonyms
  simp [List.filter, h]

/-- only the older name present -/
theorem second_synonym (env : Env G Op) (b : Block) (h1 : b.has "_space_group_symop_operation_xyz" = false)
    (h2 : b.has "_symmetry_equiv_pos_as_xyz" = true) :
    listedOps env b = (b.col "_symmetry_equiv_pos_as_xyz").mapM env.getSymOp := by
  unfold listedOps symSynonyms
  simp [List.filter, h1, h2]

/-! ## the full-strength statement about listed operators, and why it fails -/

/-- "when operators are listed, the group the file is expanded with consists of exactly the listed operators (as a tabulated
setting with those operators, or as an ad-hoc group)" — `Same` is the relation "same operations up to order" -/
def listed_ops_decide_statement : Prop :=
  ∀ (G Op : Type) (env : Env G Op) (opsOf : G → List Op) (Same : List Op → List Op → Prop),
    (∀ l g, env.find l = some g → Same (opsOf g) l) → (∀ l, Same l l) →
    ∀ (b : Block) (ops : List Op) (r : SGRes G Op), ops ≠ [] → choose env b ops = .ok r → Same (SGRes.ops opsOf r) ops

/-- what holds: the list is tabulated, or there is no usable identifier -/
theorem listed_ops_decide_partial (env : Env G Op) (opsOf : G → List Op) (Same : List Op → List Op → Prop)
    (hfind : ∀ l g, env.find l = some g → Same (opsOf g) l) (hrefl : ∀ l, Same l l)
    (b : Block) (ops : List Op) (r : SGRes G Op) (hne : ops ≠ [])
    (hside : (env.find ops).isSome = true ∨ sgid b = "" ∨ env.isId (sgid b) = false)
    (h : choose env b ops = .ok r) : Same (SGRes.ops opsOf r) ops := by
  cases hf : env.find ops with
  | some g =>
    rw [listed_tabulated_wins env b ops g hne hf] at h
    cases h; exact hfind ops g hf
  | none =>
    rcases hside with h1 | h2
    · rw [hf] at h1; cases h1
    · rw [custom_when_unidentified env b ops hne hf h2] at h
      cases h; exact hrefl ops

/-- **the listed operators are overridden by a known identifier** when the list is not a tabulated one -/
theorem listed_ops_overridden (env : Env G Op) (b : Block) (ops : List Op) (g : G) (hne : ops ≠ [])
    (hf : env.find ops = none) (hs : sgid b ≠ "") (hi : env.isId (sgid b) = true) (hg : env.getSG (sgid b) = .ok g) :
    choose env b ops = .ok (.tab g) := by
  simp [choose, hne, hf, hs, hi, hg, bind, Except.bind, pure, Except.pure]

/-- witness block: one operator text, read as the opaque operator `7` (its length) (not tabulated), identifier `14` known with operations `[1, 2]` -/
def wBlock : Block := { names := ["_symmetry_equiv_pos_as_xyz", "_symmetry_Int_Tables_number"],
                        items := [("_symmetry_Int_Tables_number", "14")], cols := [("_symmetry_equiv_pos_as_xyz", ["x,y,z+0"])] }

def wEnv : Env Nat Nat := { getSymOp := fun t => .ok t.length, find := fun l => if l = [1, 2] then some 14 else none,
                            isId := fun s => s == "14", getSG := fun _ => .ok 14, upper := id }

theorem listed_ops_decide_statement_false : ¬ listed_ops_decide_statement := by
  intro h
  have := h Nat Nat wEnv (fun _ => [1, 2]) (· = ·)
    (by intro l g hl; simp only [wEnv] at hl; split at hl <;> simp_all) (fun _ => rfl) wBlock [7] (.tab 14) (by simp)
    (by rfl)
  simp [SGRes.ops] at this

/-! ## non-vacuity -/

/-- the witness block really lists the operator `7` and is resolved to a space group (`listed_ops_overridden` says to which) -/
example : listedOps wEnv wBlock = .ok [7] := by rfl
example : (resolve wEnv wBlock (⟨[0], [], none, none⟩ : PState Nat Nat Nat)).map (fun s => s.spacegroup.isSome) = .ok true := by rfl

/-- `custom_when_unidentified` and `listed_ops_decide_partial`: the same list without the identifier -/
example : choose wEnv { wBlock with items := [] } [7] = .ok (.custom "CIF data" "TRICLINIC" [7]) := by rfl

/-- `listed_tabulated_wins`: the tabulated list `[1, 2]` with a contradicting identifier -/
example : choose { wEnv with isId := fun _ => true, getSG := fun _ => .ok 99 } wBlock [1, 2] = .ok (.tab 14) := by rfl

end DS.Props.C07Sym

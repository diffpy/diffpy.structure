import DS.Props.C09
/-!
# C14 — re-expressing a structure in another lattice leaves the crystal unchanged

Model: `DS.placeInLattice` / `DS.placeAtom` in `DS.Model.Adp` (structure.py, `placeInLattice`:
`Tx = base₁·recbase₂`, `Tu = normbase₁·recnormbase₂`, `xyz ↦ xyz·Tx`, `U ↦ Tuᵀ·(U·Tu)` only when the
atom's flag is set, then every atom refers to the new lattice).  Conventions derived from the
code: Cartesian position `xyz·base`; Cartesian displacement tensor `normbaseᵀ·U·normbase`
(`ucart`, as in `Atom.msdCart`).  All theorems over the reals, for all lattices satisfying `LatOK`.
-/
namespace DS.Props.C14
open DS DS.AtomS

/-! ### algebra -/

theorem conj_conj (a t u : Mat3 ℝ) :
    a.transpose.mul ((t.transpose.mul (u.mul t)).mul a) = (t.mul a).transpose.mul (u.mul (t.mul a)) := by
  rw [Mat3.transpose_mul]
  simp only [Mat3.mul_assoc]

theorem conj_one (u : Mat3 ℝ) : (Mat3.one : Mat3 ℝ).transpose.mul (u.mul Mat3.one) = u := by
  rw [Mat3.transpose_one, Mat3.mul_one, Mat3.one_mul]

/-- `Tx·base₂ = base₁` and `Tu·normbase₂ = normbase₁`: the inverse in the middle cancels -/
theorem mul_mul_cancel {a r b : Mat3 ℝ} (h : r.mul b = Mat3.one) : (a.mul r).mul b = a := by
  rw [Mat3.mul_assoc, h, Mat3.mul_one]

theorem mul_mul_mul_cancel {a r b : Mat3 ℝ} (c : Mat3 ℝ) (h : r.mul b = Mat3.one) :
    (a.mul r).mul (b.mul c) = a.mul c := by
  rw [← Mat3.mul_assoc, mul_mul_cancel h]

/-! ### one atom -/
section atom
variable {l1 l2 : LatData ℝ} (a : AtomS ℝ)

theorem placeAtom_xyz : (placeAtom l1 l2 a).xyz = Mat3.vecMul a.xyz (l1.base.mul l2.recbase) := by
  unfold placeAtom; simp only [setLattice, setU, getU]; split <;> rfl

theorem placeAtom_aniso : (placeAtom l1 l2 a).aniso = a.aniso := by
  unfold placeAtom; simp only [setLattice, setU, getU]
  split <;> rfl

theorem placeAtom_lat : (placeAtom l1 l2 a).lat = some l2 := by
  unfold placeAtom; rfl

theorem placeAtom_U_aniso (h : a.aniso = true) :
    (placeAtom l1 l2 a).U =
      (l1.normbase.mul l2.recnormbase).transpose.mul (a.U.mul (l1.normbase.mul l2.recnormbase)) := by
  unfold placeAtom; simp [setLattice, setU, getU, h]

theorem placeAtom_U_iso (h : a.aniso = false) : (placeAtom l1 l2 a).U = a.U := by
  unfold placeAtom; simp [setLattice, h]

/-- absolute Cartesian position is kept -/
theorem cart_preserved (h2 : LatOK l2) : l2.cart (placeAtom l1 l2 a).xyz = l1.cart a.xyz := by
  rw [placeAtom_xyz]; unfold LatData.cart
  rw [Mat3.vecMul_mul, mul_mul_cancel h2.rec_base]

/-- the stored tensor of an anisotropic atom describes the same Cartesian tensor:
`N₂ᵀ·U'·N₂ = N₁ᵀ·U·N₁` -/
theorem Ucart_preserved_aniso (h2 : LatOK l2) (ha : a.aniso = true) :
    ucart l2 (placeAtom l1 l2 a).U = ucart l1 a.U := by
  rw [placeAtom_U_aniso a ha]; unfold ucart
  rw [conj_conj, mul_mul_cancel h2.recnormbase_normbase]

/-- the readable tensor (`Atom.U`) describes the same Cartesian tensor, either flag state
(the atom is assumed to refer to the structure's lattice `l1`, as in a consistent Structure) -/
theorem Ucart_preserved (h1 : LatOK l1) (h2 : LatOK l2) (hl : a.lat = some l1) :
    ucart l2 ((placeAtom l1 l2 a).getU).1 = ucart l1 (a.getU).1 := by
  cases ha : a.aniso with
  | true =>
    have e1 : ((placeAtom l1 l2 a).getU).1 = (placeAtom l1 l2 a).U := by
      unfold getU; simp [placeAtom_aniso, ha]
    have e2 : (a.getU).1 = a.U := by unfold getU; simp [ha]
    rw [e1, e2]; exact Ucart_preserved_aniso a h2 ha
  | false =>
    have e1 : ((placeAtom l1 l2 a).getU).1 = Mat3.smul a.U.a11 l2.isotropicunit := by
      unfold getU latOf; simp [placeAtom_aniso, placeAtom_lat, placeAtom_U_iso, ha]
    have e2 : (a.getU).1 = Mat3.smul a.U.a11 l1.isotropicunit := by
      unfold getU latOf; simp [ha, hl]
    rw [e1, e2, h1.ucart_iso, h2.ucart_iso]

theorem placeAtom_inv (h2 : LatOK l2) (hs : a.U.isSymm) : AdpInv (placeAtom l1 l2 a) := by
  refine ⟨?_, ?_⟩
  · cases ha : a.aniso with
    | true => rw [placeAtom_U_aniso a ha]; exact Mat3.isSymm_conj _ hs
    | false => rw [placeAtom_U_iso a ha]; exact hs
  · intro l hl; rw [placeAtom_lat] at hl; cases hl; exact h2

/-- the equivalent isotropic value is kept -/
theorem uiso_preserved (h1 : LatOK l1) (h2 : LatOK l2) (hl : a.lat = some l1) (hs : a.U.isSymm) :
    (placeAtom l1 l2 a).uisoequiv = a.uisoequiv := by
  have ia : AdpInv a := ⟨hs, fun l h => by rw [hl] at h; cases h; exact h1⟩
  have ip := placeAtom_inv (l1 := l1) a h2 hs
  have la : a.latOf = l1 := by unfold latOf; rw [hl]; rfl
  have lp : (placeAtom l1 l2 a).latOf = l2 := by unfold latOf; rw [placeAtom_lat]; rfl
  rw [uisoequiv_trace ip, uisoequiv_trace ia, la, lp, Ucart_preserved a h1 h2 hl]

/-- mean-square displacement along a fixed Cartesian direction is kept -/
theorem msdCart_preserved (h1 : LatOK l1) (h2 : LatOK l2) (hl : a.lat = some l1) (hs : a.U.isSymm)
    (v : Vec3 ℝ) : (placeAtom l1 l2 a).msdCart v = a.msdCart v := by
  have la : a.latOf = l1 := by unfold latOf; rw [hl]; rfl
  have lp : (placeAtom l1 l2 a).latOf = l2 := by unfold latOf; rw [placeAtom_lat]; rfl
  unfold msdCart
  rw [placeAtom_aniso, uiso_preserved a h1 h2 hl hs, la, lp]
  cases ha : a.aniso with
  | false => rfl
  | true => simp only [Bool.not_true, Bool.false_eq_true, if_false]; rw [Ucart_preserved_aniso a h2 ha]

/-- placing into `l2` then into `l3` is placing into `l3` -/
theorem placeAtom_chain {l3 : LatData ℝ} (h2 : LatOK l2) :
    placeAtom l2 l3 (placeAtom l1 l2 a) = placeAtom l1 l3 a := by
  cases ha : a.aniso with
  | false =>
    unfold placeAtom
    simp only [ha, setLattice, Bool.false_eq_true, if_false]
    rw [Mat3.vecMul_mul, mul_mul_mul_cancel _ h2.rec_base]
  | true =>
    unfold placeAtom
    simp only [ha, setLattice, setU, getU, if_true]
    rw [Mat3.vecMul_mul, mul_mul_mul_cancel _ h2.rec_base, conj_conj, mul_mul_mul_cancel _ h2.recnormbase_normbase]

/-- placing an atom of `l1` into `l1` itself changes nothing -/
theorem placeAtom_self (h1 : LatOK l1) (hl : a.lat = some l1) : placeAtom l1 l1 a = a := by
  have e1 : l1.base.mul l1.recbase = Mat3.one := h1.base_rec
  have e2 : l1.normbase.mul l1.recnormbase = Mat3.one := h1.normbase_recnormbase
  cases ha : a.aniso with
  | false =>
    unfold placeAtom
    simp only [ha, setLattice, Bool.false_eq_true, if_false]
    rw [e1, Mat3.vecMul_one, ← hl, ← ha]
  | true =>
    unfold placeAtom
    simp only [ha, setLattice, setU, getU, if_true]
    rw [e1, e2, Mat3.vecMul_one, conj_one, ← hl, ← ha]

/-- there and back -/
theorem placeAtom_back (h1 : LatOK l1) (h2 : LatOK l2) (hl : a.lat = some l1) :
    placeAtom l2 l1 (placeAtom l1 l2 a) = a := by
  rw [placeAtom_chain a h2, placeAtom_self a h1 hl]

/-- supercell folding (the `ncell` records of PDFfit / DISCUS files): when the new base vectors are
`nx, ny, nz` times the old ones, fractional coordinates are divided by the multipliers … -/
theorem ncell_fold_xyz (h2 : LatOK l2) {nx ny nz : ℝ} (hx : nx ≠ 0) (hy : ny ≠ 0) (hz : nz ≠ 0)
    (hb : l2.base = l1.base.rowScale nx ny nz) :
    (placeAtom l1 l2 a).xyz = ⟨a.xyz.x / nx, a.xyz.y / ny, a.xyz.z / nz⟩ := by
  -- `Tx = base₁·recbase₂` with its rows multiplied by `nx, ny, nz` is the identity: `Tx = diag(1/nx, 1/ny, 1/nz)`
  have e : (l1.base.mul l2.recbase).rowScale nx ny nz = Mat3.one := by
    rw [← Mat3.rowScale_mul, ← hb]; exact h2.base_rec
  rw [placeAtom_xyz]
  generalize l1.base.mul l2.recbase = T at e ⊢
  simp only [Mat3.rowScale, Mat3.one, Mat3.mk.injEq] at e
  obtain ⟨e11, e12, e13, e21, e22, e23, e31, e32, e33⟩ := e
  have z : ∀ {t n : ℝ}, n ≠ 0 → t * n = 0 → t = 0 := fun hn h => (mul_eq_zero.1 h).resolve_right hn
  simp only [Mat3.vecMul, eq_div_of_mul_eq hx e11, z hx e12, z hx e13, z hy e21, eq_div_of_mul_eq hy e22,
    z hy e23, z hz e31, z hz e32, eq_div_of_mul_eq hz e33, mul_zero, add_zero, zero_add, mul_one_div]

/-- … and displacement tensors are unchanged (the normalised base vectors of a supercell are those
of the cell: `ar` is divided by the factor the base vector is multiplied with) -/
theorem ncell_fold_U (h2 : LatOK l2) (hN : l2.normbase = l1.normbase) : (placeAtom l1 l2 a).U = a.U := by
  cases ha : a.aniso with
  | false => exact placeAtom_U_iso a ha
  | true => rw [placeAtom_U_aniso a ha, ← hN, h2.normbase_recnormbase, conj_one]

end atom

/-! ### the structure -/
section stru
variable (s : StruS ℝ) (l2 : LatData ℝ)

/-- every atom of `s` refers to the lattice of `s` (what C08 establishes for `Structure`) -/
def Consistent (s : StruS ℝ) : Prop := ∀ a ∈ s.atoms, a.lat = some s.lat

theorem lattice_is_new : (placeInLattice s l2).lat = l2 ∧ Consistent (placeInLattice s l2) := by
  refine ⟨rfl, ?_⟩
  intro a ha
  simp only [placeInLattice, List.mem_map] at ha
  obtain ⟨b, _, rfl⟩ := ha
  exact placeAtom_lat b

/-- same atoms in the same order; flags untouched -/
theorem flags_identity_preserved :
    (placeInLattice s l2).atoms.length = s.atoms.length ∧
      (placeInLattice s l2).atoms.map (·.aniso) = s.atoms.map (·.aniso) := by
  refine ⟨by simp [placeInLattice], ?_⟩
  simp only [placeInLattice, List.map_map]
  apply List.map_congr_left
  intro a _
  exact placeAtom_aniso a

/-- Cartesian positions, Cartesian tensors and isotropic values of all atoms are kept -/
theorem crystal_preserved (h1 : LatOK s.lat) (h2 : LatOK l2) (hc : Consistent s)
    (hs : ∀ a ∈ s.atoms, a.U.isSymm) :
    (placeInLattice s l2).atoms.map (fun a => (l2.cart a.xyz, ucart l2 (a.getU).1, a.uisoequiv))
      = s.atoms.map (fun a => (s.lat.cart a.xyz, ucart s.lat (a.getU).1, a.uisoequiv)) := by
  simp only [placeInLattice, List.map_map]
  apply List.map_congr_left
  intro a ha
  simp only [Function.comp]
  rw [cart_preserved a h2, Ucart_preserved a h1 h2 (hc a ha), uiso_preserved a h1 h2 (hc a ha) (hs a ha)]

/-- going to another lattice and back returns the original fractional coordinates and tensors -/
theorem there_and_back (h1 : LatOK s.lat) (h2 : LatOK l2) (hc : Consistent s) :
    placeInLattice (placeInLattice s l2) s.lat = s := by
  cases s with
  | mk lat atoms =>
    simp only [placeInLattice, List.map_map, StruS.mk.injEq, true_and]
    conv_rhs => rw [← List.map_id atoms]
    apply List.map_congr_left
    intro a ha
    exact placeAtom_back a h1 h2 (hc a ha)

/-- a chain of placements ends where the direct placement ends -/
theorem chain (l3 : LatData ℝ) (h2 : LatOK l2) :
    placeInLattice (placeInLattice s l2) l3 = placeInLattice s l3 := by
  simp only [placeInLattice, List.map_map, StruS.mk.injEq, true_and]
  apply List.map_congr_left
  intro a _
  exact placeAtom_chain a h2

/-- any chain of placements -/
theorem chain_list (ls : List (LatData ℝ)) (hls : ∀ l ∈ ls, LatOK l) (l3 : LatData ℝ) :
    placeInLattice (ls.foldl placeInLattice s) l3 = placeInLattice s l3 := by
  induction ls generalizing s with
  | nil => rfl
  | cons l ls ih =>
    simp only [List.foldl_cons]
    rw [ih (placeInLattice s l) (fun x hx => hls x (List.mem_cons_of_mem _ hx)),
      chain s l l3 (hls l (List.mem_cons_self ..))]

end stru

/-! ### non-vacuity -/

/-- a second genuine lattice: orthogonal cell 2 × 4 × 5 -/
noncomputable def orth : LatData ℝ :=
  let base : Mat3 ℝ := ⟨2, 0, 0, 0, 4, 0, 0, 0, 5⟩
  let rcb : Mat3 ℝ := ⟨1 / 2, 0, 0, 0, 1 / 4, 0, 0, 0, 1 / 5⟩
  { a := 2, b := 4, c := 5, ca := 0, cb := 0, cg := 0, ar := 1 / 2, br := 1 / 4, cr := 1 / 5,
    base := base, recbase := rcb,
    normbase := base.rowScale (1 / 2) (1 / 4) (1 / 5),
    recnormbase := rcb.colDiv (1 / 2) (1 / 4) (1 / 5),
    isotropicunit := isotropicunitOf (rcb.colDiv (1 / 2) (1 / 4) (1 / 5)),
    metrics := metricsOf 2 4 5 0 0 0 }

theorem orth_ok : LatOK orth where
  base_rec := by simp only [orth, Mat3.mul, Mat3.one]; norm_num
  rec_base := by simp only [orth, Mat3.mul, Mat3.one]; norm_num
  normbase_def := rfl
  recnormbase_def := rfl
  ar_ne := by simp only [orth]; norm_num
  br_ne := by simp only [orth]; norm_num
  cr_ne := by simp only [orth]; norm_num
  iso_def := rfl
  iso_diag11 := by simp only [orth, Mat3.mul, Mat3.transpose, Mat3.colDiv]; norm_num
  iso_diag22 := by simp only [orth, Mat3.mul, Mat3.transpose, Mat3.colDiv]; norm_num
  iso_diag33 := by simp only [orth, Mat3.mul, Mat3.transpose, Mat3.colDiv]; norm_num
  metrics_def := rfl
  metrics_gram := by simp only [orth, Mat3.mul, Mat3.transpose, metricsOf]; norm_num

/-- a structure in the oblique lattice of C09 with one anisotropic and one isotropic atom -/
noncomputable def demo : StruS ℝ :=
  { lat := C09.obl,
    atoms := [ { xyz := ⟨1 / 2, 1 / 4, 0⟩, U := ⟨1, 2, 3, 2, 4, 5, 3, 5, 6⟩, aniso := true, lat := some C09.obl },
               { xyz := ⟨0, 1 / 3, 1 / 2⟩, U := ⟨7, 0, 0, 0, 0, 0, 0, 0, 0⟩, aniso := false, lat := some C09.obl } ] }

theorem demo_consistent : Consistent demo := by
  intro a ha
  simp only [demo, List.mem_cons, List.mem_nil_iff, or_false] at ha
  rcases ha with rfl | rfl <;> rfl

/-- the hypotheses of `there_and_back` / `crystal_preserved` are satisfiable, and the placement is
not the identity: the fractional coordinates of the first atom really change -/
example : placeInLattice (placeInLattice demo orth) demo.lat = demo :=
  there_and_back demo orth C09.obl_ok orth_ok demo_consistent

example : ((placeInLattice demo orth).atoms.map (·.xyz)).head? = some ⟨13 / 8, 1 / 4, 0⟩ := by
  simp only [placeInLattice, placeAtom, demo, orth, C09.obl, setLattice, setU, getU, Mat3.vecMul, Mat3.mul,
    List.map_cons, List.head?_cons, if_true]
  norm_num

/-- the tensor of the anisotropic atom changes as well (`U' = Tuᵀ U Tu`), here `U'₁₁ = 121/16` -/
example : ((placeInLattice demo orth).atoms.map (·.U.a11)).head? = some (121 / 16) := by
  simp only [placeInLattice, placeAtom, demo, orth, C09.obl, setLattice, setU, getU, Mat3.mul, Mat3.transpose,
    Mat3.rowScale, Mat3.colDiv, List.map_cons, List.head?_cons, if_true]
  norm_num

end DS.Props.C14

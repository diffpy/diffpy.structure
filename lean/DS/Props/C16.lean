import DS.Lemmas.Load
/-!
# C16 — loading and saving are all-or-nothing and do not depend on the object's past

Protocol level: `read` models `Structure.read/readStr` + the `PDFFitStructure` post-step exactly in the order the
code performs the steps (`getParser`; parse; `Structure.__init__(self)`; `__dict__.update`; slice assignment;
title-from-file-name rule; `self.pdffit["spcgr"] = …`), `write` models serialise-then-open.  The parser is a
parameter (`ReadIn.parse`: a new structure, `None`, or an exception).

Two clauses of the property are **false of the current code**; the negations are proved with concrete witnesses
(replayed on the real code by harness/c16.py) and the fragments that do hold are the `…_partial` theorems.
-/
namespace DS.Props.C16
open DS DS.Load

/-! ## failed reads -/

/-- a read that fails in `getParser` or in the parser leaves the target exactly as it was, and reports that error -/
theorem read_fail_unchanged (i : ReadIn) (o : Obj) :
    (∀ e, i.getParser = some e → read i o = ⟨some e, o⟩) ∧
    (∀ k m, i.getParser = none → i.parse = .err k m → read i o = ⟨some (k, m), o⟩) := by
  constructor
  · intro e he
    have hs : structureRead i o = ⟨some e, o⟩ := by simp [structureRead, he]
    rw [Load.read, hs, postStep_err _ _ _ (by simp)]
  · intro k m hg hp
    have hs : structureRead i o = ⟨some (k, m), o⟩ := by simp [structureRead, hg, hp]
    rw [Load.read, hs, postStep_err _ _ _ (by simp)]

/-- `Structure.read/readStr` itself (no post-step) is all-or-nothing -/
theorem structureRead_fail_unchanged (i : ReadIn) (o : Obj) (h : (structureRead i o).err ≠ none) :
    (structureRead i o).obj = o := by
  unfold structureRead at h ⊢
  cases hg : i.getParser with
  | some e => simp
  | none =>
    rw [hg] at h
    cases hp : i.parse with
    | err k m => simp
    | none => rw [hp] at h; simp at h
    | ok n => rw [hp] at h; simp at h

/-- full-strength clause: *any* failed read leaves the target unchanged -/
def read_fail_unchanged_statement : Prop := ∀ (i : ReadIn) (o : Obj), (read i o).err ≠ none → (read i o).obj = o

/-- the witness: a `PDFFitStructure` copy-constructed from a plain `Structure` (its `pdffit` is `None`) reading a
source whose parser found a space group -/
def witnessPdffitNone : ReadIn × Obj :=
  (⟨9, none, none, .ok ⟨[("_lattice", .lat 2 "Lattice(a=3)")], [⟨"C", some 2⟩]⟩, some "P1"⟩,
   ⟨.pdffit, [("pdffit", .none), ("_lattice", .lat 1 "Lattice()")], [⟨"H", some 1⟩]⟩)

/-- **false of the current code**: the post-step raises `TypeError` after the content has been replaced -/
theorem read_fail_unchanged_false : ¬ read_fail_unchanged_statement := by
  intro h
  have := h witnessPdffitNone.1 witnessPdffitNone.2 (by decide)
  revert this
  decide

/-- what does hold: a failed read leaves the target unchanged whenever the post-step cannot fail — the target is a
plain `Structure`, or the parser found no space group, or the `pdffit` attribute after loading is a dict -/
theorem read_fail_unchanged_partial (i : ReadIn) (o : Obj) (h : (read i o).err ≠ none)
    (hp : o.cls = .base ∨ i.spacegroup = none ∨ ∃ kv, getattr (structureRead i o).obj "pdffit" = some (.dict kv)) :
    (read i o).obj = o := by
  unfold Load.read at h ⊢
  by_cases he : (structureRead i o).err = none
  · -- `Structure.read` succeeded: the post-step cannot have failed under the hypothesis
    exfalso
    apply h
    rcases hp with hc | hs | ⟨kv, hkv⟩
    · rw [hc, postStep_base]; exact he
    · rw [hs, postStep_nosg]; exact he
    · exact postStep_dict _ _ _ kv he hkv
  · rw [postStep_err _ _ _ he]
    exact structureRead_fail_unchanged i o he

/-! ## atoms refer to the target's lattice -/

/-- after a read whose parser returned a structure, every atom of the target refers to the target's own lattice
object (also when the post-step then fails) -/
theorem atoms_lattice_target (i : ReadIn) (o : Obj) (n : Parsed) (hg : i.getParser = none) (hp : i.parse = .ok n) :
    (observe (read i o).obj).atomsOwnLattice = true := by
  rw [observe_own]
  unfold Load.read
  apply own_postStep
  unfold structureRead
  rw [hg, hp]
  exact own_titleStep _ _ (own_replace _ n)

/-- … and when the parser returned `None` the invariant is preserved if it held before -/
theorem atoms_lattice_target_none (i : ReadIn) (o : Obj) (hg : i.getParser = none) (hp : i.parse = .none)
    (h : OwnLattice o) : (observe (read i o).obj).atomsOwnLattice = true := by
  rw [observe_own]
  unfold Load.read
  apply own_postStep
  unfold structureRead
  rw [hg, hp]
  exact own_titleStep _ _ (own_init0 _ _ h)

/-! ## successful reads do not depend on the past — false as stated -/

/-- full-strength clause: after a successful read the observable state (atoms, lattice, title, `pdffit`, `xcfg`) is
that of reading the same source into a brand-new object of the same type -/
def read_success_fresh_statement : Prop :=
  ∀ (i : ReadIn) (o : Obj), (read i o).err = none → observe (read i o).obj = observe (read i (newObj o.cls)).obj

/-- a parsed structure that carries only a lattice and one atom (what the `cif`, `rawxyz`, `xcfg` parsers return for
a source without title / auxiliaries) -/
def plainParsed : Parsed := ⟨[("_lattice", .lat 2 "Lattice(a=3)")], [⟨"C", some 2⟩]⟩

def readStrOf (p : Outcome Parsed) : ReadIn := ⟨9, none, none, p, none⟩

/-- witness `title`: the old title survives, a new object keeps the class default `""` -/
theorem stale_title :
    let o : Obj := ⟨.base, [("_lattice", .lat 1 "Lattice()"), ("title", .str "old")], []⟩
    (read (readStrOf (.ok plainParsed)) o).err = none ∧
    (observe (read (readStrOf (.ok plainParsed)) o).obj).title = some (.str "old") ∧
    (observe (read (readStrOf (.ok plainParsed)) (newObj .base)).obj).title = some (.str "") := by decide +kernel

/-- witness `pdffit`: the `pdffit` dict loaded earlier survives the reading of a non-PDFfit source -/
theorem stale_pdffit :
    let o : Obj := ⟨.base, [("_lattice", .lat 1 "Lattice()"), ("pdffit", .dict [("scale", "2.5")])], []⟩
    (read (readStrOf (.ok plainParsed)) o).err = none ∧
    (observe (read (readStrOf (.ok plainParsed)) o).obj).pdffit = some (.dict [("scale", "2.5")]) ∧
    (observe (read (readStrOf (.ok plainParsed)) (newObj .base)).obj).pdffit = some .none := by decide +kernel

/-- witness `xcfg`: the auxiliaries list of an earlier XCFG file survives -/
theorem stale_xcfg :
    let o : Obj := ⟨.base, [("_lattice", .lat 1 "Lattice()"), ("xcfg", .dict [("auxiliaries", "[\"q\"]")])], []⟩
    (read (readStrOf (.ok plainParsed)) o).err = none ∧
    (observe (read (readStrOf (.ok plainParsed)) o).obj).xcfg = some (.dict [("auxiliaries", "[\"q\"]")]) ∧
    (observe (read (readStrOf (.ok plainParsed)) (newObj .base)).obj).xcfg = none := by decide +kernel

/-- witness `None`: when the parser returns `None` (CIF without atom sites) the read "succeeds" and the old atoms and
lattice stay; a new object is empty with the default lattice -/
theorem stale_atoms_none :
    let o : Obj := ⟨.base, [("_lattice", .lat 1 "Lattice(a=5)")], [⟨"H", some 1⟩]⟩
    (read (readStrOf .none) o).err = none ∧
    (observe (read (readStrOf .none) o).obj).atoms = ["H"] ∧
    (observe (read (readStrOf .none) o).obj).lattice = some "Lattice(a=5)" ∧
    (observe (read (readStrOf .none) (newObj .base)).obj).atoms = [] ∧
    (observe (read (readStrOf .none) (newObj .base)).obj).lattice = some defaultLatticeValue := by decide +kernel

/-- **false of the current code** -/
theorem read_success_fresh_false : ¬ read_success_fresh_statement := by
  intro h
  obtain ⟨he, hold, hnew⟩ := stale_title
  have e := congrArg Obs.title (h _ _ he)
  exact absurd (hold.symm.trans (e.trans hnew)) (by decide)

/-- what does hold: if the parser returned a structure (with its own lattice, attribute names distinct) and every
observable attribute (`title`, `pdffit`, `xcfg`) is either carried by that structure or has in the target the value
a new object of that type has, then the outcome (success or the post-step's error) and the observable state are
those of reading into a brand-new object of the same type -/
theorem read_success_fresh_partial (i : ReadIn) (o : Obj) (n : Parsed) (hg : i.getParser = none)
    (hp : i.parse = .ok n) (hnd : (n.dict.map (·.1)).Nodup)
    (hlat : ∃ id v, n.dict.lookup "_lattice" = some (.lat id v))
    (hcarry : ∀ k ∈ obsKeys, (n.dict.lookup k).isSome ∨ o.dict.lookup k = (newObj o.cls).dict.lookup k) :
    (read i o).err = (read i (newObj o.cls)).err ∧
      observe (read i o).obj = observe (read i (newObj o.cls)).obj := by
  have hcls : (newObj o.cls).cls = o.cls := by cases o.cls <;> rfl
  obtain ⟨id, v, hl⟩ := hlat
  have hsame : Same (replace (init0 i.fresh o) n) (replace (init0 i.fresh (newObj o.cls)) n) := by
    constructor
    · have h1 := getattr_replace (init0 i.fresh o) n "_lattice" hnd
      have h2 := getattr_replace (init0 i.fresh (newObj o.cls)) n "_lattice" hnd
      simp only [hl] at h1 h2
      rw [replace_atoms, replace_atoms, h1, h2]
    · intro k hk
      rw [getattr_replace _ n k hnd, getattr_replace _ n k hnd]
      cases hlk : n.dict.lookup k with
      | some v => rfl
      | none =>
        dsimp only
        simp only [List.mem_cons, List.not_mem_nil, or_false] at hk
        rcases hk with rfl | hk
        · rw [hl] at hlk; cases hlk
        · have hne : k ≠ "_lattice" := by rcases hk with rfl | rfl | rfl <;> decide
          rw [getattr_init0_ne _ _ _ hne, getattr_init0_ne _ _ _ hne]
          have hko : k ∈ obsKeys := by simp only [obsKeys, List.mem_cons, List.not_mem_nil, or_false]; exact hk
          rcases hcarry k hko with hs | he
          · rw [hlk] at hs; simp at hs
          · unfold getattr; rw [he]
  have hsr : (structureRead i o).err = (structureRead i (newObj o.cls)).err ∧
      Same (structureRead i o).obj (structureRead i (newObj o.cls)).obj := by
    unfold structureRead
    rw [hg, hp]
    exact ⟨rfl, same_titleStep _ _ _ hsame⟩
  unfold Load.read
  rw [hcls]
  obtain ⟨he, hs⟩ := same_postStep o.cls i.spacegroup _ _ hsr.1 hsr.2
  exact ⟨he, observe_same _ _ hs⟩

/-! ## write -/

/-- an error before the file is opened — unknown format, or any exception while the text is produced — and a failing
`open` leave the file of that name exactly as it was (absent or with its old content) -/
theorem write_fail_file_untouched (i : WriteIn) (file : Option String)
    (h : i.getParser ≠ none ∨ (∃ e, i.serialise = .error e) ∨ i.openErr ≠ none) :
    (write i file).2 = file ∧ (write i file).1 ≠ none := by
  unfold write
  cases hg : i.getParser with
  | some e => simp
  | none =>
    cases hs : i.serialise with
    | error e => simp
    | ok s =>
      cases ho : i.openErr with
      | some e => simp
      | none =>
        rcases h with h | ⟨e, h⟩ | h
        · exact absurd hg h
        · rw [hs] at h; cases h
        · exact absurd ho h

/-- the file changes only after the whole text has been produced: serialisation precedes `open` -/
theorem write_serialisation_precedes_open (i : WriteIn) (file : Option String) (h : (write i file).2 ≠ file) :
    i.getParser = none ∧ (∃ s, i.serialise = .ok s) ∧ i.openErr = none := by
  have hn := fun hh => h (write_fail_file_untouched i file hh).1
  refine ⟨Decidable.byContradiction fun hg => hn (.inl hg), ?_, Decidable.byContradiction fun ho => hn (.inr (.inr ho))⟩
  cases hs : i.serialise with
  | ok s => exact ⟨s, rfl⟩
  | error e => exact absurd (.inr (.inl ⟨e, hs⟩)) hn

/-- a successful write leaves exactly the produced text -/
theorem write_success (i : WriteIn) (file : Option String) (s : String) (hg : i.getParser = none)
    (hs : i.serialise = .ok s) (ho : i.openErr = none) (he : i.encodeErr = none) :
    write i file = (none, some s) := by
  simp [write, hg, hs, ho, he]

/-- outside the property's hypothesis ("fails while the text is being produced"): an encoding error happens after the
file has been opened for writing, so the old content is lost -/
theorem write_encode_fail_truncates (i : WriteIn) (file : Option String) (s : String) (e : String × String)
    (hg : i.getParser = none) (hs : i.serialise = .ok s) (ho : i.openErr = none) (he : i.encodeErr = some e) :
    write i file = (some e, some "") := by
  simp [write, hg, hs, ho, he]

/-! ## non-vacuity -/

/-- a failing parse on a non-trivial target -/
example : read ⟨9, some "f.cif", none, .err "StructureFormatError" "bad", some "P1"⟩ witnessPdffitNone.2
    = ⟨some ("StructureFormatError", "bad"), witnessPdffitNone.2⟩ :=
  (read_fail_unchanged _ _).2 _ _ rfl rfl

/-- a failing read into a plain `Structure` (the hypotheses of `read_fail_unchanged_partial`) -/
example : (read ⟨9, none, none, .err "StructureFormatError" "bad", none⟩ ⟨.base, [], []⟩).err ≠ none := by decide +kernel

/-- a source carrying title, pdffit and xcfg (for the examples of `read_success_fresh_partial` below: it is read
into a target with stale values of all three) -/
def fullParsed : Parsed :=
  ⟨[("_lattice", .lat 2 "Lattice(a=3)"), ("title", .str "new"), ("pdffit", .dict [("scale", "1.0")]),
    ("xcfg", .dict [("auxiliaries", "[]")])], [⟨"C", some 2⟩]⟩

example :
    let o : Obj := ⟨.pdffit, [("_lattice", .lat 1 "Lattice()"), ("title", .str "old"), ("pdffit", .dict [("scale", "2.5")]),
      ("xcfg", .dict [("auxiliaries", "[\"q\"]")])], [⟨"H", some 1⟩]⟩
    observe (read ⟨9, some "d/f.stru", none, .ok fullParsed, some "Fm-3m"⟩ o).obj
      = observe (read ⟨9, some "d/f.stru", none, .ok fullParsed, some "Fm-3m"⟩ (newObj .pdffit)).obj ∧
    (observe (read ⟨9, some "d/f.stru", none, .ok fullParsed, some "Fm-3m"⟩ o).obj).pdffit
      = some (.dict [("scale", "1.0"), ("spcgr", "Fm-3m")]) := by decide +kernel

example : (fullParsed.dict.map (·.1)).Nodup ∧ (∀ k ∈ obsKeys, (fullParsed.dict.lookup k).isSome) := by decide +kernel

/-- the title-from-file-name rule fires for a source without title -/
example : (observe (read ⟨9, some "/data/ni.v2.cif", none, .ok plainParsed, none⟩ (newObj .base)).obj).title
    = some (.str "ni.v2") := by decide +kernel

/-- a refused write over an existing file -/
example : write ⟨none, .error ("StructureFormatError", "cannot convert empty structure to XCFG format"), none, none⟩ (some "OLD")
    = (some ("StructureFormatError", "cannot convert empty structure to XCFG format"), some "OLD") := by decide +kernel

example : write ⟨none, .ok "TEXT", none, none⟩ (some "OLD") = (none, some "TEXT") := by decide +kernel

end DS.Props.C16

import DS.Lemmas.OrbitExact
import DS.Props.C03
/-!
# C02 — symmetry expansion of a site returns exactly its crystallographic orbit

Model: `DS.Orbit` (`expandPosition` transcribed on exact coordinates in units `1/(24k)`).
The group hypotheses are discharged for every tabulated setting by C03 (`all_groups`).
-/
namespace DS.Props.C02
open DS DS.Orbit

/-- applying `b` and then `a` is applying the tabulated composition `a ∘ b` (any origin offset) -/
theorem action_functorial (a b : Op) (k : Int) (off x : P3) :
    img a k off (img b k off x) = img (a.comp b) k off x := img_comp a b k off x

/-- integer cell shifts do not change any image -/
theorem cell_shift (a : Op) (k : Int) (off x : P3) (n : P3) :
    img a k off (x.1 + 24 * k * n.1, x.2.1 + 24 * k * n.2.1, x.2.2 + 24 * k * n.2.2) = img a k off x := by
  rw [← img_red a k off x, ← img_red a k off (x.1 + 24 * k * n.1, _, _)]
  congr 1
  simp [red, Int.add_mul_emod_self_left]

/-- every image lies in the unit cell `[0, 1)³` -/
theorem image_in_cell (a : Op) (k : Int) (hk : 0 < k) (off x : P3) :
    let p := img a k off x
    (0 ≤ p.1 ∧ p.1 < 24 * k) ∧ (0 ≤ p.2.1 ∧ p.2.1 < 24 * k) ∧ (0 ≤ p.2.2 ∧ p.2.2 < 24 * k) :=
  img_inCell a hk off x

/-- **multiplicity × site-symmetry order = group order**, for any group of operations -/
theorem orbit_stabiliser {G : List Op} (hG : IsGroup G) (k : Int) (off x : P3) :
    (dedupFirst (G.map (fun g => img g k off x))).length *
      G.countP (fun g => decide (img g k off x = red k x)) = G.length :=
  Orbit.orbit_stabiliser hG k off x

/-- every image is generated by exactly `|stabiliser|` operations (fibres are cosets) -/
theorem fibres_equal {G : List Op} (hG : IsGroup G) (k : Int) (off x : P3) {h : Op} (hh : h ∈ G) :
    G.countP (fun g => decide (img g k off x = img h k off x)) =
      G.countP (fun g => decide (img g k off x = red k x)) :=
  Orbit.fibre_count hG k off x hh

/-- instantiation: the counting law holds for every tabulated setting, every site, every offset -/
theorem tables_orbit_stabiliser (p : SG × Cert) (hp : p ∈ Gen.allC) (k : Int) (off x : P3) :
    (dedupFirst (p.1.ops.map (fun g => img g k off x))).length *
      p.1.ops.countP (fun g => decide (img g k off x = red k x)) = p.1.nsym := by
  rw [orbit_stabiliser (C03.all_groups p hp) k off x]
  exact (C03.all_counts p hp).nsym

/-- **expandPosition returns exactly the orbit.**  For positive tolerance `E` and any list of
operations whose images of the site are pairwise equal or farther apart than `E` (`Sep`), the
literal algorithm returns the distinct images in first-occurrence order, the operations grouped
by the image they generate, and the number of distinct images. -/
theorem orbit_exact {k E : Int} (hk : 0 < k) (hE : 0 < E) {off x : P3} {ops : List Op}
    (hsep : Sep ops k E off x) :
    result ops k E off x =
      (dedupFirst (ops.map (fun g => img g k off x)),
       (dedupFirst (ops.map (fun g => img g k off x))).map
          (fun p => ops.filter (fun g => decide (img g k off x = p))),
       (dedupFirst (ops.map (fun g => img g k off x))).length) :=
  Orbit.result_exact hk hE hsep

/-- the input site (reduced into the cell) is listed first whenever the identity is the first operation -/
theorem input_first {k E : Int} (hk : 0 < k) (hE : 0 < E) {off x : P3} {ops : List Op}
    (hsep : Sep ops k E off x) (h1 : ops.head? = some Op.one) :
    (result ops k E off x).1.head? = some (red k x) :=
  result_head (closeness_of_sep hk hE hsep) hk hE h1

/-- every operation is attributed to exactly one returned position, the one it generates -/
theorem attribution {k E : Int} (hk : 0 < k) (hE : 0 < E) {off x : P3} {ops : List Op}
    (hsep : Sep ops k E off x) (g : Op) (hg : g ∈ ops) :
    ∃ i, ∃ (hi : i < (result ops k E off x).1.length),
      (result ops k E off x).1[i] = img g k off x ∧
      g ∈ (result ops k E off x).2.1.getD i [] ∧
      ∀ j (hj : j < (result ops k E off x).1.length), g ∈ (result ops k E off x).2.1.getD j [] → j = i := by
  obtain ⟨i, hi, h1, h2, h3⟩ := result_attribution (closeness_of_sep hk hE hsep) hk hE g hg
  exact ⟨i, hi, beq_iff_eq.1 h1, h2, h3⟩

/-- every tabulated setting: the input site comes first and `multiplicity × |stabiliser| = num_sym_equiv` -/
theorem tables_orbit_exact (p : SG × Cert) (hp : p ∈ Gen.allC) {k E : Int} (hk : 0 < k) (hE : 0 < E)
    {off x : P3} (hsep : Sep p.1.ops k E off x) :
    (result p.1.ops k E off x).1.head? = some (red k x) ∧
    (result p.1.ops k E off x).2.2 * p.1.ops.countP (fun g => decide (img g k off x = red k x)) = p.1.nsym := by
  refine ⟨input_first hk hE hsep (C03.all_groups p hp).one_first, ?_⟩
  rw [orbit_exact hk hE hsep]
  exact tables_orbit_stabiliser p hp k off x

/-- non-vacuity of `Sep`: the site `(1/4, 1/4, 0.13)` of a concrete tabulated setting, tolerance 1e-5 -/
example : Sep Gen.witness.1.ops 100000 24 (0, 0, 0) (600000, 600000, 312000) := by decide +kernel

/-- non-vacuity: a concrete tabulated setting and a site (the origin) with stabiliser of order > 1,
unless the setting has the identity only -/
example : ∃ p ∈ Gen.allC, ∃ x : P3,
    1 < p.1.ops.countP (fun g => decide (img g 1 (0, 0, 0) x = red 1 x)) ∨ p.1.ops.length = 1 := by
  refine ⟨Gen.witness, Gen.witness_mem, (0, 0, 0), ?_⟩
  decide +kernel

end DS.Props.C02

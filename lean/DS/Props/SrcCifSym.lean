import DS.Gen.SrcCifSym
/-!
# Source tie: which symmetry the CIF reader uses (serves C07)

`DS/Gen/SrcCifSym.lean` is written on every run by `translate/src_cifsym.py` from the current
`src/diffpy/structure/parsers/p_cif.py`: the method `_parse_space_group_symop_operation_xyz` statement by statement
(`Src.CifSym.parseSymops`), `_expandAsymmetricUnit` statement by statement (`Src.CifSym.expandAsymmetricUnit`; its tie to
`DS.Cif.expand` is `DS.Props.SrcCifExpand`), and `_parseCifBlock`, the attribute initialisations of `__init__` as normalised text.  A statement outside the translator's templates yields `parseSymops_untranslatable` instead, and nothing below
elaborates -> broken tie.

Proved for every block, every environment (library functions) and every prior parser state:
* `parseSymops_eq` — the functional model `DS.CifSym.resolve` (the one `DS.Props.C07Sym` speaks about) IS the transliteration;
* the `…_data` theorems pin what is recorded as text.
-/
namespace DS.Props.SrcCifSym
open DS.CifSym

/-- collecting with `append` in a loop is `mapM` -/
theorem foldlM_append {α β : Type} (f : α → Except Exn β) (l : List α) (init : List β) :
    l.foldlM (fun acc t => do let o ← f t; pure (acc ++ [o])) init = (l.mapM f).map (init ++ ·) := by
  induction l generalizing init with
  | nil => simp [Except.map, pure, Except.pure]
  | cons a l ih =>
    simp only [List.foldlM_cons, List.mapM_cons]
    cases h : f a with
    | error e => simp [bind, Except.bind, Except.map]
    | ok o =>
      simp only [bind, Except.bind, pure, Except.pure] at ih ⊢
      rw [ih]
      cases l.mapM f with
      | error e => simp [Except.map]
      | ok os => simp [Except.map]

-- one `simp` call closes all cases of a split below; not every case uses every argument
set_option linter.unusedSimpArgs false in
/-- **the model is the source**: for every block, environment and prior state -/
theorem parseSymops_eq {G Op A : Type} (env : Env G Op) (b : Block) (st : PState G Op A) :
    DS.Src.CifSym.parseSymops env b st = resolve env b st := by
  unfold DS.Src.CifSym.parseSymops resolve listedOps choose
  have hsid : pyOr (pyOr (b.getD "_space_group_IT_number") (b.getD "_symmetry_Int_Tables_number"))
    (pyOr (pyOr (b.getD "_space_group_name_H-M_alt") (b.getD "_space_group_name_H-M_ref")) (b.getD "_symmetry_space_group_name_H-M")) = sgid b := rfl
  simp only [hsid, hall, hm, crystalSystem, symSynonyms]
  have hm' := fun n => foldlM_append env.getSymOp (b.col n) []
  simp only [pure, Except.pure, bind, Except.bind, List.nil_append] at hm'
  cases hf : List.filter (fun n => b.has n) ["_space_group_symop_operation_xyz", "_symmetry_equiv_pos_as_xyz"] with
  | nil =>
    -- source and model test `sgid != "" and isId sgid` as one condition: split on it as one
    cases hc : (sgid b != "" && env.isId (sgid b)) <;> cases hg : env.getSG (sgid b) <;>
      simp [hc, hg, pure, Except.pure, bind, Except.bind]
  | cons n rest =>
    simp only [List.isEmpty_cons, Bool.not_false, if_true, List.getElem?_cons_zero, pure, Except.pure, bind, Except.bind]
    rw [hm' n]
    cases hops : (b.col n).mapM env.getSymOp with
    | error e => simp [Except.map]
    | ok ops =>
      cases ops with
      | nil =>
        cases hc : (sgid b != "" && env.isId (sgid b)) <;> cases hg : env.getSG (sgid b) <;>
          simp [hc, hg, pure, Except.pure, bind, Except.bind, Except.map]
      | cons o os =>
        cases hfind : env.find (o :: os) <;>
        cases hc : (sgid b != "" && env.isId (sgid b)) <;> cases hg : env.getSG (sgid b) <;>
          simp [hc, hg, hfind, pure, Except.pure, bind, Except.bind, Except.map]

/-- after the decision the method only expands: `self._expandAsymmetricUnit(block)`, `return` -/
theorem parseSymops_tail_data : DS.Src.CifSym.parseSymops_tail = ["self._expandAsymmetricUnit(block)", "return"] := rfl

/-- the block reader calls the symmetry step last, after lattice, site loop and aniso loop -/
theorem parseCifBlock_data : DS.Src.CifSym.parseCifBlock_body =
    ["block = self.ciffile[blockname]", "if '_atom_site_label' not in block: return", "self.stru = Structure()",
     "self.labelindex.clear()", "self.anisotropy.clear()", "self._parse_lattice(block)", "self._parse_atom_site_label(block)",
     "self._parse_atom_site_aniso_label(block)", "self._parse_space_group_symop_operation_xyz(block)", "return"] := rfl

/-- a new parser object has no space group -/
theorem init_attrs_data : DS.Src.CifSym.init_attrs =
    ["self.stru = None", "self.spacegroup = None", "self.eau = None", "self.asymmetric_unit = None", "self.cif_sgname = None"] := rfl

end DS.Props.SrcCifSym

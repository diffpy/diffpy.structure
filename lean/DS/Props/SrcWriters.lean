import DS.Gen.SrcWriters
/-!
# Source tie of the writers (`toLines` of the parsers) — property C04

`DS/Gen/SrcWriters.lean` is written on every run by `translate/src_writers.py` from the current
`src/diffpy/structure/parsers/p_{xyz,rawxyz,discus,pdffit,pdb,xcfg,cif}.py`.  The theorems below state that the writer
models of `DS/Model/Formats.lean` — the functions `roundtrip_*` / `idem_*` of `DS.Props.C04` are about — ARE what the
source says.

* xyz, rawxyz, discus, pdffit, pdb: `toLines` is transliterated statement by statement into a Lean function of the
  model's document type, every `"<template>" % args` being `pyFormat <pieces> <args>` of `DS/Model/PyFormat.lean`;
  `writeXyz_eq`, `writeRaw_eq`, `writeDiscus_eq`, `writePdffit_eq`, `writePdb_eq` are equalities of functions (for ALL
  documents), with per-record lemmas (`xyzLine_eq`, `discusAtomLine_eq`, `pdffitAtomLines_eq`, `pdbTitleLine_eq`,
  `pdbCryst_eq`, `pdbAtomLines_eq`, `pdbTerLine_eq`).  Every width, precision, separator, keyword and the order of the
  records is therefore read from the source: changing one in `/repo` breaks the equality.
  PDB: `writePdb_eq` needs six numbers in every ANISOU document field (`anisoLen6`; the source formats a 6-tuple and
  would raise `TypeError` otherwise — the model prints any list); the chunking loop of `titleLines` (a `while` with
  `rfind(" ", 10, 60)`) is tied as normalised text (`pdb_titleLines_src_data`), its record and continuation number are
  transliterated; the SIGATM / SIGUIJ branch is bound to `False` (documents carry zero standard deviations) and its
  condition is pinned by `pdb_skipped_data`.
* xcfg, cif: control flow outside the transliterated subset.  `writeXcfg_templates` restates the header of the XCFG
  model writer, and `xcfgMass_eq`, `tagLine_eq`, `cifCellLine_eq`, `cifLabel_eq`, `cifAtomLine_eq`, `cifAnisoLine_eq` the
  other formatted lines of the two writers, as `pyFormat` of the template READ FROM THE SOURCE (`tplOf … k` = the
  k-th `%` template of `toLines` in source order); `xcfg_toLines_src_data`, `xcfg_is_derived_src_data`,
  `cif_toLines_src_data` pin the normalised text of the functions (docstring removed, local names replaced by their
  position of first binding): any other change of these two writers is seen as a change of that text.
* `templates_parse`: the Lean template parser reads every source string into exactly the pieces the translator emitted.
* The interpreter `pyFormat` and the Lean template parser are compared with CPython's `%` on every run by harness/c04.py
  (`pyformat_differential`: every template of the seven writers on random arguments, evaluated by `lean`).
-/
namespace DS.Props.SrcWriters
open DS.Dec DS.Formats DS.PyFormat DS.Src.Writers

/-! ## helpers -/

theorem flatten_map_single {α β} (f : α → β) (l : List α) : (l.map (fun a => [f a])).flatten = l.map f := by
  induction l with
  | nil => rfl
  | cons a l ih => simp [ih]

theorem padLeft_zero (s : Str) : padLeft 0 s = s := by simp [padLeft]

theorem fmtIbody_one : fmtIbody 1 = ['1'] := by
  simp [fmtIbody, signStr, natDigits, digitChar]

theorem fmtIbody_nat (n : Nat) : fmtIbody (n : Int) = natDigits n := by
  simp [fmtIbody, signStr]

/-- the k-th `%` template of a function, as read from the source -/
def tplOf (l : List (String × List Piece × String)) (k : Nat) : List Piece := (l.getD k ("", [], "")).2.1

/-! ## the Lean template parser agrees with the translator's on every template of the seven writers -/

theorem templates_parse : allTemplates.all (fun p => decide (parseTemplate p.1 = some p.2)) = true := by
  decide +kernel

/-! ## XYZ, raw XYZ -/

theorem xyzLine_eq (d : XyzS) (a : PAtom) : xyz_toLines_forAtom d a = [xyzLine a] := by
  simp [xyz_toLines_forAtom, xyzLine, pyFormat, fmtTuple, conv1, padNum, padStr, precStr, padLeft_zero]

theorem writeXyz_eq (d : XyzS) : writeXyz d = xyz_toLines d := by
  simp [writeXyz, xyz_toLines, xyzLine_eq, flatten_map_single]

theorem rawLine_eq (d : List PAtom) (a : PAtom) : rawxyz_toLines_forAtom d a = [rawLine a] := by
  simp [rawxyz_toLines_forAtom, rawLine, pyFormat, fmtTuple, conv1, padNum, padStr, precStr, padLeft_zero]

theorem writeRaw_eq (d : List PAtom) : writeRaw d = rawxyz_toLines d := by
  simp [writeRaw, rawxyz_toLines, rawLine_eq, flatten_map_single]

/-! ## DISCUS -/

theorem discusAtomLine_eq (d : DiscusS) (a : DAtom) : discus_toLines_forAtom d a = [discusAtomLine a] := by
  simp [discus_toLines_forAtom, discusAtomLine, ssv, joinSep, fmtF, pyFormat, fmtTuple, conv1, padNum, padStr, precStr]

theorem writeDiscus_eq (d : DiscusS) : writeDiscus d = discus_toLines d := by
  simp [writeDiscus, discus_toLines, discusAtomLine_eq, shapeLines, cellLine, ncellLine, csv, joinSep, Cell6.toList, sp,
    kwTitle, kwSpcgr, kwShape, kwSphere, kwStepcut, kwCell, kwNcell, kwAtoms,
    pyFormat, fmtTuple, conv1, padNum, padStr, precStr, padLeft_zero, flatten_map_single,
    fmtF, fmtI, List.replicate]

theorem discus_skipped_data : discus_skipped =
    ["stru = stru", "if not isinstance(stru, PDFFitStructure):\n    stru = PDFFitStructure(stru)",
     "if stru.pdffit:\n    PF.update(stru.pdffit)"] := by
  rfl

/-! ## PDFfit -/

theorem pdffitAtomLines_eq (d : PdffitS) (a : PFAtom) : pdffit_toLines_forAtom d a = pdffitAtomLines a := by
  simp [pdffit_toLines_forAtom, pdffitAtomLines, f3, ssv, joinSep, sp, fmtF, 
    pyFormat, fmtTuple, conv1, padNum, padStr, precStr, List.replicate]

theorem writePdffit_eq (d : PdffitS) : writePdffit d = pdffit_toLines d := by
  simp [writePdffit, pdffit_toLines, pdffitAtomLines_eq, shapeLines, cellLine, ncellLine, csv, joinSep, Cell6.toList, sp,
    kwTitle, kwSpcgr, kwShape, kwSphere, kwStepcut, kwCell, kwDcell, kwNcell, kwAtoms, kwFormat, kwPdffit, kwScale, kwSharp,
    pyFormat, fmtTuple, conv1, padNum, padStr, precStr, padLeft_zero,
    fmtF, fmtI, List.replicate]

theorem pdffit_skipped_data : pdffit_skipped = ["if stru.pdffit:\n    PF.update(stru.pdffit)"] := by
  rfl

/-! ## PDB -/

theorem pdbTitleLine_eq (k : Nat) (chunk : Str) : pdbTitleLine k chunk = pdb_titleRecord (pdb_titleCont k) chunk := by
  simp [pdbTitleLine, pdb_titleRecord, pdb_titleCont, kwTITLE, sp, fmtI, pyFormat, fmtTuple, conv1, padNum, padStr,
    precStr, List.replicate]

theorem pdbTitleLines_eq (d : PdbS) : pdbTitleLines d.title = pdb_titleLines d := by
  simp [pdbTitleLines, pdb_titleLines, pdbTitleLine_eq]

/-- the chunking loop of `titleLines` (what `titleChunks` models): normalised text -/
theorem pdb_titleLines_src_data : pdb_titleLines_src =
  "def f(_0, _1):\n    _2 = []\n    _3 = _1.title\n    while _3 != '':\n        _4 = len(_3)\n        if _4 > 60:\n            _4 = _3.rfind(' ', 10, 60)\n            if _4 < 0:\n                _4 = 60\n        if len(_2) == 0:\n            _5 = '  '\n        else:\n            _5 = '%2i' % (len(_2) + 1)\n        _2.append('%-80s' % ('TITLE   ' + _5 + _3[0:_4]))\n        _3 = _3[_4:]\n    return _2" := by
  rfl

theorem pdbCryst_eq (d : PdbS) : (match d.cell with | none => [] | some c => [pdbCrystLine c]) = pdb_cryst1Lines d := by
  cases h : d.cell <;>
  simp [pdb_cryst1Lines, h, pdbCrystLine, kwCRYST1, fmtF, pyFormat, fmtTuple, conv1, padNum, padStr, precStr]

/-- an ANISOU document field has six numbers (the source formats a 6-tuple) -/
def anisoLen6 (a : PdbAtom) : Prop := ∀ u, a.aniso = some u → u.length = 6

theorem pdbAtomLines_eq (idx : Nat) (a : PdbAtom) (h : anisoLen6 a) : pdbAtomLines (idx + 1) a = pdb_atomLines idx a := by
  unfold pdb_atomLines pdbAtomLines
  extract_lets l atomline
  -- the ATOM record is evaluated once; the ANISOU record only takes slices of it
  have hl : atomline = l := by
    simp +decide [atomline, l, pdbAtomLine, pdbMid, kwATOM, sp, fmtF, fmtI, pyFormatD, fmtDict, lookup, conv1, padNum, padStr,
      precStr, fmtIbody_one, padLeft, padRight, List.replicate]
  clear_value atomline l
  subst hl
  cases hu : a.aniso with
  | none => rfl
  | some u =>
    obtain ⟨u0, u1, u2, u3, u4, u5, rfl⟩ : ∃ u0 u1 u2 u3 u4 u5, u = [u0, u1, u2, u3, u4, u5] := by
      have := h u hu
      match u, this with
      | [u0, u1, u2, u3, u4, u5], _ => exact ⟨_, _, _, _, _, _, rfl⟩
    simp [pdbAnisouLine, kwANISOU, sp, fmtI, conv1, padNum, pyFormat, fmtTuple, List.replicate]

example : anisoLen6 ⟨['C'], ['C'], ⟨0, 0, 0⟩, 1, 0, some [1, 2, 3, 0, 0, 0]⟩ := by
  intro u h; cases h; rfl

theorem pdbAtomsLines_eq (k : Nat) (as : List PdbAtom) (h : ∀ a ∈ as, anisoLen6 a) :
    pdbAtomsLines k as = ((as.zipIdx k).map (fun p => pdb_atomLines p.2 p.1)).flatten := by
  induction as generalizing k with
  | nil => simp [pdbAtomsLines]
  | cons a as ih =>
    have ha := h a (by simp)
    have hr : ∀ b ∈ as, anisoLen6 b := fun b hb => h b (by simp [hb])
    simp [pdbAtomsLines, List.zipIdx_cons, pdbAtomLines_eq k a ha, ih (k + 1) hr]

theorem pdbTerLine_eq (n : Nat) : pdbTerLine n =
    pyFormatD pdb_t6 [("serial".toList, Val.int ((n : Int) + 1)), ("resName".toList, Val.str []),
      ("chainID".toList, Val.str [' ']), ("resSeq".toList, Val.int 1), ("iCode".toList, Val.str [' ']),
      ("blank".toList, Val.str [' '])] := by
  simp +decide [pdbTerLine, kwTER, sp, fmtI, pyFormatD, fmtDict, lookup, conv1, padNum, padStr, precStr, fmtIbody_one, padLeft,
    padRight, List.replicate]

theorem writePdb_eq (d : PdbS) (h : ∀ a ∈ d.atoms, anisoLen6 a) : writePdb d = pdb_toLines d := by
  simp only [writePdb, pdb_toLines, pdbTitleLines_eq, pdbAtomsLines_eq 0 d.atoms h, pdbTerLine_eq]
  simp [kwEND, pyFormat, fmtTuple, conv1, padStr, precStr]
  exact pdbCryst_eq d

/-- the documents of the round-trip theorem satisfy the hypothesis of `writePdb_eq` -/
theorem anisoLen6_of_repr (d : PdbS) (h : reprPdb d = true) : ∀ a ∈ d.atoms, anisoLen6 a := by
  intro a ha u hu
  simp only [reprPdb, Bool.and_eq_true, List.all_eq_true] at h
  have := h.1.2 a ha
  simp only [pdbAtomOk, hu, Bool.and_eq_true] at this
  have hk := this.2
  match u, hk with
  | [_, _, _, _, _, _], _ => rfl

/-- the only statement of the PDB writer left out: the SIGATM / SIGUIJ branch, with its condition -/
theorem pdb_skipped_data : pdb_skipped =
  ["if numpy.any(numpy.fabs(numpy.concatenate((a.sigxyz, [a.sigo], [8 * pi ** 2 * numpy.average([a.sigU[i, i] for i in range(3)])]))) >= numpy.array(3 * [0.0005] + 2 * [0.005])) or numpy.any(numpy.fabs(a.sigU) > 5e-05): <4 statements, never taken for the model's documents>"] := by
  rfl

/-! ## XCFG, CIF: the model writers use the templates of the source; the functions as normalised text -/

theorem xcfg_t0_eq (n : Nat) : pyFormat (tplOf xcfg_toLines_templates 0) [.int (n : Nat)] = "Number of particles = ".toList ++ natDigits n := by
  simp [tplOf, xcfg_toLines_templates, pyFormat, fmtTuple, conv1, padNum, padLeft_zero, fmtIbody_nat]

theorem xcfg_t1_eq (x : Rat) : pyFormat (tplOf xcfg_toLines_templates 1) [.num x] = "A = ".toList ++ g8 x ++ " Angstrom".toList := by
  simp [tplOf, xcfg_toLines_templates, pyFormat, fmtTuple, conv1, padNum, padLeft_zero, g8]

theorem xcfg_t2_eq (i j : Nat) (x : Rat) : pyFormat (tplOf xcfg_toLines_templates 2) [.int (i : Nat), .int (j : Nat), .num x] =
    "H0(".toList ++ nameI i ++ [','] ++ nameI j ++ ") = ".toList ++ g8 x ++ " A".toList := by
  simp [tplOf, xcfg_toLines_templates, pyFormat, fmtTuple, conv1, padNum, padLeft_zero, g8, nameI, fmtIbody_nat]

theorem xcfg_t3_eq (n : Nat) : pyFormat (tplOf xcfg_toLines_templates 3) [.int (n : Nat)] = "entry_count = ".toList ++ natDigits n := by
  simp [tplOf, xcfg_toLines_templates, pyFormat, fmtTuple, conv1, padNum, padLeft_zero, fmtIbody_nat]

theorem xcfg_t4_eq (n : Nat) (s : Str) : pyFormat (tplOf xcfg_toLines_templates 4) [.int (n : Nat), .str s] =
    "auxiliary[".toList ++ natDigits n ++ "] = ".toList ++ s ++ " [au]".toList := by
  simp [tplOf, xcfg_toLines_templates, pyFormat, fmtTuple, conv1, padNum, padStr, precStr, padLeft_zero, fmtIbody_nat]

/-- the header of the XCFG model is made of the `%` templates of the source, in source order -/
theorem writeXcfg_templates (d : XcfgS) : writeXcfg d =
    let L := xcfgLayout d
    let t := tplOf xcfg_toLines_templates
    [pyFormat (t 0) [.int (d.atoms.length : Nat)], pyFormat (t 1) [.num (L.a : Rat)]] ++
    ((List.range 9).map (fun k => pyFormat (t 2) [.int ((k / 3 + 1 : Nat) : Int), .int ((k % 3 + 1 : Nat) : Int), .num (d.base.getD k 0)])) ++
    (if L.noVel then [".NO_VELOCITY.".toList] else []) ++
    [pyFormat (t 3) [.int (((if L.noVel then 3 else 6) + L.aux.length : Nat) : Int)]] ++
    (L.aux.zipIdx.map (fun p => pyFormat (t 4) [.int (p.2 : Nat), .str p.1])) ++
    [[]] ++ xcfgAtomLines L none d.atoms := by
  simp only [xcfg_t0_eq, xcfg_t1_eq, xcfg_t2_eq, xcfg_t3_eq, xcfg_t4_eq]
  rfl

/-- the mass line `"%.4f" % AtomicMass.get(...)` -/
theorem xcfgMass_eq (x : Rat) : fmtF 0 4 x = pyFormat (tplOf xcfg_toLines_templates 5) [.num x] := by
  simp [tplOf, xcfg_toLines_templates, fmtF, pyFormat, fmtTuple, conv1, padNum]

theorem xcfg_toLines_src_data : xcfg_toLines_src =
  "def f(_0, _1):\n    if len(_1) == 0:\n        _2 = 'cannot convert empty structure to XCFG format'\n        raise StructureFormatError(_2)\n    _3 = []\n    _3.append('Number of particles = %i' % len(_1))\n    _4 = numpy.array([_5.xyz for _5 in _1])\n    _6 = _4.min(axis=0)\n    _7 = _4.max(axis=0)\n    _8 = (_7 - _6).max()\n    if numpy.allclose(_1.lattice.abcABG(), (1, 1, 1, 90, 90, 90)):\n        _8 += _0.cluster_boundary\n    _9 = numpy.ceil(_8 + 1e-13)\n    _10 = max([numpy.sqrt(numpy.dot(_11, _11)) for _11 in _1.lattice.base])\n    if _10 * _9 < 3.5:\n        _9 = numpy.ceil(3.5 / _10)\n    _3.append('A = %.8g Angstrom' % _9)\n    _12 = numpy.zeros(3, dtype=float)\n    for _13 in range(3):\n        if _6[_13] / _9 < 0.0 or _7[_13] / _9 >= 1.0 or (_6[_13] == _7[_13] and _6[_13] == 0.0):\n            _12[_13] = 0.5 - (_7[_13] + _6[_13]) / 2.0 / _9\n    for _13 in range(3):\n        for _14 in range(3):\n            _3.append('H0(%i,%i) = %.8g A' % (_13 + 1, _14 + 1, _1.lattice.base[_13, _14]))\n    if len(_1) == 0:\n        return _3\n    _15 = _1[0]\n    _16 = 'v' not in _15.__dict__\n    if _16:\n        _3.append('.NO_VELOCITY.')\n    try:\n        _17 = [(_18, 'a.' + _18) for _18 in _1.xcfg['auxiliaries'] if not _is_derived_auxiliary(_18)]\n    except AttributeError:\n        _17 = []\n    for _5 in _1:\n        if _5.occupancy != 1.0:\n            _17.append(('occupancy', 'a.occupancy'))\n            break\n    _19 = True\n    _20 = True\n    for _5 in _1:\n        if _19 and numpy.any(_5.U != 0.0):\n            _19 = False\n        if not numpy.all(_5.U == _5.U[0, 0] * numpy.identity(3)):\n            _20 = False\n            break\n    if _19:\n        pass\n    elif _20:\n        _17.append(('Uiso', 'uflat[0]'))\n    else:\n        _17.extend([('U11', 'uflat[0]'), ('U22', 'uflat[4]'), ('U33', 'uflat[8]')])\n        _21 = numpy.array([_5.U for _5 in _1])\n        if numpy.any(_21[:, 0, 1] != 0.0):\n            _17.append(('U12', 'uflat[1]'))\n        if numpy.any(_21[:, 0, 2] != 0.0):\n            _17.append(('U13', 'uflat[2]'))\n        if numpy.any(_21[:, 1, 2] != 0.0):\n            _17.append(('U23', 'uflat[5]'))\n    _22 = (3 if _16 else 6) + len(_17)\n    _3.append('entry_count = %d' % _22)\n    for _13 in range(len(_17)):\n        _3.append('auxiliary[%d] = %s [au]' % (_13, _17[_13][0]))\n    _23 = ['{pos[0]:.8g}', '{pos[1]:.8g}', '{pos[2]:.8g}']\n    if not _16:\n        _23 += ['{v[0]:.8g}', '{v[1]:.8g}', '{v[2]:.8g}']\n    _23 += ('{' + _25 + ':.8g}' for _24, _25 in _17)\n    _26 = ' '.join(_23)\n    _3.append('')\n    _27 = None\n    for _5 in _1:\n        if _5.element != _27:\n            _27 = _5.element\n            _3.append('%.4f' % AtomicMass.get(_27, 0.0))\n            _3.append(_27)\n        _28 = _5.xyz / _9 + _12\n        _11 = None if _16 else _5.v\n        _29 = numpy.ravel(_5.U)\n        _30 = _26.format(pos=_28, v=_11, uflat=_29, a=_5)\n        _3.append(_30)\n    return _3" := by
  rfl

theorem xcfg_is_derived_src_data : xcfg__is_derived_auxiliary_src =
  "def f(_0):\n    if _0 in ('occupancy', 'Uiso', 'Biso'):\n        return True\n    return len(_0) == 3 and _0[0] in 'BU' and all((_1 in '123' for _1 in _0[1:]))" := by
  rfl

theorem tagLine_eq (tag : String) (value : Str) :
    tagLine tag value = pyFormat (tplOf cif_toLines_templates 1) [.str tag.toList, .str value] := by
  simp [tagLine, tplOf, cif_toLines_templates, pyFormat, fmtTuple, conv1, padStr, precStr, padLeft_zero]

theorem cifCellLine_eq (tag : String) (x : Rat) :
    tagLine tag (fmtG 6 x) = pyFormat (tplOf cif_toLines_templates 6) [.str tag.toList, .num x] := by
  simp [tagLine, tplOf, cif_toLines_templates, pyFormat, fmtTuple, conv1, padStr, padNum, precStr, padLeft_zero]

theorem cifLabel_eq (e : Str) (n : Nat) :
    e ++ natDigits n = pyFormat (tplOf cif_toLines_templates 12) [.str e, .int (n : Nat)] := by
  simp [tplOf, cif_toLines_templates, pyFormat, fmtTuple, conv1, padStr, padNum, precStr, padLeft_zero, fmtIbody_nat]

theorem cifAtomLine_eq (label : Str) (a : CifAtom) : cifAtomLine label a =
    pyFormat (tplOf cif_toLines_templates 13) [.str label, .str a.el, .num a.xyz.x, .num a.xyz.y, .num a.xyz.z, .num a.uiso,
      .str (if uIsIso a.u then "Uiso".toList else "Uani".toList), .num a.occ] := by
  unfold cifAtomLine
  generalize (if uIsIso a.u then "Uiso".toList else "Uani".toList) = adp
  simp [ssv, joinSep, sp, fmtF, tplOf, cif_toLines_templates, pyFormat, fmtTuple, conv1, padStr, padNum, precStr, List.replicate]

theorem cifAnisoLine_eq (label : Str) (a : CifAtom) : cifAnisoLine label a =
    pyFormat (tplOf cif_toLines_templates 14) [.str label, .num (a.u.getD 0 0), .num (a.u.getD 4 0), .num (a.u.getD 8 0),
      .num (a.u.getD 1 0), .num (a.u.getD 2 0), .num (a.u.getD 5 0)] := by
  simp [cifAnisoLine, ssv, joinSep, sp, fmtF, tplOf, cif_toLines_templates, pyFormat, fmtTuple, conv1, padStr, padNum, precStr, List.replicate]

/-- all tag lines use the same two templates, in this order (1-5: text items, 6-11: cell parameters) -/
theorem cif_template_order_data : (cif_toLines_templates.map (fun r => r.1)) =
    ["%04i-%02i-%02i", "%-31s %s", "%-31s %s", "%-31s %s", "%-31s %s", "%-31s %s", "%-31s %.6g", "%-31s %.6g", "%-31s %.6g",
     "%-31s %.6g", "%-31s %.6g", "%-31s %.6g", "%s%i", "  %-5s %-3s %11.6f %11.6f %11.6f %11.6f %-5s %.4f",
     "  %-5s %9.6f %9.6f %9.6f %9.6f %9.6f %9.6f"] := by
  rfl

theorem cif_toLines_src_data : cif_toLines_src =
  "def f(_0, _1):\n    import time\n    _3 = []\n    if _1.title.strip() != '':\n        _4 = _1.title.split('\\n')\n        _3.extend(['# ' + _5.strip() for _5 in _4])\n        _3.append('')\n    _3.append('data_3D')\n    _6 = '%04i-%02i-%02i' % _2.gmtime()[:3]\n    _3.extend(['%-31s %s' % ('_audit_creation_date', _6), '%-31s %s' % ('_audit_creation_method', 'P_cif.py'), '', '%-31s %s' % ('_symmetry_space_group_name_H-M', \"'P1'\"), '%-31s %s' % ('_symmetry_Int_Tables_number', '1'), '%-31s %s' % ('_symmetry_cell_setting', 'triclinic'), ''])\n    _3.extend(['%-31s %.6g' % ('_cell_length_a', _1.lattice.a), '%-31s %.6g' % ('_cell_length_b', _1.lattice.b), '%-31s %.6g' % ('_cell_length_c', _1.lattice.c), '%-31s %.6g' % ('_cell_angle_alpha', _1.lattice.alpha), '%-31s %.6g' % ('_cell_angle_beta', _1.lattice.beta), '%-31s %.6g' % ('_cell_angle_gamma', _1.lattice.gamma), ''])\n    _7 = {}\n    _8 = []\n    _9 = []\n    for _10 in _1:\n        _11 = _7[_10.element] = _7.get(_10.element, 0) + 1\n        _8.append('%s%i' % (_10.element, _11))\n        if numpy.all(_10.U == _10.U[0, 0] * numpy.identity(3)):\n            _9.append('Uiso')\n        else:\n            _9.append('Uani')\n    _3.extend(['loop_', '  _atom_site_label', '  _atom_site_type_symbol', '  _atom_site_fract_x', '  _atom_site_fract_y', '  _atom_site_fract_z', '  _atom_site_U_iso_or_equiv', '  _atom_site_adp_type', '  _atom_site_occupancy'])\n    for _12 in range(len(_1)):\n        _10 = _1[_12]\n        _5 = '  %-5s %-3s %11.6f %11.6f %11.6f %11.6f %-5s %.4f' % (_8[_12], _10.element, _10.xyz[0], _10.xyz[1], _10.xyz[2], _10.Uisoequiv, _9[_12], _10.occupancy)\n        _3.append(_5)\n    _13 = [_12 for _12 in range(len(_1)) if _9[_12] != 'Uiso']\n    if _13 != []:\n        _3.extend(['loop_', '  _atom_site_aniso_label', '  _atom_site_aniso_U_11', '  _atom_site_aniso_U_22', '  _atom_site_aniso_U_33', '  _atom_site_aniso_U_12', '  _atom_site_aniso_U_13', '  _atom_site_aniso_U_23'])\n        for _12 in _13:\n            _10 = _1[_12]\n            _5 = '  %-5s %9.6f %9.6f %9.6f %9.6f %9.6f %9.6f' % (_8[_12], _10.U[0, 0], _10.U[1, 1], _10.U[2, 2], _10.U[0, 1], _10.U[0, 2], _10.U[1, 2])\n            _3.append(_5)\n    return _3" := by
  rfl

end DS.Props.SrcWriters

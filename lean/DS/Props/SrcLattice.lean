import DS.Gen.SrcLattice
import DS.Lemmas.Lattice
/-!
# Source tie for `lattice.py` (serves C01, C10; indirectly C09, C14, C15, C18)

`DS/Gen/SrcLattice.lean` is regenerated on every run by `translate/pysrc.py` from the *current*
`src/diffpy/structure/lattice.py` (an `ast` transliteration of the method bodies into Lean, in the
scalar-generic state-passing style).  The theorems below state that the hand-written model
`DS.Lattice` — the object of every C01/C10 theorem — coincides with that transliteration, method by
method.  Every proof is `rfl` (`cosdTable_eq_src` after casting the table entries to `ℝ`): model and source are the same term up to unfolding, for every scalar
type (so for `ℝ`, where the theorems live, and for `Float`, where the driver runs).  The two long
methods are compared after `cases L`, so that every `self.x` reduces at once; `setLatPar` is compared
in two steps, the argument assignments and the recomputation.

A source edit that changes what a method computes (or merely how it is written) makes the
corresponding `rfl` fail; the check then searches for a concrete failing input (correspondence +
oracle) and reports the broken tie with `no-failing-input-found` when it finds none.
-/
namespace DS.Props.SrcLattice
open DS
set_option linter.unusedSectionVars false

section
variable {α : Type} [Add α] [Mul α] [Sub α] [Neg α] [Div α] [OfNat α 0] [OfNat α 1] [OfNat α 2]
  [OfNat α 3] [OfNat α 90] [Max α] [Min α] [Elem α]

/-- `_isotropicunit` -/
theorem isotropicunit_eq (m : Mat3 α) : Src.isotropicunit m = Lattice.isounitOf m := rfl
/-- property `unitvolume` -/
theorem unitvolume_eq (L : Lattice α) : Src.unitvolume L = L.unitvolume := rfl
/-- property `volume` -/
theorem volume_eq (L : Lattice α) : Src.volume L = L.volume := rfl
/-- lines 333–374 of `setLatPar` (no argument given) -/
theorem setLatPar_none_eq (L : Lattice α) :
    Src.setLatPar L none none none none none none none = L.refresh := by cases L; rfl
/-- lines 319–332 of `setLatPar`: the given arguments are stored first, the rest does not look at them again -/
theorem setLatPar_assign_eq (L : Lattice α) (a b c al be ga : Option α) (Q : Option (Mat3 α)) :
    Src.setLatPar L a b c al be ga Q =
      Src.setLatPar (L.assignArgs ⟨a, b, c, al, be, ga, Q⟩) none none none none none none none := by
  cases L; rfl
/-- `setLatPar` with any subset of its seven arguments, on any prior object state -/
theorem setLatPar_eq (L : Lattice α) (a b c al be ga : Option α) (Q : Option (Mat3 α)) :
    Src.setLatPar L a b c al be ga Q = L.setLatPar ⟨a, b, c, al, be, ga, Q⟩ :=
  (setLatPar_assign_eq L a b c al be ga Q).trans (setLatPar_none_eq _)
/-- `setLatBase` on any prior object state -/
theorem setLatBase_eq (L : Lattice α) (B : Mat3 α) : Src.setLatBase L B = L.setLatBase B := by cases L; rfl
theorem cartesian_eq (L : Lattice α) (u : Vec3 α) : Src.cartesian L u = L.cartesian u := rfl
theorem fractional_eq (L : Lattice α) (r : Vec3 α) : Src.fractional L r = L.fractional r := rfl
theorem dot_eq (L : Lattice α) (u v : Vec3 α) : Src.dot L u v = L.dot u v := rfl
theorem norm_eq (L : Lattice α) (u : Vec3 α) : Src.norm L u = L.norm u := rfl
theorem rnorm_eq (L : Lattice α) (h : Vec3 α) : Src.rnorm L h = L.rnorm h := rfl
theorem dist_eq (L : Lattice α) (u v : Vec3 α) : Src.dist L u v = L.dist u v := rfl
/-- the scalar branch of `angle` (the array branch is recorded as text below) -/
theorem angle_eq (L : Lattice α) (u v : Vec3 α) : Src.angle L u v = L.angle u v := rfl
/-- `reciprocal()` constructs `Lattice(base=transpose(recbase))` -/
theorem reciprocal_eq (L : Lattice α) : Lattice.ofBase (Src.reciprocalBase L) = L.reciprocal := rfl
end

/-! ### guards, tables and glue that are compared as data -/

/-- the only `raise` statements of `setLatBase` and their conditions (mirrored by `Lattice.baseGuard`) -/
theorem setLatBase_guards_eq :
    Src.setLatBase_guards = ["abs(detbase) < 1e-08 -> LatticeError", "detbase < 0.0 -> LatticeError"] := rfl
theorem setLatPar_guards_eq : Src.setLatPar_guards = [] := rfl
/-- array arguments are copied (`numpy.array`), never aliased: a lattice does not change when the caller
reuses the array it passed in (the model has value semantics) -/
theorem arrayArgs_copied :
    Src.setLatPar_arrayArgs = ["baserot: numpy.array"] ∧ Src.setLatBase_arrayArgs = ["base: numpy.array"] := ⟨rfl, rfl⟩
theorem method_guards_eq : Src.cartesian_guards = [] ∧ Src.fractional_guards = [] ∧ Src.dot_guards = [] ∧
    Src.norm_guards = [] ∧ Src.rnorm_guards = [] ∧ Src.dist_guards = [] ∧ Src.angle_guards = [] :=
  ⟨rfl, rfl, rfl, rfl, rfl, rfl, rfl⟩
/-- the array branch of `angle` clips to [−1, 1] and applies `arccos` element-wise, like the scalar one -/
theorem angle_arrayBranch_eq :
    Src.angle_arrayBranch = ["ca[ca < -1] = -1\nca[ca > +1] = +1\nrv = numpy.degrees(numpy.arccos(ca))"] := rfl

/-- `_EXACT_COSD` is the table the C01 theorem `cosd_table_exact` is about -/
theorem exactCosd_eq :
    Src.exactCosd = [(0, 2), (60, 1), (90, 0), (120, -1), (180, -2), (240, -1), (270, 0), (300, 1)] := rfl
theorem cosdTable_eq_src :
    Lattice.cosdTable = Src.exactCosd.map (fun e => ((e.1 : ℝ), (e.2 : ℝ) / 2)) := by
  simp only [Lattice.cosdTable, Src.exactCosd, List.map]
  norm_num
/-- `cosd` looks `x % 360` up in the table and otherwise returns `cos(radians x)`; `sind x = cosd (90 − x)` -/
theorem cosd_body_eq :
    Src.cosd_body = "(x) rv = _EXACT_COSD.get(x % 360.0); if rv is None: rv = math.cos(math.radians(x)); return rv" := rfl
theorem sind_body_eq : Src.sind_body = "(x) return cosd(90.0 - x)" := rfl

/-- every scalar attribute is read back through `x = property(lambda self: self._x)` -/
theorem getters_eq : Src.latticeGetters =
    [("a", "_a"), ("alpha", "_alpha"), ("alphar", "_alphar"), ("ar", "_ar"), ("b", "_b"), ("beta", "_beta"),
     ("betar", "_betar"), ("br", "_br"), ("c", "_c"), ("ca", "_ca"), ("car", "_car"), ("cb", "_cb"), ("cbr", "_cbr"),
     ("cg", "_cg"), ("cgr", "_cgr"), ("cr", "_cr"), ("gamma", "_gamma"), ("gammar", "_gammar"), ("sa", "_sa"),
     ("sar", "_sar"), ("sb", "_sb"), ("sbr", "_sbr"), ("sg", "_sg"), ("sgr", "_sgr")] := rfl
/-- property assignment `lat.x = v` is `setLatPar(x=v)` (`Lattice.propArgs`) -/
theorem setters_eq : Src.latticeSetters =
    [("a", "self.setLatPar(a=value)"), ("alpha", "self.setLatPar(alpha=value)"), ("b", "self.setLatPar(b=value)"),
     ("beta", "self.setLatPar(beta=value)"), ("c", "self.setLatPar(c=value)"), ("gamma", "self.setLatPar(gamma=value)")] := rfl

end DS.Props.SrcLattice

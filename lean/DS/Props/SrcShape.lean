import DS.Gen.SrcShape
import DS.Lemmas.Expand
/-!
# Source tie for the nanoparticle cut-out (serves C18)

`DS/Gen/SrcShape.lean` is regenerated on every run from the current `expansion/shapeutils.py` (`findCenter`) and
`expansion/makeellipsoid.py` (`makeEllipsoid`, `makeSphere`) by `translate/src_shape.py`: the three functions as the
source writes them — Python `int` indices with negative values counting from the end, `for` loops as `foldlM` over
`range`, the list of indices to delete collected back to front and removed one `pop` at a time.

The model the C18 theorems speak about (`DS.Expand.findCenter`, `centreIndex`, `ellD`, `keeps`, `cutWith`, `ellMno`,
`ellipsoidWith`, `makeEllipsoid`, `makeSphere`) is written differently: recursion with a counter instead of a fold over
indices, `Option Nat` instead of `-1`, `List.filter` instead of collecting and popping.  The theorems below prove, for
every scalar type of the model's type-class context (hence for `ℝ`, where the C18 theorems live, and for `Float`,
which the driver runs), that the two coincide on all inputs.
-/
namespace DS.Props.SrcShape
open DS DS.Expand
set_option linter.unusedSectionVars false

/-! ### Python indexing -/

/-- a non-negative index is ordinary indexing (out of range = `none` on both sides) -/
theorem pyIndex_natCast (n i : Nat) : Src.Shape.pyIndex n (i : Int) = if i < n then some i else none := by
  unfold Src.Shape.pyIndex
  by_cases h : i < n
  · have h' : (i : Int) < (n : Int) := by omega
    simp [h, h']
  · have h' : ¬ (i : Int) < (n : Int) := by omega
    simp [h, h']

theorem pyGet_natCast {γ : Type} (xs : List γ) (i : Nat) : Src.Shape.pyGet xs (i : Int) = xs[i]? := by
  unfold Src.Shape.pyGet
  rw [pyIndex_natCast]
  by_cases h : i < xs.length
  · simp [h]
  · simp [h]

/-- `xs[-1]` is the last element, `IndexError` on the empty list -/
theorem pyIndex_neg_one (n : Nat) : Src.Shape.pyIndex n (-1) = if n = 0 then none else some (n - 1) := by
  unfold Src.Shape.pyIndex
  by_cases h : n = 0
  · subst h; simp
  · have h1 : -(n : Int) ≤ -1 := by omega
    have h2 : ((-1 : Int) + (n : Int)).toNat = n - 1 := by omega
    simp [h, h1, h2]

theorem pyPop_natCast {γ : Type} (xs : List γ) (i : Nat) (h : i < xs.length) :
    Src.Shape.pyPop xs (i : Int) = .ok (xs.eraseIdx i) := by
  unfold Src.Shape.pyPop
  rw [pyIndex_natCast]
  simp [h]

/-! ### `for` loops in the `Except` monad -/

theorem foldlM_ok_cons {σ ι : Type} (f : σ → ι → Except Err σ) (s s' : σ) (a : ι) (l : List ι) (h : f s a = .ok s') :
    (a :: l).foldlM f s = l.foldlM f s' := by
  rw [List.foldlM_cons, h]; rfl

theorem foldlM_snoc {σ ι : Type} (f : σ → ι → Except Err σ) (s s' : σ) (a : ι) (l : List ι)
    (h : l.foldlM f s = .ok s') : (l ++ [a]).foldlM f s = f s' a := by
  rw [List.foldlM_append, h]
  show List.foldlM f s' [a] = f s' a
  rw [List.foldlM_cons]
  cases f s' a <;> rfl

/-! ### deleting back to front with `pop` is `filter`

The shape of the second half of `makeEllipsoid`, for any list and any deletion test: walk the list from the last element
to the first with a counter `j` that starts at `len` and is decremented before use, append `j` to `delList` when the
element is to go, afterwards `pop` the collected indices in that order. -/

section pop
variable {γ : Type}

/-- one pass of the collecting loop leaves `(delList, j)` such that popping `delList` from the whole list removes
exactly the rejected elements among those already visited (`zs`) and nothing else -/
theorem collect_pop (del : γ → Bool) (xs : List γ) (step : List Int × Int → Nat → Except Err (List Int × Int))
    (hstep : ∀ (dl : List Int) (n i : Nat) (a : γ), xs[n]? = some a →
      step (dl, ((n + 1 : Nat) : Int)) i = .ok (if del a then dl ++ [(n : Int)] else dl, (n : Int))) :
    ∀ (zs ys : List γ), xs = ys ++ zs →
      ∃ dl : List Int, (List.range zs.length).foldlM step ([], (xs.length : Int)) = .ok (dl, (ys.length : Int)) ∧
        dl.foldlM Src.Shape.pyPop xs = .ok (ys ++ zs.filter fun a => !del a) := by
  intro zs
  induction zs with
  | nil =>
    intro ys h
    refine ⟨[], ?_, ?_⟩
    · simp [h]; rfl
    · simp [h]; rfl
  | cons a zs ih =>
    intro ys h
    have h' : xs = (ys ++ [a]) ++ zs := by rw [h]; simp
    obtain ⟨dl, hfold, hpop⟩ := ih (ys ++ [a]) h'
    have hget : xs[ys.length]? = some a := by
      rw [h, List.getElem?_append_right (Nat.le_refl _)]; simp
    have hlen : ((ys ++ [a]).length : Int) = ((ys.length + 1 : Nat) : Int) := by simp
    rw [hlen] at hfold
    refine ⟨if del a then dl ++ [(ys.length : Int)] else dl, ?_, ?_⟩
    · rw [List.length_cons, List.range_succ, foldlM_snoc _ _ _ _ _ hfold]
      exact hstep dl ys.length zs.length a hget
    · cases hd : del a
      · simp only [Bool.false_eq_true, if_false]
        rw [hpop]; simp [hd]
      · simp only [if_true]
        rw [foldlM_snoc _ _ _ _ _ hpop, pyPop_natCast _ _ (by simp)]
        simp [hd, List.eraseIdx_append_of_length_le]

end pop

/-! ### the three functions -/

section
variable {α β : Type} [Add α] [Mul α] [Sub α] [Neg α] [Div α] [OfNat α 0] [OfNat α 1] [OfNat α 2]
  [Elem α] [NatCast α] [LT α] [DecidableRel (α := α) (· < ·)] [IntCeil α]

/-- what `findCenter` returns: the index, or `-1` when no atom is closer to the middle than `len(S)` -/
def optInt : Option Nat → Int
  | some i => (i : Int)
  | none => -1

theorem optInt_inj (a b : Option Nat) (h : optInt a = optInt b) : a = b := by
  cases a <;> cases b <;> simp only [optInt] at h <;> first | rfl | omega | (congr 1; omega)

/-- one iteration of the source's loop on atom `i` = the model's test: strict `d < bestd`, distance to the canonical
centre `(½,½,½)` in the structure's lattice, `best = i`, `bestd = d` -/
theorem findCenter_step_eq (S : Stru α β) (i : Nat) (a : Atom α β) (h : S.atoms[i]? = some a) (best : Option Nat) (bestd : α) :
    Src.Shape.findCenter_step S ⟨1 / 2, 1 / 2, 1 / 2⟩ (optInt best, bestd) i =
      .ok (if S.cell.dist a.xyz ⟨1 / 2, 1 / 2, 1 / 2⟩ < bestd then (optInt (some i), S.cell.dist a.xyz ⟨1 / 2, 1 / 2, 1 / 2⟩)
           else (optInt best, bestd)) := by
  unfold Src.Shape.findCenter_step
  simp only [pyGet_natCast, h]
  split <;> rfl

/-- the fold over `range(len(S))` with `S[i]` is the model's recursion over the atom list with a counter -/
theorem findCenter_loop (L : Cell α) : ∀ (as pre : List (Atom α β)) (best : Option Nat) (bestd : α),
    ∃ bd, (List.range' pre.length as.length).foldlM (Src.Shape.findCenter_step ⟨L, pre ++ as⟩ ⟨1 / 2, 1 / 2, 1 / 2⟩)
        (optInt best, bestd) = .ok (optInt (findCenterAux L as pre.length best bestd), bd) := by
  intro as
  induction as with
  | nil => intro pre best bestd; exact ⟨bestd, rfl⟩
  | cons a as ih =>
    intro pre best bestd
    have hget : (⟨L, pre ++ a :: as⟩ : Stru α β).atoms[pre.length]? = some a := by
      show (pre ++ a :: as)[pre.length]? = some a
      rw [List.getElem?_append_right (Nat.le_refl _)]; simp
    have hstep := findCenter_step_eq ⟨L, pre ++ a :: as⟩ pre.length a hget best bestd
    have hsplit : pre ++ a :: as = (pre ++ [a]) ++ as := by simp
    have hlen : (pre ++ [a]).length = pre.length + 1 := by simp
    rw [List.length_cons, List.range'_succ]
    by_cases hd : L.dist a.xyz ⟨1 / 2, 1 / 2, 1 / 2⟩ < bestd
    · obtain ⟨bd, hbd⟩ := ih (pre ++ [a]) (some pre.length) (L.dist a.xyz ⟨1 / 2, 1 / 2, 1 / 2⟩)
      refine ⟨bd, ?_⟩
      rw [foldlM_ok_cons _ _ _ _ _ (hstep.trans (congrArg Except.ok (if_pos hd)))]
      rw [hsplit, ← hlen, hbd, hlen]
      simp only [findCenterAux, hd, if_true]
    · obtain ⟨bd, hbd⟩ := ih (pre ++ [a]) best bestd
      refine ⟨bd, ?_⟩
      rw [foldlM_ok_cons _ _ _ _ _ (hstep.trans (congrArg Except.ok (if_neg hd)))]
      rw [hsplit, ← hlen, hbd, hlen]
      simp only [findCenterAux, hd, if_false]

/-- **`findCenter`**: initial `best = -1`, `bestd = len(S)`, centre `[0.5, 0.5, 0.5]`, the loop, `return best` — the
source's function never raises and returns the model's answer (`-1` for the model's `none`) -/
theorem findCenter_eq (S : Stru α β) : Src.Shape.findCenter S = .ok (optInt (Expand.findCenter S)) := by
  obtain ⟨bd, h⟩ := findCenter_loop S.cell S.atoms [] none (S.atoms.length : α)
  unfold Src.Shape.findCenter
  simp only [List.range_eq_range']
  simp only [List.length_nil, List.nil_append, optInt] at h
  have hS : (⟨S.cell, S.atoms⟩ : Stru α β) = S := rfl
  rw [hS] at h
  rw [h]
  rfl

/-- **`newS[ncenter]`**: Python indexing with what `findCenter` returned is the model's `centreIndex` (`-1` = the last
atom; `IndexError` exactly for the empty structure) -/
theorem centreIndex_eq (T : Stru α β) :
    Src.Shape.pyIndex T.atoms.length (optInt (Expand.findCenter T)) = centreIndex T := by
  unfold centreIndex
  cases h : Expand.findCenter T with
  | none => simp only [optInt]; rw [pyIndex_neg_one]
  | some i =>
    simp only [optInt]
    rw [pyIndex_natCast, if_pos (findCenter_lt T i h)]

theorem centreAtom_eq (T : Stru α β) :
    Src.Shape.pyGet T.atoms (optInt (Expand.findCenter T)) = (centreIndex T).bind (T.atoms[·]?) := by
  unfold Src.Shape.pyGet
  rw [centreIndex_eq]
  cases centreIndex T <;> rfl

/-- **the deletion test**: `d = sum(((xyz - cxyz) / sabc) ** 2) ** 0.5`, delete when `d > 1` (strict) -/
theorem cut_step_eq (sabc cxyz : Vec3 α) (T : Stru α β) (dl : List Int) (n i : Nat) (a : Atom α β) (h : T.atoms[n]? = some a) :
    Src.Shape.makeEllipsoid_step sabc T T.cell cxyz (dl, ((n + 1 : Nat) : Int)) i =
      .ok (if (!keeps T.cell sabc cxyz a) then dl ++ [(n : Int)] else dl, (n : Int)) := by
  unfold Src.Shape.makeEllipsoid_step
  have hj : ((n + 1 : Nat) : Int) - 1 = (n : Int) := by omega
  simp only [hj, pyGet_natCast, h]
  unfold keeps ellD
  by_cases hd : 1 < Elem.sqrt (0 + (((T.cell.cartesian a.xyz).x - cxyz.x) / sabc.x) * (((T.cell.cartesian a.xyz).x - cxyz.x) / sabc.x)
      + (((T.cell.cartesian a.xyz).y - cxyz.y) / sabc.y) * (((T.cell.cartesian a.xyz).y - cxyz.y) / sabc.y)
      + (((T.cell.cartesian a.xyz).z - cxyz.z) / sabc.z) * (((T.cell.cartesian a.xyz).z - cxyz.z) / sabc.z))
  · simp only [gt_iff_lt, hd, if_true, decide_true, Bool.not_true, Bool.not_false]
  · simp only [gt_iff_lt, hd, if_false, decide_false, Bool.not_false, Bool.not_true, Bool.false_eq_true]

/-- **the block multiplier**: `max(ceil(2 * xi) for xi in S.lattice.fractional(sabc)) * array([1, 1, 1])` -/
theorem mno_eq (L : Cell α) (sabc : Vec3 α) :
    [max (max (IntCeil.ceilInt (2 * (L.fractional sabc).x)) (IntCeil.ceilInt (2 * (L.fractional sabc).y)))
        (IntCeil.ceilInt (2 * (L.fractional sabc).z)) * 1,
     max (max (IntCeil.ceilInt (2 * (L.fractional sabc).x)) (IntCeil.ceilInt (2 * (L.fractional sabc).y)))
        (IntCeil.ceilInt (2 * (L.fractional sabc).z)) * 1,
     max (max (IntCeil.ceilInt (2 * (L.fractional sabc).x)) (IntCeil.ceilInt (2 * (L.fractional sabc).y)))
        (IntCeil.ceilInt (2 * (L.fractional sabc).z)) * 1] = [ellMno L sabc, ellMno L sabc, ellMno L sabc] := by
  simp only [Int.mul_one]; rfl

/-- **the cutting loops**: collecting the indices with `d > 1` from the last atom to the first and popping them in that
order leaves `filter keeps`, in the block's order -/
theorem cut_eq (T : Stru α β) (sabc cxyz : Vec3 α) :
    ∃ dl j, (List.range T.atoms.length).foldlM (Src.Shape.makeEllipsoid_step sabc T T.cell cxyz) ([], (T.atoms.length : Int))
        = .ok (dl, j) ∧ dl.foldlM Src.Shape.pyPop T.atoms = .ok (T.atoms.filter (keeps T.cell sabc cxyz)) := by
  obtain ⟨dl, h1, h2⟩ := collect_pop (fun a => !keeps T.cell sabc cxyz a) T.atoms
    (Src.Shape.makeEllipsoid_step sabc T T.cell cxyz)
    (fun dl n i a h => cut_step_eq sabc cxyz T dl n i a h) T.atoms [] rfl
  refine ⟨dl, _, h1, ?_⟩
  rw [h2]
  simp

/-- all three radii given -/
theorem makeEllipsoid_abc (S : Stru α β) (a b c : α) :
    Src.Shape.makeEllipsoid S a (some b) (some c) = Expand.makeEllipsoid S a (some b) (some c) := by
  unfold Src.Shape.makeEllipsoid Expand.makeEllipsoid ellipsoidWith
  simp only [Option.getD_some, mno_eq, findCenter_eq, centreAtom_eq]
  split
  · next e he => simp only [he]
  · next T he =>
    simp only [he]
    cases hc : centreIndex T with
    | none => rfl
    | some nc =>
      simp only [Option.bind_some, cutWith]
      cases hca : T.atoms[nc]? with
      | none => rfl
      | some ca =>
        obtain ⟨dl, j, h1, h2⟩ := cut_eq T ⟨a, b, c⟩ (T.cell.cartesian ca.xyz)
        simp only [h1, h2]

/-- **`makeEllipsoid`**: the source's function is the model's, for every structure and every radii; an omitted `b`
or `c` is `a` (`if b is None: b = a`) -/
theorem makeEllipsoid_eq (S : Stru α β) (a : α) (b c : Option α) :
    Src.Shape.makeEllipsoid S a b c = Expand.makeEllipsoid S a b c := by
  cases b with
  | none =>
    cases c with
    | none => exact makeEllipsoid_abc S a a a
    | some c => exact makeEllipsoid_abc S a a c
  | some b =>
    cases c with
    | none => exact makeEllipsoid_abc S a b a
    | some c => exact makeEllipsoid_abc S a b c

/-- **`makeSphere`**: `return makeEllipsoid(S, radius)` (the radius for `a`; `b`, `c` omitted or the same radius) -/
theorem makeSphere_eq (S : Stru α β) (r : α) : Src.Shape.makeSphere S r = Expand.makeSphere S r := by
  unfold Src.Shape.makeSphere
  rw [makeEllipsoid_eq]
  -- the source's call is definitionally `makeEllipsoid S r none none` (a passed-on `b = c = radius` is the
  -- default `(some r).getD r = r`), so in either outcome the `match` hypothesis is the goal read backwards
  split
  · next e h => exact h.symm
  · next R h => exact h.symm

end

/-- signatures (`b`, `c` default to `None`), and where the free names come from: `ceil` is `math.ceil`, `array` is
`numpy.array`, `findCenter` is the function of `shapeutils.py` tied above, `supercell` is `supercell_mod.supercell`
(tied by `DS.Props.SrcExpand`), each bound exactly once; `Structure` is a `list` whose `len`, `pop` are the list's own and
whose `__getitem__` hands an `int` index to `list.__getitem__` (the only sequence method it overrides) -/
theorem facts_eq : Src.Shape.shape_facts =
    [("Structure", "class Structure(list) overrides: __getitem__"),
     ("bindings", "makeEllipsoid: from diffpy.structure.expansion import supercell; module: from diffpy.structure.expansion.shapeutils import findCenter; module: from math import ceil; module: from numpy import array; expansion/__init__: from diffpy.structure.expansion.supercell_mod import supercell"),
     ("findCenter", "(S)"),
     ("makeEllipsoid", "(S, a, b=None, c=None)"),
     ("makeSphere", "(S, radius)")] := rfl

/-! ### non-vacuity (the theorems above are unconditional equalities; these show both sides are not trivially errors) -/

/-- Python indexing as the prelude defines it, on a list of three -/
example : Src.Shape.pyGet [10, 20, 30] (-1) = some 30 ∧ Src.Shape.pyGet [10, 20, 30] 0 = some 10 ∧
    Src.Shape.pyGet [10, 20, 30] (-3) = some 10 ∧ Src.Shape.pyGet [10, 20, 30] 3 = none ∧
    Src.Shape.pyGet [10, 20, 30] (-4) = none ∧ Src.Shape.pyGet ([] : List Nat) (-1) = none := by decide

/-- popping `[3, 1]` (collected back to front) from a list of four removes exactly those two -/
example : [3, 1].foldlM Src.Shape.pyPop [10, 20, 30, 40] = .ok [10, 30] := by decide

end DS.Props.SrcShape

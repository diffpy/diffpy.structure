import DS.Lemmas.LatRule
import DS.Gen.LatIndex

/-!
# C03, last clause — the lattice-compatibility test `isSpaceGroupLatPar`

"… the lattice-compatibility test accepts every cell that the setting's operations leave
invariant while rejecting cells that only a lower crystal system allows."

* The rule of the source is `srcRule` (= `evalDNF · (Gen.ruleSrc S)`, the seven rules as read by
  `translate/latpar.py` from the `ast` of `symmetryutilities.py`, cross-checked against the running
  function); `LatRule.rule` is the hand-written model "as the code states it";
  they coincide for the systems in `agreeing Gen.ruleSrc` (all seven on a healthy tree:
  `DS.Props.C03bFull`).
* `Gen.allLC` are the tabulated settings for which the kernel accepted a linear certificate
  (`Gen.sgN_lat : checkLatCert Gen.ruleSrc sgN sgN_lc = true`, one `decide +kernel` each);
  `Gen.nUncertified` counts the others (0 on a healthy tree; listed in
  `lean/DS/Gen/latpar_report.json`).
-/
namespace DS.Props.C03b
open DS DS.LatRule

/-- the rule of `isSpaceGroupLatPar` for crystal system `S`, as read from the source -/
def srcRule (S : CSys) (c : CellR) : Prop := evalDNF c (Gen.ruleSrc S)

/-- **completeness.**  For every certified tabulated setting: a valid real cell whose metric tensor
is invariant under (the rotation parts of) all operations of the setting is accepted by the
rule of the setting's crystal system. -/
theorem latpar_complete (p : SG × LatCert) (hp : p ∈ Gen.allLC) (c : CellR) (hv : Valid c)
    (hinv : ∀ op ∈ p.1.ops, Invariant op (metric c)) : srcRule p.1.system c :=
  checkLatCert_sound (Gen.allLC_ok p hp) c hv hinv

/-- the same for the hand-written model `rule`, for the systems whose source rule equals the model -/
theorem latpar_complete_rule (p : SG × LatCert) (hp : p ∈ Gen.allLC)
    (hS : p.1.system ∈ agreeing Gen.ruleSrc) (c : CellR) (hv : Valid c)
    (hinv : ∀ op ∈ p.1.ops, Invariant op (metric c)) : rule p.1.system c :=
  (rule_of_src hS c).2 (latpar_complete p hp c hv hinv)

/-- the metric conditions themselves: every linear form of the chosen alternative (`g11 − g22`,
`g23`, `2 g12 + g11`, …) vanishes on every real metric invariant under the setting -/
theorem latpar_metric_conditions (p : SG × LatCert) (hp : p ∈ Gen.allLC) (G : Metric ℝ)
    (hinv : ∀ op ∈ p.1.ops, Invariant op G) :
    ∃ k, (Gen.ruleSrc p.1.system)[p.2.alt]? = some k ∧ ∀ a ∈ k, ∀ f ∈ a.forms, f.eval G = 0 :=
  checkLatCert_forms (Gen.allLC_ok p hp) G hinv

/-- all tabulated settings, when the translator left none uncertified -/
theorem latpar_complete_allSG (h0 : Gen.nUncertified = 0) (g : SG) (hg : g ∈ Gen.allSG)
    (c : CellR) (hv : Valid c) (hinv : ∀ op ∈ g.ops, Invariant op (metric c)) :
    srcRule g.system c := by
  rw [← Gen.allLC_cover h0] at hg
  obtain ⟨p, hp, rfl⟩ := List.mem_map.1 hg
  exact latpar_complete p hp c hv hinv

/-- certified + uncertified = tabulated -/
theorem latpar_coverage : Gen.allLC.length + Gen.nUncertified = Gen.allSG.length :=
  Gen.allLC_length

/-! ### rejection of cells of a lower system -/

/-- generic cells by shape (the same cells as `harness/c03.py: SHAPES`) -/
noncomputable def shapes : List (CSys × CellR) :=
  [ (.triclinic,    ⟨5.1, 6.2, 7.3, 81, 97, 103⟩),
    (.monoclinic,   ⟨5.1, 6.2, 7.3, 90, 97, 90⟩),
    (.monoclinic,   ⟨5.1, 6.2, 7.3, 90, 90, 103⟩),
    (.monoclinic,   ⟨5.1, 6.2, 7.3, 81, 90, 90⟩),
    (.orthorhombic, ⟨5.1, 6.2, 7.3, 90, 90, 90⟩),
    (.tetragonal,   ⟨5.1, 5.1, 7.3, 90, 90, 90⟩),
    (.trigonal,     ⟨5.1, 5.1, 5.1, 81, 81, 81⟩),
    (.hexagonal,    ⟨5.1, 5.1, 7.3, 90, 90, 120⟩),
    (.cubic,        ⟨5.1, 5.1, 5.1, 90, 90, 90⟩) ]

/-- `lower S' S`: `S'` is strictly lower than `S` in
triclinic < monoclinic < orthorhombic < tetragonal < cubic, orthorhombic < hexagonal,
orthorhombic < trigonal < cubic -/
def lower : CSys → CSys → Bool
  | .triclinic, .triclinic => false
  | .triclinic, _ => true
  | .monoclinic, .triclinic => false
  | .monoclinic, .monoclinic => false
  | .monoclinic, _ => true
  | .orthorhombic, .tetragonal => true
  | .orthorhombic, .trigonal => true
  | .orthorhombic, .hexagonal => true
  | .orthorhombic, .cubic => true
  | .tetragonal, .cubic => true
  | .trigonal, .cubic => true
  | _, _ => false

/-- every shape is a valid cell and is accepted by its own system's rule -/
theorem shapes_accepted : ∀ sc ∈ shapes, Valid sc.2 ∧ rule sc.1 sc.2 := by
  intro sc hsc
  simp only [shapes, List.mem_cons, List.mem_nil_iff, or_false] at hsc
  rcases hsc with rfl | rfl | rfl | rfl | rfl | rfl | rfl | rfl | rfl <;>
    exact ⟨by constructor <;> norm_num, by simp only [rule] <;> norm_num⟩

/-- **rejection.**  The rule of crystal system `S` rejects the generic cell of every strictly
lower system. -/
theorem rule_rejects_lower : ∀ sc ∈ shapes, ∀ S, lower sc.1 S = true → ¬ rule S sc.2 := by
  intro sc hsc S hl
  simp only [shapes, List.mem_cons, List.mem_nil_iff, or_false] at hsc
  rcases hsc with rfl | rfl | rfl | rfl | rfl | rfl | rfl | rfl | rfl <;>
    cases S <;> simp only [lower, Bool.false_eq_true] at hl <;> simp only [rule] <;> norm_num

/-- the same for the rule as read from the source -/
theorem latpar_rejects_lower (sc : CSys × CellR) (hsc : sc ∈ shapes) (S : CSys)
    (hl : lower sc.1 S = true) (hS : S ∈ agreeing Gen.ruleSrc) : ¬ srcRule S sc.2 :=
  fun h => rule_rejects_lower sc hsc S hl ((rule_of_src hS sc.2).2 h)

theorem lower_irrefl : ∀ S, lower S S = false := by
  intro S; cases S <;> rfl
/-- with `lower_irrefl`: a strict partial order on the seven systems -/
theorem lower_trans : ∀ S T U, lower S T = true → lower T U = true → lower S U = true := by
  have h : ∀ S ∈ allSys, ∀ T ∈ allSys, ∀ U ∈ allSys,
      lower S T = true → lower T U = true → lower S U = true := by decide +kernel
  exact fun S T U => h S (mem_allSys S) T (mem_allSys T) U (mem_allSys U)

/-! ### non-vacuity -/

/-- the translator's witness cell over the reals -/
noncomputable def witnessCell : CellR :=
  ⟨(Gen.latWitnessCell.a : ℝ), (Gen.latWitnessCell.b : ℝ), (Gen.latWitnessCell.c : ℝ),
   (Gen.latWitnessCell.alpha : ℝ), (Gen.latWitnessCell.beta : ℝ), (Gen.latWitnessCell.gamma : ℝ)⟩

theorem witnessCell_metric : metric witnessCell = Metric.castR Gen.latWitnessMetric := by
  simp only [witnessCell, Gen.latWitnessCell, Gen.latWitnessMetric, metric, Metric.castR, Nat.cast_ofNat]
  norm_num [cosd_90, cosd_120]

theorem witnessCell_valid : Valid witnessCell := by
  constructor <;> simp only [witnessCell, Gen.latWitnessCell, Nat.cast_ofNat] <;> norm_num

/-- the hypotheses of `latpar_complete` are satisfiable: a concrete tabulated setting (P4, number 75,
on the pinned tree) and a concrete valid cell invariant under all its operations -/
theorem witness_invariant : ∀ op ∈ Gen.latWitness.1.ops, Invariant op (metric witnessCell) := by
  rw [witnessCell_metric]; exact checkInvInt_sound Gen.latWitness_inv

example : srcRule Gen.latWitness.1.system witnessCell ∧ 1 < Gen.latWitness.1.ops.length :=
  ⟨latpar_complete _ Gen.latWitness_mem _ witnessCell_valid witness_invariant, by decide +kernel⟩

/-- the a-unique monoclinic shape (`α ≠ 90`, `β = γ = 90`) is accepted by the model -/
example : rule .monoclinic (⟨5.1, 6.2, 7.3, 81, 90, 90⟩ : CellR) := by
  simp only [rule]; norm_num

/-- `Invariant` is not trivially true: the fourfold rotation about `c` does not preserve the metric
of an orthorhombic cell with `a ≠ b` -/
example : ¬ Invariant ⟨0, -1, 0, 1, 0, 0, 0, 0, 1, 0, 0, 0⟩ (Metric.castR ⟨25, 36, 49, 0, 0, 0⟩) := by
  intro h
  have := ((invariant_iff_bil _ _).1 h).1
  norm_num [bil, col1, LF.eval, Metric.castR] at this

end DS.Props.C03b

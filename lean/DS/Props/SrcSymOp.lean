import DS.Lemmas.SrcSymOp4
/-!
# Source tie for the CIF symmetry-operator reader (serves C17 and C07)

`DS/Gen/SrcSymOp.lean` is written on every run by `translate/src_symop.py` from the current
`src/diffpy/structure/parsers/p_cif.py`: `getSymOp` and `_symop_constant` statement by statement (Python string / list /
dictionary / float primitives of `DS.PyStr`, floats read as exact fractions), the two regular expressions as data for the
matcher `DS.Rx.mK`, and the dictionary `symvec`.  A statement outside the strict templates (any `eval`, `exec`, `compile`,
`__import__`, `getattr`, another helper, a changed loop skeleton) yields `<name>_untranslatable` instead of the definition and
the theorems below that mention it no longer elaborate -> broken tie.

What is proved here, for ALL texts (no bound on length):
* `rx_symop_constant_is_grammar`: what `_rx_symop_constant.match(tpart, pos)` consumes is exactly an optional sign, a literal
  `d+ | d+.d* | .d+` of the model's `scanLit`, and `/ literal` when one follows — nothing else (no exponent, no parenthesis,
  no name, no operator) can be consumed; `rx_symop_constant_covers_model`: whatever the model's `scanQuot` accepts, the pattern
  consumes the same text.
* `rx_split_is_varterm`: a match of the split pattern is an axis letter or a sign directly followed by one, in either case
  (`isAxisCI`/`isSignCI`; on ASCII these are the model's `axisOf ∘ toLower` and `isSign`: `axis_class_ascii`, `sign_class_ascii`).
* `symvec_is_unitVec`: every key the split can produce is in `symvec`, with the signed unit vector of the model (`symvec_data` pins the whole dictionary).
* the data the transliterated control flow depends on (`…_data` theorems, `rfl`) and the statements themselves with every
  constant (`…_shape` theorems, `rfl`); `split_is_splitComma`, `normalize_is_lower_removeAll`: the outer text handling of the
  model is that of the source.
* **`getSymOp_eq : getSymOp_eq_statement`** — the general equality, for every ASCII text: `getSymOp s = lift (parseSymOp s)`.
  The transliteration of the current `getSymOp` and the model `parseSymOp` (the function the theorems of C17/C07 speak
  about) end in the same exception kind (`StructureFormatError` when a component is malformed, `IndexError` when there are
  fewer than three, in the same priority: components in order) — never `KeyError`, `ValueError`, `ZeroDivisionError`, never
  the iteration bound `fuel`, never an operation `outside` the modelled subset — or in the same matrix and the same
  fractions, representation included.  Proof (helper modules `DS/Lemmas/SrcSymOp2` … `SrcSymOp5`):
  - `DS.SrcSymOp3.symop_constant_eq`: `_symop_constant(piece)` is the model's number scanner without axis letters
    (`pieceToks`): a sum of signed quotient literals, every one after the first with an explicit sign, anything else
    `StructureFormatError`; includes fuel sufficiency of the `while` loop, `partition('/')`, `float`, the zero test;
  - `DS.SymText.scanLit_append` / `scanQuot_append`: look-ahead of the literal scanner across a piece boundary;
  - `DS.SrcSymOp4.decomp`: the one-pass scanner on `piece ++ tail` = piece scanner on `piece`, then scanner on `tail`,
    when no variable term starts inside `piece` and `tail` is empty or begins with one;
  - `DS.SrcSymOp4.searchFrom_spec`, `scan_split_none/some`: `re.split` at `[+-]?[xyz]` cuts exactly there;
  - `DS.SrcSymOp4.rowR`, `rowT`, `getSymOp_row_eq`: the loop over the odd pieces never fails and adds the model's row
    vector (`symvec` lookups never miss), the loop over the even pieces fails exactly when the model rejects the row and
    otherwise adds the model's constant (the two summation orders agree by `Frac.add_assoc`/`zero_add`);
  - `DS.SrcSymOp5.scanRow_of_lower`, `splitComma_lower`: the model lower-cases the whole text first, the source only the
    variable terms — the same, since `Char.toLower` moves letters only (`DS.SymText.toLower_code`);
  - `getSymOp_rows`: the three passes, `t -= floor(t)`, the constructor.
* `getSymOp_samples`: the same agreement checked by kernel evaluation on a fixed list of operator texts covering every
  branch (a test of the definitions by evaluation; it is a consequence of `getSymOp_eq`).

ASCII: `DS.Rx` reads `\d` as `[0-9]` and `(?i)` through `Char.toLower/toUpper`; Python differs on non-ASCII text.  The
hypothesis is explicit in `getSymOp_eq_statement` and in `axis_class_ascii`/`sign_class_ascii`; it says where the
transliteration is Python's reading, the equalities themselves hold on every text (`getSymOp_eq_parseSymOp`).
-/
namespace DS.Props.SrcSymOp
open DS.Rx DS.PyStr DS.SymText DS.Src.SymOp

/-! ## outcomes -/

def liftErr : Err → Exn
  | .format => .structureFormatError
  | .index => .indexError

/-- how an outcome of the model reads as an outcome of the transliterated function -/
def lift : Except Err SymOp → Except Exn SymOp
  | .ok o => .ok o
  | .error e => .error (liftErr e)

/-- the full statement: on every ASCII text the transliteration of the current `getSymOp` IS `parseSymOp` — same
`StructureFormatError` / `IndexError`, never another exception (`KeyError`, `ValueError`, `ZeroDivisionError`), never the
iteration bound, and on success the same matrix and the same fractions -/
def getSymOp_eq_statement : Prop :=
  ∀ s : List Char, (∀ c ∈ s, c.toNat < 128) → getSymOp s = lift (parseSymOp s)

/-! ## the data the control flow depends on -/

theorem rx_symop_constant_pattern_data :
    rx_symop_constant_pattern = "[+-]?(?:\\d+\\.?\\d*|\\.\\d+)(?:/(?:\\d+\\.?\\d*|\\.\\d+))?" := rfl

theorem rx_split_pattern_data : rx_split_pattern = "(?i)([+-]?[xyz])" := rfl

/-- the constant pattern is `[+-]? lit (/ lit)?` with `lit = \d+ \.? \d* | \. \d+` -/
theorem rx_symop_constant_data : rx_symop_constant = rxConst := rfl

/-- the split pattern is `[+-]?[xyz]`, case-insensitive, inside one capturing group (so the terms are kept) -/
theorem rx_split_data : rx_split = rxVar ∧ rx_split_keep = true := ⟨rfl, rfl⟩

theorem symvec_data : symvec =
    [(['x'], (1, 0, 0)), (['y'], (0, 1, 0)), (['z'], (0, 0, 1)),
     (['-', 'x'], (-1, 0, 0)), (['-', 'y'], (0, -1, 0)), (['-', 'z'], (0, 0, -1)),
     (['+', 'x'], (1, 0, 0)), (['+', 'y'], (0, 1, 0)), (['+', 'z'], (0, 0, 1))] := rfl

/-- both `raise` statements of `_symop_constant` raise `StructureFormatError` with these texts -/
theorem symop_constant_messages_data : symop_constant_messages =
    ["Invalid number %r in symmetry operator.", "Division by zero in symmetry operator term %r."] := rfl

/-! ## the statements themselves: the transliteration is this program, with these constants

Every constant the translator reads from the source (the blank that is removed, the separator, the index tuple, the two
slices, the sign characters, the `/` of `partition`, `0.0`) occurs below; a change of any of them breaks the `rfl`. -/

theorem symop_constant_loop_shape (tpart : List Char) (fuel : Nat) (total : Frac) (pos : Nat) :
    symop_constant_loop tpart (fuel + 1) total pos =
      if pos < tpart.length then
        match pyMatch rx_symop_constant tpart pos with
        | none => .error .structureFormatError
        | some mx => do
          let bad ← (if 0 < pos then (do let c ← listIndex tpart pos; pure (!(['+', '-'].contains c))) else pure false)
          if bad then .error .structureFormatError else
          let p := partition '/' (group tpart mx)
          let nom := p.1
          let den := p.2.2
          let z ← (if !den.isEmpty then (do let d ← float den; pure (decide (d.num = 0))) else pure false)
          if z then .error .structureFormatError else
          let v ← (if !den.isEmpty then (do let a ← float nom; let b ← float den; fdiv a b) else float nom)
          symop_constant_loop tpart fuel (total.add v) mx.2
      else pure total := rfl

theorem symop_constant_shape (tpart : List Char) :
    symop_constant tpart = symop_constant_loop tpart (tpart.length + 1) Frac.zero 0 := rfl

theorem getSymOp_row_shape (eqlist : List (List Char)) (st : (Vec × Vec × Vec) × (Frac × Frac × Frac)) (i : Nat) :
    getSymOp_row eqlist st i = (do
      let e ← listIndex eqlist i
      let eqparts ← (match pySplit rx_split rx_split_keep e with | some l => pure l | none => .error .outside)
      let R ← (sliceStep 1 2 eqparts).foldlM (fun R Rpart => do
          let v ← dictGet symvec (lower Rpart)
          addRow R i v) st.1
      let t ← (sliceStep 0 2 eqparts).foldlM (fun t tpart => do
          let c ← symop_constant tpart
          addAt t i c) st.2
      pure (R, t)) := rfl

theorem getSymOp_shape (s : List Char) :
    getSymOp s = (do
      let snoblanks := removeAll ' ' s
      let eqlist := split ',' snoblanks
      let st ← [0, 1, 2].foldlM (getSymOp_row eqlist) (zeros33, zeros3)
      let t := subFloor st.2
      pure (mkSymOp st.1 t)) := rfl

/-- the model splits and strips the same way: `splitComma` is `split ','`, `normalize` removes the same blank -/
theorem split_is_splitComma (s : List Char) : split ',' s = splitComma s := by
  induction s with
  | nil => rfl
  | cons c r ih =>
    rw [split, splitComma, ih]
    cases splitComma r <;> rfl

theorem normalize_is_lower_removeAll (s : List Char) : normalize s = lower (removeAll ' ' s) := rfl

/-! ## the two patterns, on every text -/

/-- **the constant pattern is the literal grammar** -/
theorem rx_symop_constant_is_grammar (n : Nat) (s : List Char) :
    matchRest rx_symop_constant n s = constRest s := by
  rw [rx_symop_constant_data]; exact matchRest_rxConst n s

/-- `_rx_symop_constant.match(tpart, pos)`: the span ends where the literal grammar stops -/
theorem rx_symop_constant_match (tpart : List Char) (pos : Nat) (h : pos ≤ tpart.length) :
    pyMatch rx_symop_constant tpart pos =
      (constRest (tpart.drop pos)).map (fun rest => (pos, tpart.length - rest.length)) := by
  simp [pyMatch, h, rx_symop_constant_is_grammar]

/-- a text the pattern does not consume at all: anything that does not start (after an optional sign) with a digit or
with `.` and a digit — in particular a letter, a parenthesis, an operator -/
theorem rx_symop_constant_rejects (n : Nat) (c : Char) (r : List Char)
    (hs : isSign c = false) (hd : c.isDigit = false) (hdot : c ≠ '.') :
    matchRest rx_symop_constant n (c :: r) = none := by
  rw [rx_symop_constant_is_grammar]
  simp [constRest, unsign, hs, scanLit_other hd hdot]

/-- whatever the model's quotient scanner accepts, the pattern consumes exactly that text -/
theorem rx_symop_constant_covers_model {s r : List Char} {v : Frac} (h : scanQuot s = some (v, r))
    (hs : ∀ c r', s = c :: r' → isSign c = false) (n : Nat) :
    matchRest rx_symop_constant n s = some r := by
  have hu : unsign s = s := by
    cases s with
    | nil => rfl
    | cons c r' => simp only [unsign, hs c r' rfl, Bool.false_eq_true, if_false]
  rw [rx_symop_constant_is_grammar, constRest, hu]
  exact scanQuot_rest h

-- non-vacuity: the model accepts `1/2`, and the pattern consumes all of it; `(1/2)` is not consumed at all
example : ∃ v, scanQuot ['1', '/', '2', '+'] = some (v, ['+']) := ⟨_, rfl⟩
example : matchRest rx_symop_constant 4 ['1', '/', '2', '+'] = some ['+'] :=
  rx_symop_constant_covers_model (v := ⟨1 * 1, 1 * (2 : Int).toNat⟩) rfl (by intro c r h; cases h; rfl) 4
example : matchRest rx_symop_constant 5 ['(', '1', '/', '2', ')'] = none :=
  rx_symop_constant_rejects 5 '(' _ rfl rfl (by decide)

/-- **the split pattern is the variable term** -/
theorem rx_split_is_varterm (n : Nat) (s : List Char) : matchRest rx_split n s = varRest s := by
  rw [rx_split_data.1]; exact matchRest_rxVar n s

-- stated where the classes of `DS.Rx` are Python's; the equalities hold for every character
set_option linter.unusedVariables false in
theorem axis_class_ascii {c : Char} (h : c.toNat < 128) : isAxisCI c = (axisOf c.toLower).isSome := isAxisCI_eq c
set_option linter.unusedVariables false in
theorem sign_class_ascii {c : Char} (h : c.toNat < 128) : isSignCI c = isSign c := isSignCI_eq c

/-- the pattern cannot match the empty text, so `re.split` is inside the modelled subset: never `Exn.outside` -/
theorem rx_split_not_nullable (e : List Char) : (pySplit rx_split rx_split_keep e).isSome = true := by
  simp [pySplit, rx_split_data.1, rxVar, nullable]

/-! ## the dictionary -/

/-- every lower-cased term the split can produce is a key, with the model's signed unit vector -/
theorem symvec_is_unitVec :
    ∀ (c : Char) (a : Nat), axisOf c = some a →
      dictGet symvec [c] = .ok (unitVec false a) ∧
      dictGet symvec ['+', c] = .ok (unitVec false a) ∧
      dictGet symvec ['-', c] = .ok (unitVec true a) :=
  DS.SrcSymOp4.symvec_unit

/-! ## agreement on operator texts covering every branch (kernel-checked test) -/

def sampleTexts : List String :=
  [ "x,y,z", "X, Y ,Z+1/2", "-x+1/2,y-.5,z+1./3.0-1/4", "+x,+y,+z", "x-y,x,z", "x+x-x,y,z", "-X,-Y,-Z", "x,y,z,garbage",
    "1/2+x,y+0.25,.5-z", "x,y,z+12/24", "x,y,z-1/3", "x,y,z+1/3+1/3+1/3", "2x,y,z", "x2,y,z", "x1/2,y,z", "1/2x,y,z", "x,y,zz",
    "x,,z", "0,0,0", "x,y,z+08/016",
    "", "x", "x,y", ",", ",,",
    "x,y,1/0", "x,y,1/0.0", "x,y,1e0", "x,y,1E0", "x,y,(1/2)", "x,y,(1)/2", "x,y,z+1/2/3", "x,y,z-1/2+-1", "x,y,z+1/", "x,y,z+/2",
    "x,y,z+.", "x,y,z+", "x,y,z-", "x,y,2**-1", "x,y,0x1", "x,y,1_0", "x,y,1j", "x,y,z+1 2", "x,y,z+a", "x,y,--1", "x,y,+-1",
    "x,y,1.5.2", "x,y,1/+2", "x,y,z;1", "w,y,z", "x,y,__import__('os')" ]

/-- decidable form of `a = lift b` -/
def agree : Except Exn SymOp → Except Err SymOp → Bool
  | .ok x, .ok y => x = y
  | .error e, .error f => e = liftErr f
  | _, _ => false

theorem agree_iff (a : Except Exn SymOp) (b : Except Err SymOp) : agree a b = true ↔ a = lift b := by
  cases a <;> cases b <;> simp [agree, lift]

theorem getSymOp_samples_check : sampleTexts.all (fun t => agree (getSymOp t.toList) (parseSymOp t.toList)) = true := by
  decide +kernel

theorem getSymOp_samples : ∀ t ∈ sampleTexts, getSymOp t.toList = lift (parseSymOp t.toList) := by
  intro t ht
  exact (agree_iff _ _).mp (List.all_eq_true.mp getSymOp_samples_check t ht)

/-! ## the general theorem: the transliteration of the current `getSymOp` IS the model -/

/-- `parseSymOp` after the text has been split into components -/
def parseRows (L : List (List Char)) : Except Err SymOp :=
  match L with
  | [] => .error .index
  | a :: rest =>
    match parseRow a with
    | none => .error .format
    | some ta =>
      match rest with
      | [] => .error .index
      | b :: rest2 =>
        match parseRow b with
        | none => .error .format
        | some tb =>
          match rest2 with
          | [] => .error .index
          | c :: _ =>
            match parseRow c with
            | none => .error .format
            | some tc =>
              .ok { r1 := rowVec ta, r2 := rowVec tb, r3 := rowVec tc,
                    t1 := (rowConst ta).fract, t2 := (rowConst tb).fract, t3 := (rowConst tc).fract }

theorem parseSymOp_rows (s : List Char) : parseSymOp s = parseRows (splitComma (normalize s)) := rfl

open DS.SrcSymOp4 in
/-- after the three passes of the loop: the rows and constants of the model -/
theorem getSymOp_three (a b c : List Char) (rest : List (List Char)) :
    [0, 1, 2].foldlM (getSymOp_row (a :: b :: c :: rest)) (zeros33, zeros3) =
      match parseRow (lower a) with
      | none => .error .structureFormatError
      | some ta =>
        match parseRow (lower b) with
        | none => .error .structureFormatError
        | some tb =>
          match parseRow (lower c) with
          | none => .error .structureFormatError
          | some tc => .ok ((rowVec ta, rowVec tb, rowVec tc), (rowConst ta, rowConst tb, rowConst tc)) := by
  simp only [List.foldlM_cons, List.foldlM_nil]
  rw [getSymOp_row_eq (i := 0) (by omega)]
  simp only [List.getElem?_cons_zero]
  cases parseRow (lower a) with
  | none => rfl
  | some ta =>
    rw [ok_bind, getSymOp_row_eq (i := 1) (by omega)]
    simp only [List.getElem?_cons_succ, List.getElem?_cons_zero]
    cases parseRow (lower b) with
    | none => rfl
    | some tb =>
      rw [ok_bind, getSymOp_row_eq (i := 2) (by omega)]
      simp only [List.getElem?_cons_succ, List.getElem?_cons_zero]
      cases parseRow (lower c) with
      | none => rfl
      | some tc => simp [addRowP, addAtP, zeros33, zeros3, addVec_zero_left, Frac.zero_add]

open DS.SrcSymOp4 in
/-- the loop over the components, the floor and the constructor, for any list of components: each pass is
`getSymOp_row_eq`, and the three passes start from zero (`addVec_zero_left`, `Frac.zero_add`) -/
theorem getSymOp_rows (L : List (List Char)) :
    (do let st ← [0, 1, 2].foldlM (getSymOp_row L) (zeros33, zeros3)
        pure (mkSymOp st.1 (subFloor st.2)) : Except Exn SymOp) = lift (parseRows (L.map lower)) := by
  simp only [List.foldlM_cons, List.foldlM_nil]
  rw [getSymOp_row_eq (i := 0) (by omega)]
  rcases L with _ | ⟨a, L⟩
  · rfl
  simp only [List.map_cons, parseRows, List.getElem?_cons_zero]
  cases parseRow (lower a) with
  | none => rfl
  | some ta =>
    rw [ok_bind, getSymOp_row_eq (i := 1) (by omega)]
    rcases L with _ | ⟨b, L⟩
    · rfl
    simp only [List.map_cons, List.getElem?_cons_succ, List.getElem?_cons_zero]
    cases parseRow (lower b) with
    | none => rfl
    | some tb =>
      rw [ok_bind, getSymOp_row_eq (i := 2) (by omega)]
      rcases L with _ | ⟨c, L⟩
      · rfl
      simp only [List.map_cons, List.getElem?_cons_succ, List.getElem?_cons_zero]
      cases parseRow (lower c) with
      | none => rfl
      | some tc =>
        simp only [addRowP, addAtP, zeros33, zeros3, addVec_zero_left, Frac.zero_add, Nat.reduceEqDiff, if_true, if_false]
        rfl

/-- the transliteration of the current `getSymOp` and the model agree on every text.  (`DS.Rx` and `DS.PyStr` read `\d`,
`(?i)` and `str.lower` as ASCII operations, which is Python's reading on ASCII text only: hence the hypothesis of
`getSymOp_eq_statement`, which this proof does not need.) -/
theorem getSymOp_eq_parseSymOp (s : List Char) : getSymOp s = lift (parseSymOp s) := by
  rw [parseSymOp_rows, normalize_is_lower_removeAll, DS.SrcSymOp5.splitComma_lower, ← split_is_splitComma,
    ← getSymOp_rows]
  rfl

/-- **`getSymOp` is `parseSymOp`**: on every ASCII text the transliteration of the current source and the model end in
the same exception (`StructureFormatError` / `IndexError`, never `KeyError`, `ValueError`, `ZeroDivisionError`, never
the iteration bound, never an operation outside the modelled subset) or in the same matrix and the same fractions -/
theorem getSymOp_eq : getSymOp_eq_statement :=
  fun s _ => getSymOp_eq_parseSymOp s

-- non-vacuity: the hypothesis holds for ordinary operator texts, and both outcomes occur
example : (∀ c ∈ "-x+1/2, Y, z-.25".toList, c.toNat < 128) := by decide +kernel
example : ∃ o, getSymOp "-x+1/2, Y, z-.25".toList = .ok o := by
  rw [getSymOp_eq_parseSymOp]; exact ⟨_, rfl⟩
example : getSymOp "x,y,1/0".toList = .error .structureFormatError := by
  rw [getSymOp_eq_parseSymOp]; rfl

end DS.Props.SrcSymOp

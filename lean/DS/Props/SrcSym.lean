import DS.Gen.SrcSym
import DS.Lemmas.SrcSym
import Mathlib.Data.Rat.Floor
import Mathlib.Algebra.Order.Archimedean.Real.Basic
/-!
# Source tie for `expandPosition` (property C02): the integer model `DS.Orbit` IS the current source, over ℚ/ℝ

`DS/Gen/SrcSym.lean` is written on every run by `translate/src_sym.py` from the CURRENT text of
`symmetryutilities.py` (`_Position2Tuple.__init__/__call__`, `positionDifference`, `nearestSiteIndex`,
`equalPositions`, `expandPosition`) and `spacegroupmod.py` (`SymOp.__call__`): every function as a composition of the
numpy/Python primitives of `DS/Model/SymReal.lean` over a generic scalar; the dictionary `site_symops` as
key ↦ list OBJECT ↦ contents, so that `site_symops[tpl] = site_symops[pos2tuple(nearpos)]` shares one list.

This file proves, for every linearly ordered field with floor (`refines`; `refines_rat`, `refines_real` for ℚ, ℝ):
running that transliteration on `x/D`, `off/D`, `eps = E/D` (`D = 24k`) with the operations `(R, t/24)` raises no
exception and returns `Orbit.result ops k E off x / D` — positions, operation lists, multiplicity.  So the C02 theorems
about `Orbit.expand` are theorems about the real-number semantics of the current source.  Floating point stays
with the correspondence of `harness/c02.py`.

Layers: `*_shape` (`rfl`: each helper is coordinate-wise the scalar form `foldCell`/`pdiffS`/… of
`DS/Lemmas/SrcSym.lean`), `*_refines` per helper, `loop_*` (the four ways through one iteration), `step_refines`
(one iteration refines `Orbit.stepOp`, by the simulation `SymTie.Sim` that tolerates the unreferenced `[]`),
`fold_refines` (induction over the operation list), `refines`.  `facts_eq` pins the statements kept as text.
-/

namespace DS.Props.SrcSym
open DS DS.SymTie
set_option linter.unusedSectionVars false
set_option linter.unusedVariables false

variable {α : Type} [Field α] [LinearOrder α] [IsStrictOrderedRing α] [FloorRing α]

/-! ### shape of the transliterated helpers: each is, coordinate by coordinate, the scalar form of `DS.SymTie` -/

theorem symopCall_shape (s : SymOp α) (v : V3 α) : Src.Sym.symopCall s v = Np.add (Np.dot s.R v) s.t := rfl

theorem image_shape (s : SymOp α) (x o : V3 α) (eps : α) :
    Src.Sym.image s x o eps = Np.map3 foldCell (Np.sub (Src.Sym.symopCall s (Np.add x o)) o) := rfl

theorem pos2tupleCall_shape (e : α) (x : V3 α) :
    Src.Sym.pos2tupleCall e x = Np.map3 (fun xi => Py.int ((xi - Np.floorS xi) / e)) x := rfl

theorem positionDifference_shape (u v : V3 α) : Src.Sym.positionDifference u v = Np.zip3 pdiffS u v := rfl

theorem equalPositions_shape (u v : V3 α) (e : α) : Src.Sym.equalPositions u v e =
    (decide (pdiffS u.1 v.1 ≤ e) && decide (pdiffS u.2.1 v.2.1 ≤ e) && decide (pdiffS u.2.2 v.2.2 ≤ e)) := rfl

theorem nearestSiteIndex_shape (l : List (V3 α)) (p : V3 α) : Src.Sym.nearestSiteIndex l p =
    Np.argmin (l.map fun r => Np.max2 (Np.max2 (pdiffS r.1 p.1) (pdiffS r.2.1 p.2.1)) (pdiffS r.2.2 p.2.2)) := by
  simp only [Src.Sym.nearestSiteIndex, Np.maxAxis1, List.map_map]
  rfl

/-! ### refinement of the helpers on the grid -/

section
variable {k : Int} (hk : 0 < k)
include hk

/-- `_Position2Tuple.__init__`: `(eps + 1.0) - 1.0` is `eps` in exact arithmetic -/
theorem pos2tupleInit_refines (e : α) : Src.Sym.pos2tupleInit e = e := by
  have e1 : (1.0 : α) = 1 := by norm_num
  simp only [Src.Sym.pos2tupleInit, e1, add_sub_cancel_right]

/-- `pos = symop(xyz + sgoffset) - sgoffset` folded into the cell is `Orbit.img` -/
theorem img_refines (a : Op) (off x : P3) (eps : α) :
    Src.Sym.image (toSym a) (castP k x) (castP k off) eps = castP k (Orbit.img a k off x) := by
  obtain ⟨x1, x2, x3⟩ := x
  obtain ⟨o1, o2, o3⟩ := off
  rw [image_shape, symopCall_shape]
  simp only [Np.map3, Np.sub, Np.add, Np.dot, Np.dotRow, Np.zip3, toSym, castP, sc_add, sc_mul, sc_t hk, sc_sub,
    foldCell_sc hk, Orbit.img]

/-- `_Position2Tuple.__call__` on a position inside the cell is `Orbit.bucket` -/
theorem bucket_refines {E : Int} (hE : 0 < E) {p : P3} (hp : Orbit.InCell (24 * k) p) :
    Src.Sym.pos2tupleCall (sc k E : α) (castP k p) = Orbit.bucket E p := by
  obtain ⟨p1, p2, p3⟩ := p
  obtain ⟨⟨a1, b1⟩, ⟨a2, b2⟩, ⟨a3, b3⟩⟩ := hp
  simp only at a1 b1 a2 b2 a3 b3
  rw [pos2tupleCall_shape]
  simp only [Np.map3, castP, floorS_eq, sc_sub_floor hk, Orbit.bucket,
    Int.emod_eq_of_lt a1 b1, Int.emod_eq_of_lt a2 b2, Int.emod_eq_of_lt a3 b3,
    pyInt_sc hk a1 hE, pyInt_sc hk a2 hE, pyInt_sc hk a3 hE]

/-- `positionDifference`, one coordinate at a time, is `Orbit.pdiff1` -/
theorem pdiff1_refines (q p : P3) :
    Src.Sym.positionDifference (castP k q : V3 α) (castP k p) =
      castP k (Orbit.pdiff1 (24 * k) q.1 p.1, Orbit.pdiff1 (24 * k) q.2.1 p.2.1, Orbit.pdiff1 (24 * k) q.2.2 p.2.2) := by
  rw [positionDifference_shape]
  simp only [Np.zip3, castP, pdiffS_sc hk]

/-- the row maximum of `positionDifference` is `Orbit.boxDist` -/
theorem boxDist_refines (q p : P3) :
    Np.maxAxis1 [Src.Sym.positionDifference (castP k q : V3 α) (castP k p)] = [sc k (Orbit.boxDist (24 * k) q p)] := by
  rw [pdiff1_refines hk]
  simp only [Np.maxAxis1, List.map_cons, List.map_nil, castP, max2_sc hk, Orbit.boxDist, max_assoc]

/-- `equalPositions(nearpos, pos, eps)` is `boxDist ≤ E` -/
theorem equalPositions_refines (E : Int) (q p : P3) :
    Src.Sym.equalPositions (castP k q : V3 α) (castP k p) (sc k E) = decide (Orbit.boxDist (24 * k) q p ≤ E) := by
  rw [equalPositions_shape]
  simp only [castP, pdiffS_sc hk, sc_le hk, Orbit.boxDist]
  rw [Bool.eq_iff_iff]
  simp only [Bool.and_eq_true, decide_eq_true_eq, max_le_iff, and_assoc]

/-- `nearestSiteIndex(positions, pos)` on a non-empty list is `Orbit.nearestIdx` -/
theorem nearestIdx_refines (ps : List P3) (p : P3) (h : ps ≠ []) :
    Src.Sym.nearestSiteIndex (ps.map (castP k) : List (V3 α)) (castP k p) = some (Orbit.nearestIdx (24 * k) ps p) := by
  rw [nearestSiteIndex_shape, List.map_map, ← argmin_sc (α := α) hk p ps h]
  congr 1
  apply List.map_congr_left
  intro q _
  exact boxS_sc hk q p

end

/-! ### the four ways through one iteration of the loop, on the transliteration alone -/

section exec
variable {β : Type} [Add β] [Sub β] [Mul β] [Div β] [Neg β] [LT β] [LE β] [DecidableLT β] [DecidableLE β]
  [OfNat β 0] [OfScientific β] [IntCast β] [FloorOrd β]
variable {xyz off : V3 β} {eps e2 : β} {st : LoopSt β} {sym : SymOp β} {pos : V3 β} {tpl : V3 Int}
  (hpos : Src.Sym.image sym xyz off eps = pos) (htpl : Src.Sym.pos2tupleCall e2 pos = tpl)
include hpos htpl

/-- the bucket is already a key: only `site_symops[tpl].append(symop)` -/
theorem loop_known {n : Nat} (h : RefDict.lookup st.site_symops.keys tpl = some n) :
    Src.Sym.loopBody xyz off eps e2 st sym =
      some ⟨st.positions, { st.site_symops with objs := st.site_symops.objs.modify n (fun l => l ++ [sym]) }⟩ := by
  subst hpos htpl
  simp [Src.Sym.loopBody, RefDict.contains, RefDict.appendAt, h]

/-- a new bucket, no position listed yet: a new list object, a new position -/
theorem loop_first (h : RefDict.lookup st.site_symops.keys tpl = none) (hp : st.positions = []) :
    Src.Sym.loopBody xyz off eps e2 st sym =
      some ⟨[pos], ⟨RefDict.assocSet st.site_symops.keys tpl st.site_symops.objs.length,
        (st.site_symops.objs ++ [[]]).modify st.site_symops.objs.length (fun l => l ++ [sym])⟩⟩ := by
  subst hpos htpl
  simp [Src.Sym.loopBody, RefDict.contains, RefDict.appendAt, RefDict.bindFresh, h, hp, lookup_assocSet]

/-- a new bucket whose position is equal (within `eps`) to the nearest listed one: the key is bound to THAT
position's list object; the fresh list object stays unreferenced -/
theorem loop_alias {j m : Nat} {near : V3 β} (h : RefDict.lookup st.site_symops.keys tpl = none) (hp : st.positions ≠ [])
    (hj : Src.Sym.nearestSiteIndex st.positions pos = some j) (hn : st.positions[j]? = some near)
    (he : Src.Sym.equalPositions near pos eps = true)
    (hm : RefDict.lookup (RefDict.assocSet st.site_symops.keys tpl st.site_symops.objs.length)
            (Src.Sym.pos2tupleCall e2 near) = some m) :
    Src.Sym.loopBody xyz off eps e2 st sym =
      some ⟨st.positions, ⟨RefDict.assocSet (RefDict.assocSet st.site_symops.keys tpl st.site_symops.objs.length) tpl m,
        (st.site_symops.objs ++ [[]]).modify m (fun l => l ++ [sym])⟩⟩ := by
  subst hpos htpl
  simp [Src.Sym.loopBody, RefDict.contains, RefDict.appendAt, RefDict.bindFresh, RefDict.bindSame, h,
    List.isEmpty_eq_false_iff.2 hp, hj, hn, he, hm]
  simp [lookup_assocSet]

/-- a new bucket, the nearest listed position is farther than `eps`: a new list object, a new position -/
theorem loop_new {j : Nat} {near : V3 β} (h : RefDict.lookup st.site_symops.keys tpl = none) (hp : st.positions ≠ [])
    (hj : Src.Sym.nearestSiteIndex st.positions pos = some j) (hn : st.positions[j]? = some near)
    (he : Src.Sym.equalPositions near pos eps = false) :
    Src.Sym.loopBody xyz off eps e2 st sym =
      some ⟨st.positions ++ [pos], ⟨RefDict.assocSet st.site_symops.keys tpl st.site_symops.objs.length,
        (st.site_symops.objs ++ [[]]).modify st.site_symops.objs.length (fun l => l ++ [sym])⟩⟩ := by
  subst hpos htpl
  simp [Src.Sym.loopBody, RefDict.contains, RefDict.appendAt, RefDict.bindFresh, h, List.isEmpty_eq_false_iff.2 hp,
    hj, hn, he, lookup_assocSet]

end exec

/-! ### one iteration of the loop refines `Orbit.stepOp` -/

theorem step_refines {k E : Int} (hk : 0 < k) (hE : 0 < E) (off x : P3) {s : LoopSt α} {o : Orbit.St} {ρ : Nat → Nat}
    (hs : Sim k s o ρ) (hw : WF (24 * k) E o) (a : Op) :
    ∃ s' ρ', Src.Sym.loopBody (castP k x) (castP k off) (sc k E) (sc k E) s (toSym a) = some s' ∧
      Sim k s' (Orbit.stepOp k E off x o a) ρ' := by
  have hpos := img_refines (α := α) hk a off x (sc k E)
  have htpl := bucket_refines (α := α) hk hE (Orbit.img_inCell a hk off x)
  have hkey := hs.keys (Orbit.bucket E (Orbit.img a k off x))
  cases hl : Orbit.lookupKey o.keymap (Orbit.bucket E (Orbit.img a k off x)) with
  | some i =>
    rw [hl] at hkey
    refine ⟨_, ρ, loop_known hpos htpl hkey, ?_⟩
    rw [Orbit.stepOp_known hl]
    exact sim_known hs (hw.keys_lt _ _ hl) a
  | none =>
    rw [hl] at hkey
    by_cases hp : o.positions = []
    · -- the first position
      have hsp : s.positions = [] := by rw [hs.pos, hp]; rfl
      have hc : o.classes = [] := List.eq_nil_of_length_eq_zero (by rw [← hw.len, hp]; rfl)
      refine ⟨_, (fun j => if j = o.classes.length then s.site_symops.objs.length else ρ j), loop_first hpos htpl hkey hsp, ?_⟩
      rw [Orbit.stepOp_first hl hp]
      have := sim_new hs hw.len hw.keys_lt hl (Orbit.img a k off x) a
      rw [hsp, hp, hw.nil hp] at this
      rw [hc] at this ⊢
      exact this
    · have hsp : s.positions ≠ [] := by
        rw [hs.pos]; intro h; exact hp (List.map_eq_nil_iff.1 h)
      have hjlt := Orbit.nearestIdx_lt (24 * k) o.positions (Orbit.img a k off x) hp
      have hgetD : o.positions.getD (Orbit.nearestIdx (24 * k) o.positions (Orbit.img a k off x)) (Orbit.img a k off x)
          = o.positions[Orbit.nearestIdx (24 * k) o.positions (Orbit.img a k off x)] := by
        rw [List.getD_eq_getElem?_getD, List.getElem?_eq_getElem hjlt]; rfl
      have hmem : o.positions[Orbit.nearestIdx (24 * k) o.positions (Orbit.img a k off x)] ∈ o.positions :=
        List.getElem_mem hjlt
      have hnsi : Src.Sym.nearestSiteIndex s.positions (castP k (Orbit.img a k off x) : V3 α)
          = some (Orbit.nearestIdx (24 * k) o.positions (Orbit.img a k off x)) := by
        rw [hs.pos]; exact nearestIdx_refines hk _ _ hp
      have hn : s.positions[Orbit.nearestIdx (24 * k) o.positions (Orbit.img a k off x)]?
          = some (castP k o.positions[Orbit.nearestIdx (24 * k) o.positions (Orbit.img a k off x)]) := by
        rw [hs.pos, List.getElem?_map, List.getElem?_eq_getElem hjlt]; rfl
      have heq := equalPositions_refines (α := α) hk E
        o.positions[Orbit.nearestIdx (24 * k) o.positions (Orbit.img a k off x)] (Orbit.img a k off x)
      by_cases hd : Orbit.boxDist (24 * k) o.positions[Orbit.nearestIdx (24 * k) o.positions (Orbit.img a k off x)]
          (Orbit.img a k off x) ≤ E
      · -- equal to the nearest listed position: alias
        obtain ⟨i, hi⟩ := hw.reg _ hmem
        have hne : Orbit.bucket E o.positions[Orbit.nearestIdx (24 * k) o.positions (Orbit.img a k off x)]
            ≠ Orbit.bucket E (Orbit.img a k off x) := by
          intro h; rw [h, hl] at hi; cases hi
        have hm : RefDict.lookup (RefDict.assocSet s.site_symops.keys (Orbit.bucket E (Orbit.img a k off x))
              s.site_symops.objs.length)
            (Src.Sym.pos2tupleCall (sc k E : α) (castP k o.positions[Orbit.nearestIdx (24 * k) o.positions (Orbit.img a k off x)]))
            = some (ρ i) := by
          rw [lookup_assocSet, bucket_refines (α := α) hk hE (hw.incell _ hmem), hs.keys, hi]
          simp [hne]
        refine ⟨_, ρ, loop_alias hpos htpl hkey hsp hnsi hn (by rw [heq]; exact decide_eq_true hd) hm, ?_⟩
        rw [Orbit.stepOp_alias hl hp (by rw [hgetD]; exact hd) (by rw [hgetD]; exact hi)]
        exact sim_alias hs hl (hw.keys_lt _ _ hi) a
      · -- a new position
        refine ⟨_, (fun j => if j = o.classes.length then s.site_symops.objs.length else ρ j),
          loop_new hpos htpl hkey hsp hnsi hn (by rw [heq]; exact decide_eq_false hd), ?_⟩
        rw [Orbit.stepOp_new hl hp (by rw [hgetD]; exact hd)]
        exact sim_new hs hw.len hw.keys_lt hl (Orbit.img a k off x) a


/-! ### the whole loop, and what `expandPosition` returns -/

theorem fold_refines {k E : Int} (hk : 0 < k) (hE : 0 < E) (off x : P3) :
    ∀ (ops : List Op) (s : LoopSt α) (o : Orbit.St) (ρ : Nat → Nat), Sim k s o ρ → WF (24 * k) E o →
      ∃ s' ρ', (ops.map toSym).foldlM (Src.Sym.loopBody (castP k x) (castP k off) (sc k E) (sc k E)) s = some s' ∧
        Sim k s' (ops.foldl (Orbit.stepOp k E off x) o) ρ' ∧ WF (24 * k) E (ops.foldl (Orbit.stepOp k E off x) o)
  | [], s, o, ρ, hs, hw => ⟨s, ρ, rfl, hs, hw⟩
  | a :: ops, s, o, ρ, hs, hw => by
    obtain ⟨s1, ρ1, h1, hs1⟩ := step_refines hk hE off x hs hw a
    obtain ⟨s2, ρ2, h2, hs2, hw2⟩ := fold_refines hk hE off x ops s1 _ ρ1 hs1 (wf_step hk off x a hw)
    refine ⟨s2, ρ2, ?_, hs2, hw2⟩
    rw [List.map_cons, List.foldlM_cons, h1]
    exact h2

theorem mapOpt_map {β γ δ : Type} (f : γ → Option δ) (g : β → γ) (h : β → δ) :
    ∀ (l : List β), (∀ p ∈ l, f (g p) = some (h p)) → Py.mapOpt f (l.map g) = some (l.map h)
  | [], _ => rfl
  | p :: l, hl => by
    rw [List.map_cons, Py.mapOpt, hl p (List.mem_cons_self ..),
      mapOpt_map f g h l (fun q hq => hl q (List.mem_cons_of_mem _ hq))]
    rfl

/-- **Refinement.**  For every list of tabulated operations `ops`, every grid `D = 24 k` (`k > 0`), tolerance `E > 0`,
origin offset `off` and site `x` on the grid: the transliteration of the CURRENT source of `expandPosition`
(with `_Position2Tuple`, `positionDifference`, `nearestSiteIndex`, `equalPositions`, `SymOp.__call__`), evaluated in
any linearly ordered field with floor on `x/D`, `off/D`, `eps = E/D` and the operations `(R, t/24)`, raises no
exception and returns exactly `Orbit.result ops k E off x` divided by `D`: the same positions in the same order, the
same list of operations for each position, the same multiplicity. -/
theorem refines (ops : List Op) {k E : Int} (hk : 0 < k) (hE : 0 < E) (off x : P3) :
    Src.Sym.expandPosition (ops.map (toSym (α := α))) (castP k x) (castP k off) (sc k E) =
      some (castResult k (Orbit.result ops k E off x)) := by
  obtain ⟨s', ρ', hfold, hs, hw⟩ := fold_refines (α := α) hk hE off x ops _ _ _ (sim_init k) (wf_init (24 * k) E)
  change Sim k s' (Orbit.expand ops k E off x) ρ' at hs
  change WF (24 * k) E (Orbit.expand ops k E off x) at hw
  unfold Src.Sym.expandPosition
  simp only [pos2tupleInit_refines hk]
  rw [hfold, Option.bind_some, hs.pos]
  have hcls : ∀ p ∈ (Orbit.expand ops k E off x).positions,
      (fun q => s'.site_symops.get (Src.Sym.pos2tupleCall (sc k E : α) q)) (castP k p) =
        some ((match Orbit.lookupKey (Orbit.expand ops k E off x).keymap (Orbit.bucket E p) with
          | some i => (Orbit.expand ops k E off x).classes.getD i []
          | none => []).map toSym) := by
    intro p hp
    obtain ⟨i, hi⟩ := hw.reg p hp
    have hilt := hw.keys_lt _ _ hi
    simp only
    rw [bucket_refines hk hE (hw.incell p hp), RefDict.get, hs.keys, hi]
    simp only [Option.map_some, Option.bind_some]
    rw [hs.objs i hilt, List.getElem?_eq_getElem hilt, Option.map_some, List.getD_eq_getElem?_getD,
      List.getElem?_eq_getElem hilt]
    rfl
  rw [mapOpt_map _ (castP k) _ _ hcls, Option.bind_some]
  simp only [castResult, Orbit.result, List.length_map, List.map_map]
  rfl

/-- the refinement over the rationals -/
theorem refines_rat (ops : List Op) {k E : Int} (hk : 0 < k) (hE : 0 < E) (off x : P3) :
    Src.Sym.expandPosition (ops.map (toSym (α := ℚ))) (castP k x) (castP k off) (sc k E) =
      some (castResult k (Orbit.result ops k E off x)) := refines ops hk hE off x

/-- the refinement over the reals -/
theorem refines_real (ops : List Op) {k E : Int} (hk : 0 < k) (hE : 0 < E) (off x : P3) :
    Src.Sym.expandPosition (ops.map (toSym (α := ℝ))) (castP k x) (castP k off) (sc k E) =
      some (castResult k (Orbit.result ops k E off x)) := refines ops hk hE off x

/-! ### non-vacuity: the hypotheses are satisfiable and all branches of the loop are exercised -/

/-- `x ↦ −x` -/
def inv : Op := ⟨-1, 0, 0, 0, -1, 0, 0, 0, -1, 0, 0, 0⟩

/-- `D = 24`, `E = 5`, site `(1,0,0)/24`: the image `(23,0,0)/24` falls into another bucket (4 ≠ 0) but is within
`eps` of the listed position (periodic distance 2/24): the ALIAS branch — one position, both operations in its list -/
example : Src.Sym.expandPosition ([Op.one, inv].map (toSym (α := ℚ))) (castP 1 (1, 0, 0)) (castP 1 (0, 0, 0)) (sc 1 5) =
    some ([castP 1 (1, 0, 0)], [[toSym Op.one, toSym inv]], 1) := by
  rw [refines_rat _ (by decide) (by decide)]
  have : Orbit.result [Op.one, inv] 1 5 (0, 0, 0) (1, 0, 0) = ([(1, 0, 0)], [[Op.one, inv]], 1) := by decide
  rw [this]; rfl

/-- `E = 1`: the two images are farther apart than `eps`: the NEW-position branch — two positions, one operation each;
a third operation equal to the first exercises the KNOWN-key branch -/
example : Src.Sym.expandPosition ([Op.one, inv, Op.one].map (toSym (α := ℚ))) (castP 1 (1, 0, 0)) (castP 1 (0, 0, 0)) (sc 1 1) =
    some ([castP 1 (1, 0, 0), castP 1 (23, 0, 0)], [[toSym Op.one, toSym Op.one], [toSym inv]], 2) := by
  rw [refines_rat _ (by decide) (by decide)]
  have : Orbit.result [Op.one, inv, Op.one] 1 1 (0, 0, 0) (1, 0, 0) =
      ([(1, 0, 0), (23, 0, 0)], [[Op.one, Op.one], [inv]], 2) := by decide
  rw [this]; rfl

-- the hypotheses of `bucket_refines` and `nearestIdx_refines` can be met
example : Orbit.InCell (24 * 1) (1, 2, 3) := by simp [Orbit.InCell]
example : ([(1, 2, 3)] : List P3) ≠ [] := by decide

/-- the statements of the source that are kept as text: the default `eps`, the branch of `_Position2Tuple` for a
tolerance that is zero or smaller than `1/sys.maxsize` (keys are then floats; outside the model, which needs
`E > 0` and `D/E ≤ sys.maxsize`), `iter_symops` = the tabulated list in order, the conversion of `sgoffset`, and the
construction of the returned triple -/
theorem facts_eq : Src.Sym.facts = [
    ("SpaceGroup.iter_symops", "return iter(self.symop_list)"),
    ("SymOp.__init__", "self.R = R; self.t = t; return"),
    ("_Position2Tuple.__call__ eps == 0 branch", "if self.eps == 0.0:     tpl = tuple(xyz % 1.0)     return tpl"),
    ("_Position2Tuple.__init__ default", "if eps is None:     eps = epsilon"),
    ("_Position2Tuple.__init__ small-eps guard", "if self.eps == 0.0 or 1.0 / self.eps > sys.maxsize:     self.eps = 0.0"),
    ("expandPosition epilogue", "pos_symops = [site_symops[pos2tuple(p)] for p in positions]; multiplicity = len(positions); return (positions, pos_symops, multiplicity)"),
    ("expandPosition prologue", "sgoffset = numpy.asarray(sgoffset, dtype=float); if eps is None:     eps = epsilon; pos2tuple = _Position2Tuple(eps); positions = []; site_symops = {}")] := rfl

end DS.Props.SrcSym

import DS.Lemmas.Parsers
import DS.Gen.Handlers
/-!
# C13 — parsers reject bad input only with the documented format error

`Gen.cfg_<fmt>` is regenerated from the `try/except` clauses of the repository on every run
(translate/handlers.py).  The theorems instantiate the handler-generic results of
`Lemmas/Parsers.lean` with these generated tuples:

* `total_<fmt>`            every abstract document ends `ok` / `StructureFormatError` / `NotImplementedError`
                           (present for the formats where this holds on the current tree: all but XCFG);
* `total_<fmt>_statement`  the full-strength statement as a `Prop` (on the current tree false for XCFG only);
* `open_<fmt>`             the kinds whose handling the model depends on beyond `core_<fmt>`: where the tuple of the
                           current tree contains them, `total_<fmt>` holds; a tree whose tuple lacks one gets
* `total_<fmt>_partial`    every document is allowed **or** ends with one of the kinds of `open_<fmt>`;
* `escapes_<fmt>`          the listed kind is either handled by the generated tuple or escapes on a
                           concrete witness document (so the file keeps building after the repository is repaired);
* `total_<fmt>_iff`        the statement holds iff no needed kind is missing from the generated tuple
                           (pdffit, discus, xcfg, pdb);
* `core_<fmt>`             the kinds the tuple must contain today; fails to build if one is dropped from the source.
-/
namespace DS.Props.C13
open DS DS.Parsers

/-! ## XYZ, RAWXYZ: total on the current tree -/

theorem total_xyz : ∀ d : XyzDoc, (parseXyz Gen.cfg_xyz d).allowed = true :=
  fun d => allowed_of_missing_nil (parseXyz_cases Gen.cfg_xyz d) (by decide)

theorem total_rawxyz : ∀ d : XyzDoc, (parseRawxyz Gen.cfg_rawxyz d).allowed = true :=
  fun d => allowed_of_missing_nil (parseRawxyz_cases Gen.cfg_rawxyz d) (by decide)

-- non-vacuity: the three allowed outcomes and a rejected one are all reachable
example : parseXyz Gen.cfg_xyz { lines := [[{ int := some 0, flt := true, canon := true }], []] } = .ok := by decide
example : parseXyz Gen.cfg_xyz { lines := [[{}]] } = .err .SFE := by decide
example : parseRawxyz Gen.cfg_rawxyz { lines := [[{ flt := true }, { flt := true }, { flt := true }]] } = .ok := by decide
example : parseRawxyz Gen.cfg_rawxyz { lines := [[{ flt := true }, { flt := true }]] } = .err .SFE := by decide

/-! ## PDFfit -/

def total_pdffit_statement : Prop := ∀ d : PdffitDoc, (parsePdffit Gen.cfg_pdffit d).allowed = true

/-- the kind that escapes `P_pdffit.parseLines` on a tree whose tuple does not cover it (an `ncell` integer
beyond the double range multiplied with a float); the tuple of the current tree does, see `total_pdffit` -/
def open_pdffit : List Kind := [.OverflowError]

theorem total_pdffit_partial : ∀ d : PdffitDoc, (parsePdffit Gen.cfg_pdffit d).allowed = true ∨
    ∃ k, k ∈ open_pdffit ∧ parsePdffit Gen.cfg_pdffit d = .err k :=
  fun d => allowed_or_mono (parsePdffit_cases Gen.cfg_pdffit d) (by decide)

/-- on the current tree (tuple contains `ArithmeticError`, which covers `OverflowError`) the statement holds -/
theorem total_pdffit : total_pdffit_statement :=
  fun d => allowed_of_missing_nil (parsePdffit_cases Gen.cfg_pdffit d) (by decide)

theorem total_pdffit_iff :
    total_pdffit_statement ↔ missingKinds (neededPdffit Gen.cfg_pdffit) Gen.cfg_pdffit.H = [] :=
  parsePdffit_total_iff Gen.cfg_pdffit

-- deciding the witness evaluates `2 ^ 1024` (`hugeInt`)
set_option exponentiation.threshold 2000 in
theorem escapes_pdffit : Kind.OverflowError ∈ Gen.cfg_pdffit.H ∨
    ∃ d, witnessPdffit .OverflowError = some d ∧ parsePdffit Gen.cfg_pdffit d = .err .OverflowError :=
  (mem_or_mem_missingKinds (by decide)).imp_right (parsePdffit_escapes Gen.cfg_pdffit _)

example : parsePdffit Gen.cfg_pdffit
    { lines := [{ words := [{ kw := .cell }], cwords := [{ kw := .cell }] }, { words := [{ kw := .atoms }], cwords := [{ kw := .atoms }] }] } = .ok := by
  decide
example : parsePdffit Gen.cfg_pdffit { lines := [] } = .err .SFE := by decide

/-! ## DISCUS -/

def total_discus_statement : Prop := ∀ d : DiscusDoc, (parseDiscus Gen.cfg_discus d).allowed = true

/-- as for PDFfit -/
def open_discus : List Kind := [.OverflowError]

theorem total_discus_partial : ∀ d : DiscusDoc, (parseDiscus Gen.cfg_discus d).allowed = true ∨
    ∃ k, k ∈ open_discus ∧ parseDiscus Gen.cfg_discus d = .err k :=
  fun d => allowed_or_mono (parseDiscus_cases Gen.cfg_discus d) (by decide)

theorem total_discus : total_discus_statement :=
  fun d => allowed_of_missing_nil (parseDiscus_cases Gen.cfg_discus d) (by decide)

theorem total_discus_iff :
    total_discus_statement ↔ missingKinds (neededDiscus Gen.cfg_discus) Gen.cfg_discus.H = [] :=
  parseDiscus_total_iff Gen.cfg_discus

theorem escapes_discus : Kind.OverflowError ∈ Gen.cfg_discus.H ∨
    ∃ d, witnessDiscus .OverflowError = some d ∧ parseDiscus Gen.cfg_discus d = .err .OverflowError :=
  (mem_or_mem_missingKinds (by decide)).imp_right (parseDiscus_escapes Gen.cfg_discus _)

example : parseDiscus Gen.cfg_discus
    { lines := [{ words := [{ kw := .cell }], cwords := [{ kw := .cell }] }, { words := [{ kw := .atoms }], cwords := [{ kw := .atoms }] }] } = .ok := by decide
/-- a header without an `atoms` record is rejected (repair 56ab7f4) -/
example : parseDiscus Gen.cfg_discus
    { lines := [{ words := [{ kw := .cell }], cwords := [{ kw := .cell }] }] } = .err .SFE := by decide
example : parseDiscus Gen.cfg_discus
    { lines := [{ words := [{ kw := .generator }], cwords := [{ kw := .generator }] }] } = .err .NotImpl := by decide
example : parseDiscus Gen.cfg_discus { lines := [] } = .err .SFE := by decide

/-! ## XCFG -/

def total_xcfg_statement : Prop := ∀ d : XcfgDoc, (parseXcfg Gen.cfg_xcfg d).allowed = true

/-- `Resource`: `for i in range(max auxiliary index + 1)` driven by the input (reached when `entry_count`
is consistent with that index).  `AttributeError` (`setattr` of an auxiliary named like a read-only
attribute of `Atom`) is listed for the trees whose tuple lacks it. -/
def open_xcfg : List Kind := [.AttributeError, .Resource]

theorem total_xcfg_partial : ∀ d : XcfgDoc, (parseXcfg Gen.cfg_xcfg d).allowed = true ∨
    ∃ k, k ∈ open_xcfg ∧ parseXcfg Gen.cfg_xcfg d = .err k :=
  fun d => allowed_or_mono (parseXcfg_cases Gen.cfg_xcfg d) (by decide)

theorem total_xcfg_iff :
    total_xcfg_statement ↔ missingKinds (neededXcfg Gen.cfg_xcfg) Gen.cfg_xcfg.H = [] :=
  parseXcfg_total_iff Gen.cfg_xcfg

theorem escapes_xcfg : ∀ k, k ∈ open_xcfg → k ∈ Gen.cfg_xcfg.H ∨
    ∃ d, witnessXcfg k = some d ∧ parseXcfg Gen.cfg_xcfg d = .err k := by
  intro k hk
  have hn : k ∈ neededXcfg Gen.cfg_xcfg := (by decide : ∀ k, k ∈ open_xcfg → k ∈ neededXcfg Gen.cfg_xcfg) k hk
  exact (mem_or_mem_missingKinds hn).imp_right (parseXcfg_escapes Gen.cfg_xcfg k)

example : parseXcfg Gen.cfg_xcfg { lines := [] } = .err .SFE := by decide

/-! ## PDB -/

def total_pdb_statement : Prop := ∀ d : PdbDoc, (parsePdb Gen.cfg_pdb d).allowed = true

/-- `AttributeError`: a SIGUIJ record for an atom that had no SIGATM record (`last_atom.sigU` unset) -/
def open_pdb : List Kind := [.AttributeError]

theorem total_pdb_partial : ∀ d : PdbDoc, (parsePdb Gen.cfg_pdb d).allowed = true ∨
    ∃ k, k ∈ open_pdb ∧ parsePdb Gen.cfg_pdb d = .err k :=
  fun d => allowed_or_mono (parsePdb_cases Gen.cfg_pdb d) (by decide)

/-- on the current tree (tuple contains `AttributeError`) the statement holds for every document -/
theorem total_pdb : total_pdb_statement :=
  fun d => allowed_of_missing_nil (parsePdb_cases Gen.cfg_pdb d) (by decide)

theorem total_pdb_iff :
    total_pdb_statement ↔ missingKinds (neededPdb Gen.cfg_pdb) Gen.cfg_pdb.H = [] :=
  parsePdb_total_iff Gen.cfg_pdb

theorem escapes_pdb : Kind.AttributeError ∈ Gen.cfg_pdb.H ∨
    ∃ d, witnessPdb .AttributeError = some d ∧ parsePdb Gen.cfg_pdb d = .err .AttributeError :=
  (mem_or_mem_missingKinds (by decide)).imp_right (parsePdb_escapes Gen.cfg_pdb _)

/-- side-conditioned form: if every SIGUIJ record follows a SIGATM record of the same atom, the PDB
parser is total on the current tree (the only open kind needs a SIGUIJ without SIGATM) -/
theorem total_pdb_ordered : ∀ d : PdbDoc, pdbOrdered d.lines none = true →
    (parsePdb Gen.cfg_pdb d).allowed = true :=
  fun d ho => allowed_of_missing_nil (parsePdb_cases_ordered Gen.cfg_pdb (by decide) d ho) (by decide)

-- non-vacuity of the side condition: ATOM, SIGATM, SIGUIJ in order is an ordered document and parses
example : pdbOrdered [{ kind := .atom }, { kind := .sigatm }, { kind := .siguij }] none = true := by decide
example : parsePdb Gen.cfg_pdb { lines :=
    [{ kind := .atom, n := 3, allf := true, occ := true, b := true, elemOk := true },
     { kind := .sigatm, n := 3, allf := true }, { kind := .siguij, n := 6, allf := true }] } = .ok := by decide
example : pdbOrdered [{ kind := .atom }, { kind := .siguij }] none = false := by decide

example : parsePdb Gen.cfg_pdb { lines := [{ kind := .title }] } = .ok := by decide
example : parsePdb Gen.cfg_pdb { lines := [{ kind := .invalid }] } = .err .SFE := by decide
example : parsePdb Gen.cfg_pdb
    { lines := [{ kind := .scale3, n := 3, allf := true, uf := true, offset := true }] } = .err .NotImpl := by decide
/-- the guard added for SIGATM/ANISOU/SIGUIJ before any ATOM is seen by the model -/
example : parsePdb Gen.cfg_pdb { lines := [{ kind := .anisou, n := 6, allf := true }] } = .err .SFE := by decide

/-! ## CIF (diffpy's glue; PyCifRW and the block parsers' exception kinds are parameters) -/

def total_cif_statement : Prop := ∀ d : CifDoc, d.wf = true → (parseCif Gen.cfg_cif d).allowed = true

/-- `AttributeError`: a cell item given inside a loop is a list, `leading_float` calls `.strip()` on it -/
def open_cif : List Kind := [.AttributeError]

theorem total_cif_partial : ∀ d : CifDoc, d.wf = true → ((parseCif Gen.cfg_cif d).allowed = true ∨
    ∃ k, k ∈ open_cif ∧ parseCif Gen.cfg_cif d = .err k) :=
  fun d hwf => allowed_or_mono (parseCif_cases Gen.cfg_cif d hwf) (by decide)

theorem total_cif : total_cif_statement :=
  fun d hwf => allowed_of_missing_nil (parseCif_cases Gen.cfg_cif d hwf) (by decide)

theorem escapes_cif : Kind.AttributeError ∈ Gen.cfg_cif.H ∨ Kind.AttributeError ∈ Gen.cfg_cif.Hlat ∨
    ∃ d, witnessCif .AttributeError = some d ∧ d.wf = true ∧ parseCif Gen.cfg_cif d = .err .AttributeError := by
  by_cases h2 : Kind.AttributeError ∈ Gen.cfg_cif.Hlat
  · exact Or.inr (Or.inl h2)
  · exact (mem_or_mem_missingKinds (by decide)).imp_right fun h => Or.inr (parseCif_escapes Gen.cfg_cif h2 _ h)

/-- `parse` returning `None` happens only for a file PyCifRW accepts and in which no block has `_atom_site_label` -/
theorem cif_none : ∀ d : CifDoc, parseCif Gen.cfg_cif d = .none →
    d.cifFile = none ∧ d.blocks.all (fun b => !b.hasSites) = true :=
  parseCif_none Gen.cfg_cif

example : parseCif Gen.cfg_cif { blocks := [{ hasSites := true }] } = .ok := by decide
example : parseCif Gen.cfg_cif { blocks := [{ hasSites := false }] } = .none := by decide
example : parseCif Gen.cfg_cif { cifFile := some .YappsSyntaxError } = .err .SFE := by decide
example : (⟨none, [{ hasSites := true, sites := some .KeyError }]⟩ : CifDoc).wf = true := by decide

/-! ## The handler tuples contain today's core kinds (a dropped kind breaks the build) -/

theorem core_pdffit : [Kind.ValueError, .IndexError, .StopIteration, .ZeroDivisionError].all
    (fun k => Gen.cfg_pdffit.H.contains k) = true ∧ Gen.cfg_pdffit.reduceInit = true := by decide
theorem core_discus : [Kind.ValueError, .IndexError, .ZeroDivisionError].all
    (fun k => Gen.cfg_discus.H.contains k) = true ∧ Gen.cfg_discus.reduceInit = true := by decide
theorem core_xcfg : [Kind.ValueError, .IndexError, .TypeError, .ZeroDivisionError, .LatticeError].all
    (fun k => Gen.cfg_xcfg.H.contains k) = true ∧ Gen.cfg_xcfg.checkA = true := by decide
theorem core_pdb : [Kind.ValueError, .IndexError, .ZeroDivisionError, .LatticeError].all
    (fun k => Gen.cfg_pdb.H.contains k) = true ∧ Gen.cfg_pdb.guard = true := by decide
theorem core_cif : [Kind.YappsSyntaxError, .StarError, .ValueError, .IndexError, .KeyError, .TypeError,
    .ZeroDivisionError].all (fun k => Gen.cfg_cif.H.contains k) = true := by decide

end DS.Props.C13

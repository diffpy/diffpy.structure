import DS.Lemmas.Load
/-!
# C12 — automatic format detection gives the same result as naming the format

Decision-logic level: the per-format parsers are a parameter `parse : format → Outcome R`
(what each parser does with the given text: a structure, `None`, or an exception kind + message);
their own behaviour is C13's subject.  The registry (`genRegistry`), the constants of
`_getOrderedFormats` (`genOrderCfg`) and the exception filtering of `_wrapParseMethod`
(`genAutoCfg`) are regenerated from the tree under test on every run; the `gen_*` theorems below are
kernel-decided against that generated data.
-/
namespace DS.Props.C12
open DS DS.Load

variable {R : Type}

/-! ## the loop of `_wrapParseMethod`, for every configuration, parser behaviour and candidate order -/

/-- Automatic detection succeeding with format `f` and result `r` means: `f` is a candidate, its own parser
returns exactly `r` for this text, and every candidate tried before it raised an exception kind that the
wrapper swallows.  (The reported `parser.format` is the first component of `AutoResult.ok`.) -/
theorem auto_sound (c : AutoCfg) (parse : String → Outcome R) (o : List String) (f : String) (r : R)
    (h : auto c parse o = .ok f r) :
    ∃ pre post, o = pre ++ f :: post ∧ (∀ g ∈ pre, Swallowed c parse g) ∧ parse f = .ok r :=
  autoLoop_ok c parse o [] f r h

/-- … in particular the detected format is one of the candidates and naming it explicitly gives the same result -/
theorem auto_sound_explicit (c : AutoCfg) (parse : String → Outcome R) (o : List String) (f : String) (r : R)
    (h : auto c parse o = .ok f r) : f ∈ o ∧ parse f = .ok r := by
  obtain ⟨pre, post, rfl, _, hf⟩ := auto_sound c parse o f r h
  exact ⟨by simp, hf⟩

/-- swallowed candidates at the head of the order leave their complaints and nothing else -/
theorem auto_append (c : AutoCfg) (parse : String → Outcome R) (pre rest : List String)
    (hpre : ∀ g ∈ pre, Swallowed c parse g) :
    auto c parse (pre ++ rest) = autoLoop c parse rest (complaints c parse pre) := by
  rw [auto, autoLoop_swallowed c parse pre rest [] hpre, List.nil_append]

/-- first success wins: with the candidates before `f` swallowed and `f` returning a structure the result is `f`'s -/
theorem auto_first (c : AutoCfg) (parse : String → Outcome R) (pre post : List String) (f : String) (r : R)
    (hpre : ∀ g ∈ pre, Swallowed c parse g) (hf : parse f = .ok r) :
    auto c parse (pre ++ f :: post) = .ok f r := by
  rw [auto_append c parse pre _ hpre]
  simp [autoLoop, hf]

/-- every candidate failing with a swallowed kind (format error: collected; not implemented: skipped) makes the
automatic parser raise the format error whose message is the header followed by exactly one line per collected
candidate, in candidate order -/
theorem auto_fail_SFE (c : AutoCfg) (parse : String → Outcome R) (o : List String)
    (h : ∀ f ∈ o, Swallowed c parse f) :
    auto c parse o = .err c.raised (c.failMsg (complaints c parse o)) ∧
      (complaints c parse o).length = (o.filter (collected c parse)).length := by
  refine ⟨?_, complaints_length c parse o⟩
  have := auto_append c parse o [] h
  rwa [List.append_nil] at this

/-- a candidate failing with a kind outside the swallowed set, before any success, makes the automatic parser
fail with exactly that exception: "never a foreign exception" is the obligation that no parser raises one (C13) -/
theorem auto_foreign_escapes (c : AutoCfg) (parse : String → Outcome R) (pre post : List String) (f k m : String)
    (hpre : ∀ g ∈ pre, Swallowed c parse g) (hf : parse f = .err k m) (hk : c.handler k = .escape) :
    auto c parse (pre ++ f :: post) = .err k m := by
  rw [auto_append c parse pre _ hpre]
  simp [autoLoop, hf, hk]

/-- a candidate returning `None` (P_cif on a CIF without atom sites) before any success ends the loop as if it had
succeeded, and the automatic parser then raises the format error listing only the complaints of the candidates
*before* it: later parsers are not tried and contribute no line -/
theorem auto_none_masks (c : AutoCfg) (parse : String → Outcome R) (pre post : List String) (f : String)
    (hpre : ∀ g ∈ pre, Swallowed c parse g) (hf : parse f = .none) :
    auto c parse (pre ++ f :: post) = .err c.raised (c.failMsg (complaints c parse pre)) := by
  rw [auto_append c parse pre _ hpre]
  simp [autoLoop, hf]

/-- the four theorems above are exhaustive: any candidate list is either entirely swallowed or splits at its first
candidate that is not -/
theorem auto_cases (c : AutoCfg) (parse : String → Outcome R) (o : List String) :
    (∀ f ∈ o, Swallowed c parse f) ∨
    ∃ pre f post, o = pre ++ f :: post ∧ (∀ g ∈ pre, Swallowed c parse g) ∧
      ((∃ r, parse f = .ok r) ∨ parse f = .none ∨ ∃ k m, parse f = .err k m ∧ c.handler k = .escape) := by
  induction o with
  | nil => left; simp
  | cons g gs ih =>
    have hg : Swallowed c parse g ∨ ((∃ r, parse g = .ok r) ∨ parse g = .none ∨
        ∃ k m, parse g = .err k m ∧ c.handler k = .escape) := by
      cases hp : parse g with
      | ok r => right; left; exact ⟨r, rfl⟩
      | none => right; right; left; rfl
      | err k m =>
        by_cases hk : c.handler k = .escape
        · right; right; right; exact ⟨k, m, rfl, hk⟩
        · left; exact ⟨k, m, hp, hk⟩
    rcases hg with hs | hn
    · rcases ih with hall | ⟨pre, f, post, rfl, hpre, hf⟩
      · left; exact List.forall_mem_cons.mpr ⟨hs, hall⟩
      · right; exact ⟨g :: pre, f, post, rfl, List.forall_mem_cons.mpr ⟨hs, hpre⟩, hf⟩
    · right; exact ⟨[], g, gs, rfl, by simp, hn⟩

/-! ## the candidate order -/

/-- `_getOrderedFormats` returns a permutation of the registered input formats other than the excluded `auto`,
whatever the file name -/
theorem order_perm (cfg : OrderCfg) (reg : Registry) (fn : Option String) (h : (reg.map (·.name)).Nodup) :
    (orderFor cfg reg fn).Perm (candidates cfg reg) := by
  have hnd := candidates_nodup cfg reg h
  unfold orderFor
  cases fn with
  | none => exact List.Perm.refl _
  | some fn =>
    dsimp only
    split
    · exact List.Perm.refl _
    · rw [reorder_eq _ _ hnd]; exact arranged_perm _ _

/-- … with the formats whose pattern matches the file's base name first (in reverse alphabetical order, as the
loop inserts each at the front), the others after them in alphabetical order -/
theorem order_matching_first (cfg : OrderCfg) (reg : Registry) (fn : String) (h : (reg.map (·.name)).Nodup)
    (hfn : fn ≠ "") :
    orderFor cfg reg (some fn) =
      ((candidates cfg reg).filter (matchesFmt cfg reg (basename fn))).reverse ++
        (candidates cfg reg).filter (fun f => !matchesFmt cfg reg (basename fn) f) := by
  unfold orderFor
  simp only [hfn, if_false]
  exact reorder_eq _ _ (candidates_nodup cfg reg h)

/-- membership: every registered input format (except `auto`) is tried, nothing else is -/
theorem order_mem (cfg : OrderCfg) (reg : Registry) (fn : Option String) (h : (reg.map (·.name)).Nodup) (f : String) :
    f ∈ orderFor cfg reg fn ↔ (∃ e ∈ reg, e.hasInput = true ∧ e.name = f) ∧ f ∉ cfg.excluded := by
  rw [(order_perm cfg reg fn h).mem_iff, mem_candidates]

/-! ## written text is detected (decision level) -/

/-- The 7×7 matrix hypothesis about a text `t` written in format `g`, as far as detection is concerned: `g`'s own
parser accepts it with `r`, and every candidate either rejects it with a swallowed exception or accepts it with a
structure that agrees (`sim`) with `r`. -/
def RejectOrAgree (c : AutoCfg) (parse : String → Outcome R) (sim : R → R → Prop) (o : List String) (g : String)
    (r : R) : Prop :=
  parse g = .ok r ∧ ∀ f ∈ o, Swallowed c parse f ∨ ∃ r', parse f = .ok r' ∧ sim r' r

/-- Under the matrix hypothesis, automatic detection succeeds, reports a format whose own parser accepts the text,
and returns what that parser returns, which agrees with what the writing format's parser returns. -/
theorem written_text_detected_partial (c : AutoCfg) (parse : String → Outcome R) (sim : R → R → Prop)
    (o : List String) (g : String) (r : R) (hg : g ∈ o) (h : RejectOrAgree c parse sim o g r) :
    ∃ f r', auto c parse o = .ok f r' ∧ f ∈ o ∧ parse f = .ok r' ∧ sim r' r := by
  obtain ⟨hown, hall⟩ := h
  rcases auto_cases c parse o with hsw | ⟨pre, f, post, rfl, hpre, hf⟩
  · obtain ⟨k, m, hk, _⟩ := hsw g hg
    rw [hown] at hk; cases hk
  · rcases hall f (by simp) with ⟨k, m, hk, hne⟩ | ⟨r', hr', hs⟩
    · rcases hf with ⟨r', hr'⟩ | hn | ⟨k', m', hk', he⟩
      · rw [hk] at hr'; cases hr'
      · rw [hk] at hn; cases hn
      · rw [hk] at hk'; cases hk'; exact absurd he hne
    · exact ⟨f, r', auto_first c parse pre post f r' hpre hr', by simp, hr', hs⟩

/-- The full statement of the written-text clause for given writers and parsers (`write g s` the text format `g`
writes for structure `s`; `Rep g s` = "`s` is representable in `g`"; `NonEmpty s`).  It is *not* proved here from
models of the seven writers and parsers; `written_text_detected_of_matrix` reduces it to the matrix hypothesis,
which the correspondence run of harness/c12.py evaluates on the real writers and parsers and which
`DS.Props.C12Matrix` proves on the models of six formats. -/
def written_text_detected_statement {S T : Type} (cfg : OrderCfg) (reg : Registry) (c : AutoCfg)
    (write : String → S → T) (parse : String → T → Outcome R) (Rep : String → S → Prop) (NonEmpty : S → Prop)
    (sim : R → R → Prop) : Prop :=
  ∀ g ∈ outputFormats reg, ∀ s, Rep g s → NonEmpty s → ∀ fn : Option String,
    ∃ f r' r, auto c (fun f => parse f (write g s)) (orderFor cfg reg fn) = .ok f r' ∧
      parse f (write g s) = .ok r' ∧ parse g (write g s) = .ok r ∧ sim r' r

theorem written_text_detected_of_matrix {S T : Type} (cfg : OrderCfg) (reg : Registry) (c : AutoCfg)
    (write : String → S → T) (parse : String → T → Outcome R) (Rep : String → S → Prop) (NonEmpty : S → Prop)
    (sim : R → R → Prop) (hnd : (reg.map (·.name)).Nodup)
    (hout : ∀ g ∈ outputFormats reg, g ∈ candidates cfg reg)
    (hmatrix : ∀ g ∈ outputFormats reg, ∀ s, Rep g s → NonEmpty s →
      ∃ r, RejectOrAgree c (fun f => parse f (write g s)) sim (candidates cfg reg) g r) :
    written_text_detected_statement cfg reg c write parse Rep NonEmpty sim := by
  intro g hg s hr hne fn
  obtain ⟨r, hown, hall⟩ := hmatrix g hg s hr hne
  have hperm := order_perm cfg reg fn hnd
  have hgo : g ∈ orderFor cfg reg fn := hperm.mem_iff.mpr (hout g hg)
  have hroa : RejectOrAgree c (fun f => parse f (write g s)) sim (orderFor cfg reg fn) g r :=
    ⟨hown, fun f hf => hall f (hperm.mem_iff.mp hf)⟩
  obtain ⟨f, r', ha, _, hf, hs⟩ := written_text_detected_partial c _ sim _ g r hgo hroa
  exact ⟨f, r', r, ha, hf, hown, hs⟩

/-! ## obligations on the generated registry and exception table (re-decided on every run) -/

theorem gen_names_nodup : (genRegistry.map (·.name)).Nodup := by decide +kernel

/-- the model's `sorted(filter has_input)` is what `inputFormats()` / `outputFormats()` returned at translation time -/
theorem gen_formats_agree :
    inputFormats genRegistry = Gen.Reg.inputFormatsObserved ∧ outputFormats genRegistry = Gen.Reg.outputFormatsObserved := by
  decide +kernel

/-- the pattern separator is one character, no registered pattern uses a character class, and a parser instance
reports the name it is registered under -/
theorem gen_separator : genSepOk = true ∧ regSupported genRegistry = true ∧
    genRegistry.all (fun e => e.selfName == e.name) = true := by decide +kernel

/-- the exception filtering: format errors are collected, `NotImplementedError` is skipped, and *no other* kind of
the universe (all builtin exception classes, the library's, PyCifRW's) is swallowed; the error raised at the end is
the format error -/
theorem gen_handlers :
    genHandler "StructureFormatError" = .collect ∧ genHandler "NotImplementedError" = .skip ∧
    (Gen.Reg.handlerRaw.all (fun e => e.2 == 0 || e.1 == "StructureFormatError" || e.1 == "NotImplementedError")) = true ∧
    genAutoCfg.raised = "StructureFormatError" := by decide +kernel

/-- … so a candidate that raises one of these two is passed over -/
theorem gen_swallowed {parse : String → Outcome R} {f k m : String} (h : parse f = .err k m)
    (hk : k = "StructureFormatError" ∨ k = "NotImplementedError") : Swallowed genAutoCfg parse f := by
  refine ⟨k, m, h, ?_⟩
  show genHandler k ≠ .escape
  rcases hk with rfl | rfl
  · rw [gen_handlers.1]; decide
  · rw [gen_handlers.2.1]; decide

/-- the failure message: two header lines, complaints as `"<format>: <message>"`, joined by newlines -/
theorem gen_message_shape :
    genAutoCfg.header.length = 2 ∧ genAutoCfg.complaint "F" "M" = "F: M" ∧ genAutoCfg.joiner = "\n" := by decide +kernel

/-- every output format is an input candidate (so a written text always has its own parser among the candidates),
and the automatic format itself is not a candidate -/
theorem gen_outputs_are_candidates :
    (outputFormats genRegistry).all (fun g => (candidates genOrderCfg genRegistry).contains g) = true ∧
    (candidates genOrderCfg genRegistry).contains "auto" = false := by decide +kernel

/-- a file name carrying a format's own extension puts that format among the leading (matching) candidates -/
theorem gen_own_extension_first :
    (genRegistry.filter (fun e => e.hasOutput && e.ext != "")).all (fun e =>
      matchesFmt genOrderCfg genRegistry (basename ("name" ++ e.ext)) e.name) = true := by decide +kernel

/-- instances for the registry of the tree under test -/
theorem gen_order_perm (fn : Option String) :
    (orderFor genOrderCfg genRegistry fn).Perm (candidates genOrderCfg genRegistry) :=
  order_perm _ _ fn gen_names_nodup

/-! ## non-vacuity -/

/-- a parser table on which `auto` succeeds with the second candidate (first one rejects with the format error) -/
def exParse : String → Outcome Nat
  | "cif" => .err "StructureFormatError" "not a CIF"
  | "discus" => .ok 7
  | "pdb" => .ok 8
  | _ => .err "StructureFormatError" "no"

example : auto genAutoCfg exParse (orderFor genOrderCfg genRegistry none) = .ok "discus" 7 := by decide +kernel
example : ∃ pre post, orderFor genOrderCfg genRegistry none = pre ++ "discus" :: post ∧
    (∀ g ∈ pre, Swallowed genAutoCfg exParse g) ∧ exParse "discus" = .ok 7 :=
  auto_sound genAutoCfg exParse _ "discus" 7 (by decide +kernel)

/-- all candidates reject: one complaint line per candidate -/
def exReject : String → Outcome Nat := fun f => .err "StructureFormatError" ("bad " ++ f)

example : auto genAutoCfg exReject ["cif", "xyz"] =
    .err "StructureFormatError"
      "Unknown or invalid structure format.\nErrors per each tested structure format:\ncif: bad cif\nxyz: bad xyz" := by
  decide +kernel
example : ∀ f ∈ ["cif", "xyz"], Swallowed genAutoCfg exReject f := by
  intro f _; exact gen_swallowed rfl (.inl rfl)

/-- a foreign kind escapes -/
def exForeign : String → Outcome Nat
  | "cif" => .err "StructureFormatError" "no"
  | "discus" => .err "TypeError" "boom"
  | _ => .ok 1

example : auto genAutoCfg exForeign ["cif", "discus", "pdb"] = .err "TypeError" "boom" := by decide +kernel
example : genAutoCfg.handler "TypeError" = .escape := by decide +kernel

/-- `None` from the first candidate masks a later parser that would accept: the automatic parser fails although
naming `rawxyz` succeeds, and its message carries no complaint at all -/
def exNone : String → Outcome Nat
  | "cif" => .none
  | "rawxyz" => .ok 0
  | _ => .err "StructureFormatError" "no"

example : auto genAutoCfg exNone (orderFor genOrderCfg genRegistry none) =
    .err "StructureFormatError" "Unknown or invalid structure format.\nErrors per each tested structure format:" ∧
    exNone "rawxyz" = .ok 0 := by decide +kernel

/-- orders for the registry under test -/
example : orderFor genOrderCfg genRegistry (some "/data/x.stru") = ["pdffit", "discus", "cif", "pdb", "rawxyz", "xcfg", "xyz"] := by
  decide +kernel
example : orderFor genOrderCfg genRegistry (some "x.xyz") = ["xyz", "rawxyz", "cif", "discus", "pdb", "pdffit", "xcfg"] := by
  decide +kernel
example : orderFor genOrderCfg genRegistry none = ["cif", "discus", "pdb", "pdffit", "rawxyz", "xcfg", "xyz"] := by decide +kernel

/-- the matrix hypothesis is satisfiable: `exParse` on the candidates `cif`, `discus`, written format `discus`,
agreement = equality (`pdb` is left out of the list: `exParse` accepts there with another result, which the
hypothesis does not allow) -/
example : RejectOrAgree genAutoCfg exParse (fun a b => a = b) ["cif", "discus"] "discus" 7 :=
  ⟨rfl, by
    intro f hf
    simp only [List.mem_cons, List.not_mem_nil, or_false] at hf
    rcases hf with rfl | rfl
    · left; exact gen_swallowed rfl (.inl rfl)
    · right; exact ⟨7, rfl, rfl⟩⟩

/-- `written_text_detected_of_matrix` is not vacuous: toy writers (the text is the format's name) and parsers (accept
exactly their own name) satisfy the matrix hypothesis on the registry under test, hence the full statement -/
example : written_text_detected_statement genOrderCfg genRegistry genAutoCfg (fun g (_ : Unit) => g)
    (fun f t => if f = t then Outcome.ok 0 else .err "StructureFormatError" "no") (fun _ _ => True) (fun _ => True)
    (fun a b : Nat => a = b) :=
  written_text_detected_of_matrix _ _ _ _ _ _ _ _ gen_names_nodup (by decide +kernel) (by
    intro g _ s _ _
    refine ⟨0, ⟨by simp, ?_⟩⟩
    intro f _
    by_cases h : f = g
    · right; exact ⟨0, by simp [h], rfl⟩
    · left; exact gen_swallowed (m := "no") (by simp [h]) (.inl rfl))

/-- `auto_first`, `auto_foreign_escapes`, `auto_none_masks` applied to the example tables -/
example : auto genAutoCfg exParse (["cif"] ++ "discus" :: ["pdb"]) = .ok "discus" 7 :=
  auto_first genAutoCfg exParse ["cif"] ["pdb"] "discus" 7
    (by intro g hg; simp at hg; subst hg; exact gen_swallowed rfl (.inl rfl)) rfl
example : auto genAutoCfg exForeign (["cif"] ++ "discus" :: ["pdb"]) = .err "TypeError" "boom" :=
  auto_foreign_escapes genAutoCfg exForeign ["cif"] ["pdb"] "discus" "TypeError" "boom"
    (by intro g hg; simp at hg; subst hg; exact gen_swallowed rfl (.inl rfl)) rfl (by decide +kernel)
example : auto genAutoCfg exNone ([] ++ "cif" :: ["rawxyz"]) = .err genAutoCfg.raised (genAutoCfg.failMsg []) :=
  auto_none_masks genAutoCfg exNone [] ["rawxyz"] "cif" (by simp) rfl

end DS.Props.C12

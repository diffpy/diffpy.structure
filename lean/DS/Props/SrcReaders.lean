import DS.Model.Parsers
import DS.Gen.Handlers
import DS.Gen.SrcReaders
/-!
# Source tie for C13 (readers): the control-flow models ARE the transliterated `parseLines`

`DS/Gen/SrcReaders.lean` is regenerated on every run by `translate/src_readers.py` from the current
`parsers/p_xyz.py`, `parsers/p_rawxyz.py`, `parsers/p_discus.py` and `parsers/p_pdffit.py`: the body of `parseLines`, statement by statement, in the vocabulary
of `DS/Model/Parsers.lean` (every loop and every `try` body is its own definition; the handler tuples are the ones
written at that `try`).  The theorems below prove, for every abstract document, that the hand-written models the C13
theorems speak about (`Parsers.xyzRun`, `Parsers.rawxyzRun`, `Parsers.parseDiscus`, `Parsers.parsePdffit` under the
generated handler configurations `Gen.cfg_xyz`, `Gen.cfg_rawxyz`, `Gen.cfg_discus`, `Gen.cfg_pdffit`) return exactly what
the transliteration returns.
-/
namespace DS.Props.SrcReaders
open DS DS.Parsers DS.Src.Readers

/-! ## `Except` bookkeeping -/

theorem err_bind {α β} (k : Kind) (f : α → M β) : ((Except.error k : M α) >>= f) = Except.error k := rfl
theorem ok_bind {α β} (a : α) (f : α → M β) : ((Except.ok a : M α) >>= f) = f a := rfl
theorem pure_eq {α} (a : α) : (pure a : M α) = Except.ok a := rfl
theorem err_map {α β} (k : Kind) (f : α → β) : (f <$> (Except.error k : M α)) = Except.error k := rfl
theorem ok_map {α β} (a : α) (f : α → β) : (f <$> (Except.ok a : M α)) = Except.ok (f a) := rfl

theorem ite_bind {α β} {c : Prop} {_ : Decidable c} (a b : M α) (f : α → M β) :
    ((if c then a else b) >>= f) = if c then a >>= f else b >>= f := by
  split <;> rfl

theorem bind_ok_unit (x : M Unit) : (x >>= fun _ => (Except.ok () : M Unit)) = x := by cases x <;> rfl

theorem idx_cons_zero {α} (a : α) (l : List α) : idx (a :: l) 0 = Except.ok a := rfl

theorem idx_of_lt {α} {l : List α} {i : Nat} (h : i < l.length) : idx l i = Except.ok l[i] := by
  simp only [idx, List.getElem?_eq_getElem h]; rfl

theorem tryExcept_bind_ok {α β} (H : List Kind) (x : M α) (f : α → β) :
    tryExcept H (x >>= fun v => Except.ok (f v)) = (tryExcept H x >>= fun v => Except.ok (f v)) := by
  cases x with
  | error k => by_cases h : k ∈ H <;> simp [tryExcept, err_bind, h]
  | ok a => simp [tryExcept, ok_bind]

/-! ## The `while stop > start and len(linefields[stop - 1]) == 0: stop -= 1` loop -/

/-- with the fuel `v - lo` the recursion is the loop: one unfolding of `while v > lo and c(v): v -= 1` -/
theorem whileDec_unfold (lo : Nat) (c : Nat → M Bool) (v : Nat) :
    whileDec lo c (v - lo) v =
      if v > lo then (c v >>= fun b => if b = true then whileDec lo c (v - 1 - lo) (v - 1) else pure v) else pure v := by
  by_cases h : v > lo
  · obtain ⟨m, hm⟩ : ∃ m, v - lo = m + 1 := ⟨v - lo - 1, by omega⟩
    have hm' : v - 1 - lo = m := by omega
    rw [hm, hm']
    simp [whileDec, h]
  · have : v - lo = 0 := by omega
    rw [this]
    simp [whileDec, h]

theorem stripTrailing_snoc {α} (p : α → Bool) (xs : List α) (t : α) :
    stripTrailing p (xs ++ [t]) = if p t then stripTrailing p xs else xs ++ [t] := by
  unfold stripTrailing
  cases h : p t <;> simp [h]

theorem stripTrailing_nil {α} (p : α → Bool) : stripTrailing p ([] : List α) = [] := rfl

theorem stripTrailing_prefix {α} (p : α → Bool) (xs : List α) : stripTrailing p xs <+: xs := by
  unfold stripTrailing
  have := List.dropWhile_suffix (l := xs.reverse) p
  simpa using List.reverse_prefix.mpr this

theorem while_eq (ls : List WLine) (c : Nat → M Bool)
    (hc : ∀ k (hk : k < ls.length), c (k + 1) = Except.ok (ls[k]).isEmpty)
    (start : Nat) (n stop : Nat) (h1 : stop ≤ ls.length) (h2 : n = stop - start)
    (h3 : start ≤ stop) :
    whileDec start c n stop
      = Except.ok (start + (stripTrailing List.isEmpty ((ls.take stop).drop start)).length) := by
  induction n generalizing stop with
  | zero =>
    have : stop = start := by omega
    subst this
    simp [whileDec, stripTrailing_nil, pure_eq]
  | succ m ih =>
    have hs : stop > start := by omega
    obtain ⟨k, rfl⟩ : ∃ k, stop = k + 1 := ⟨stop - 1, by omega⟩
    have hk : k < ls.length := by omega
    have hd : (ls.take (k + 1)).drop start = (ls.take k).drop start ++ [ls[k]] := by
      rw [List.take_succ_eq_append_getElem hk, List.drop_append_of_le_length (by simp; omega)]
    simp only [whileDec, hs, if_true, Nat.add_sub_cancel, hc k hk, ok_bind]
    rw [hd, stripTrailing_snoc]
    cases hb : (ls[k]).isEmpty with
    | true => simp; exact ih k (by omega) (by omega) (by omega)
    | false => simp [pure_eq]; omega

/-- the first line that survives the cut of trailing blank lines is `ls[s]` -/
theorem getElem?_of_stripTrailing {ls : List WLine} {s : Nat} {f0 : WLine} {tl : List WLine}
    (h : stripTrailing List.isEmpty (ls.drop s) = f0 :: tl) : ls[s]? = some f0 := by
  obtain ⟨t, ht⟩ := h ▸ stripTrailing_prefix List.isEmpty (ls.drop s)
  have : (ls.drop s)[0]? = some f0 := by rw [← ht]; rfl
  simpa using this

theorem while_test (ls : List WLine) : ∀ k (hk : k < ls.length),
    (fun v_stop => (idx ls (v_stop - 1) >>= fun t => (pure (decide (List.length t = 0)) : M Bool))) (k + 1)
      = Except.ok (ls[k]).isEmpty := by
  intro k hk
  simp only [Nat.add_sub_cancel, idx_of_lt hk, ok_bind, pure_eq]
  cases ls[k] <;> rfl

/-- the whole loop from `stop = len(lines)`: how many lines remain once the trailing blank ones are cut -/
theorem while_full (ls : List WLine) (c : Nat → M Bool)
    (hc : ∀ k (hk : k < ls.length), c (k + 1) = Except.ok (ls[k]).isEmpty) (start : Nat) :
    whileDec start c (ls.length - start) ls.length
      = Except.ok (if start ≤ ls.length then start + (stripTrailing List.isEmpty (ls.drop start)).length else ls.length) := by
  by_cases h : start ≤ ls.length
  · rw [while_eq ls c hc start _ ls.length (Nat.le_refl _) rfl h]
    simp [h]
  · have hz : ls.length - start = 0 := by omega
    simp [hz, whileDec, pure_eq, h]

theorem while_src (ls : List WLine) (start : Nat) :
    whileDec start (fun v_stop => (idx ls (v_stop - 1) >>= fun t => (pure (decide (List.length t = 0)) : M Bool)))
        (ls.length - start) ls.length
      = Except.ok (if start ≤ ls.length then start + (stripTrailing List.isEmpty (ls.drop start)).length else ls.length) :=
  while_full ls _ (while_test ls) start

/-! ## The comment-skipping loop -/

theorem isSkip_nil : isSkip ([] : WLine) = true := rfl
theorem isSkip_cons (w : Tok) (ws : List Tok) : isSkip (w :: ws) = w.isHash := rfl

theorem xyz_for1_eq (it : List WLine) (s : Nat) :
    xyz_parseLines_for1 it s = Except.ok (s + (it.takeWhile isSkip).length) := by
  induction it generalizing s with
  | nil => rfl
  | cons f rest ih =>
    have ih' := ih (s + 1)
    have e : s + 1 + (rest.takeWhile isSkip).length = s + ((rest.takeWhile isSkip).length + 1) := by omega
    simp only [xyz_parseLines_for1, List.forIn_cons, List.takeWhile_cons] at ih' ⊢
    cases f with
    | nil =>
      simp only [List.length_nil, ↓reduceIte, pure_eq, ok_bind, isSkip_nil, List.length_cons] at ih' ⊢
      exact ih'.trans (congrArg _ e)
    | cons w ws =>
      simp only [List.length_cons, Nat.add_one_ne_zero, ↓reduceIte, idx_cons_zero, pure_eq, ok_bind,
        isSkip_cons] at ih' ⊢
      by_cases hw : w.isHash = true
      · simp only [hw, decide_true, ↓reduceIte, ok_bind, List.length_cons]
        exact ih'.trans (congrArg _ e)
      · simp only [hw, decide_false, Bool.false_eq_true, ↓reduceIte, ok_bind]
        rfl

/-- `P_rawxyz` skips comments with the same statements as `P_xyz` -/
theorem rawxyz_for1_eq (it : List WLine) (s : Nat) :
    rawxyz_parseLines_for1 it s = Except.ok (s + (it.takeWhile isSkip).length) :=
  xyz_for1_eq it s

/-! ## `P_xyz.parseLines` -/

/-- first `try` body: the primitives of `xyzHead` in the same order, then `start += 2` -/
theorem xyz_try1_eq (ls : List WLine) (p0 : Int) (s : Nat) :
    xyz_parseLines_try1 ls ls p0 s = (xyzHead Gen.cfg_xyz ls s >>= fun v => Except.ok (v, s + 2)) := by
  simp only [xyz_parseLines_try1, xyzHead, xyzTitle, Gen.cfg_xyz, ↓reduceIte, pure_eq, ok_bind]
  cases h1 : idx ls s with
  | error k => rfl
  | ok lfs =>
    simp only [ok_bind]
    cases h2 : idx lfs 0 with
    | error k => rfl
    | ok w1 =>
      simp only [ok_bind]
      by_cases hl : lfs.length = 1
      · simp only [hl, ↓reduceIte, bind_assoc]
        cases pyInt w1 with
        | error k => rfl
        | ok v =>
          simp only [ok_bind, decide_eq_true_eq]
          cases w1.canon
          · rfl
          · -- the guarded read of the title line never raises
            simp only [↓reduceIte, ok_bind]
            split
            · rw [idx_of_lt ‹_›]; rfl
            · rfl
      · simp only [hl, ↓reduceIte]
        rfl

/-- record loop (second `try`) -/
theorem xyz_for2_eq (it : List WLine) (nf p n : Nat) :
    xyz_parseLines_for2 it nf p n = (xyzRecords nf it n >>= fun n' => Except.ok (p + it.length, n')) := by
  induction it generalizing n p with
  | nil => rfl
  | cons f rest ih =>
    have ih1 := ih (p + 1) n
    have ih2 := ih (p + 1) (n + 1)
    have e : p + 1 + rest.length = p + (rest.length + 1) := by omega
    rw [e] at ih1 ih2
    simp only [xyz_parseLines_for2, List.forIn_cons] at ih1 ih2 ⊢
    unfold xyzRecords
    cases f with
    | nil =>
      simp only [List.isEmpty_nil, ↓reduceIte, pure_eq, ok_bind, List.length_cons] at ih1 ⊢
      exact ih1
    | cons w ws =>
      simp only [List.isEmpty_cons, Bool.false_eq_true, ↓reduceIte, idx_cons_zero, pure_eq, ok_bind, bind_assoc,
        ite_bind, raise, err_bind, List.drop_take, Nat.reduceSub, List.drop_succ_cons, List.drop_zero,
        List.length_cons] at ih2 ⊢
      rw [ih2]

theorem xyz_try2_eq (ls : List WLine) (s nf n : Nat) :
    xyz_parseLines_try2 ls s nf n = xyzRecords nf (ls.drop s) n := by
  simp only [xyz_parseLines_try2, xyz_for2_eq, pure_eq]
  cases xyzRecords nf (ls.drop s) n <;> simp [err_bind, ok_bind]

/-- **the tie for XYZ**: the model of the C13 theorems is the transliteration of the current `P_xyz.parseLines` -/
theorem xyzRun_eq (d : XyzDoc) : xyzRun Gen.cfg_xyz d = xyz_parseLines d := by
  unfold xyzRun xyz_parseLines
  simp only [while_src]
  simp only [xyz_for1_eq, xyz_try1_eq, xyz_try2_eq, Nat.zero_add, pure_eq, ok_bind, tryExcept_bind_ok]
  generalize (List.takeWhile isSkip d.lines).length = s0
  -- the handler tuples of the generated configuration are the ones written at the two `try` statements
  have hH1 : Gen.cfg_xyz.H1 = xyz_parseLines_try1_handler := rfl
  have hH2 : Gen.cfg_xyz.H2 = xyz_parseLines_try2_handler := rfl
  rw [hH1, hH2]
  cases tryExcept xyz_parseLines_try1_handler (xyzHead Gen.cfg_xyz d.lines s0) with
  | error k => rfl
  | ok natoms =>
    simp only [ok_bind]
    by_cases hle : s0 + 2 ≤ d.lines.length
    · simp only [hle, if_true]
      cases hb : stripTrailing List.isEmpty (d.lines.drop (s0 + 2)) with
      | nil => simp only [List.isEmpty_nil, or_true, ↓reduceIte, List.length_nil, Nat.add_zero, ge_iff_le, Nat.le_refl]
      | cons f0 tl =>
        have hlt : ¬ (s0 + 2 + (tl.length + 1) ≤ s0 + 2) := by omega
        simp only [List.isEmpty_cons, Bool.false_eq_true, or_false, ne_eq, ite_not, List.length_cons, ge_iff_le, hlt,
          idx, getElem?_of_stripTrailing hb, pure_eq, true_and, ok_bind]
        by_cases hn : natoms = 0
        · simp only [hn, ↓reduceIte]
        · by_cases h4 : f0.length = 4
          · simp only [hn, h4, ↓reduceIte]
            cases tryExcept xyz_parseLines_try2_handler (xyzRecords 4 (List.drop (s0 + 2) d.lines) 0) with
            | error k => rfl
            | ok n => by_cases hnn : (n : Int) = natoms <;> simp only [raise, ok_bind, hnn, ↓reduceIte, err_bind]
          · simp only [hn, h4, ↓reduceIte, raise, err_bind]
    · have hd : List.drop (s0 + 2) d.lines = [] := List.drop_eq_nil_of_le (by omega)
      have hge : s0 + 2 ≥ d.lines.length := by omega
      simp only [hd, stripTrailing_nil, List.isEmpty_nil, or_true, ↓reduceIte, hle, ge_iff_le, hge]

theorem parseXyz_eq (d : XyzDoc) : parseXyz Gen.cfg_xyz d = toOutcome (xyz_parseLines d) := by
  unfold parseXyz; rw [xyzRun_eq]

/-! ## `P_rawxyz.parseLines` -/

/-- number of atoms the record loop adds -/
def cnt (it : List WLine) : Nat := (it.filter (fun f => !f.isEmpty)).length

/-- record loop: the optional element column is read at index 0 of a non-empty line (never raises), the three
coordinates from `x_idx` on -/
theorem rawxyz_for2_eq (it : List WLine) (nf : Nat) (el : Option Nat) (x p n : Nat) (hel : el = none ∨ el = some 0) :
    rawxyz_parseLines_for2 it nf el x p n
      = (rawRecords nf x it >>= fun _ => Except.ok (p + it.length, n + cnt it)) := by
  induction it generalizing n p with
  | nil => rfl
  | cons f rest ih =>
    have ih1 := ih (p + 1) n
    have ih2 := ih (p + 1) (n + 1)
    have e : p + 1 + rest.length = p + (rest.length + 1) := by omega
    rw [e] at ih1 ih2
    simp only [rawxyz_parseLines_for2, List.forIn_cons] at ih1 ih2 ⊢
    unfold rawRecords
    cases f with
    | nil =>
      simp only [List.isEmpty_nil, ↓reduceIte, pure_eq, ok_bind, List.length_cons] at ih1 ⊢
      exact ih1
    | cons w ws =>
      have hc : n + cnt ((w :: ws) :: rest) = n + 1 + cnt rest := by
        simp only [cnt, List.filter_cons, List.isEmpty_cons, Bool.not_false, ↓reduceIte, List.length_cons]; omega
      rw [hc]
      rcases hel with rfl | rfl <;>
        simp only [List.isEmpty_cons, Bool.false_eq_true, ↓reduceIte, idx_cons_zero, pure_eq, ok_bind, bind_assoc,
          ite_bind, raise, err_bind, List.drop_take, Nat.add_sub_cancel_left, List.length_cons] at ih2 ⊢ <;>
        rw [ih2]

theorem rawxyz_try1_eq (ls : List WLine) (s nf : Nat) (el : Option Nat) (x n : Nat) (hel : el = none ∨ el = some 0) :
    rawxyz_parseLines_try1 ls s nf el x n = (rawRecords nf x (ls.drop s) >>= fun _ => Except.ok (n + cnt (ls.drop s))) := by
  simp only [rawxyz_parseLines_try1, rawxyz_for2_eq _ _ _ _ _ _ hel, pure_eq]
  cases rawRecords nf x (ls.drop s) <;> simp [err_bind, ok_bind]

/-- **the tie for RAWXYZ** -/
theorem rawxyzRun_eq (d : XyzDoc) : rawxyzRun Gen.cfg_rawxyz d = rawxyz_parseLines d := by
  unfold rawxyzRun rawxyz_parseLines
  simp only [while_src]
  simp only [rawxyz_for1_eq, Nat.zero_add, pure_eq, ok_bind]
  generalize (List.takeWhile isSkip d.lines).length = s0
  have hH : Gen.cfg_rawxyz.H = rawxyz_parseLines_try1_handler := rfl
  rw [hH]
  by_cases hle : s0 ≤ d.lines.length
  · simp only [hle, if_true]
    cases hb : stripTrailing List.isEmpty (d.lines.drop s0) with
    | nil => simp only [List.length_nil, Nat.add_zero, ge_iff_le, Nat.le_refl, ↓reduceIte]
    | cons f0 tl =>
      have hlt : ¬ (s0 + (tl.length + 1) ≤ s0) := by omega
      simp only [idx, getElem?_of_stripTrailing hb, ok_bind, pure_eq, List.length_cons, ge_iff_le, hlt, if_false]
      -- both sides are now the same chain of tests on the first record line
      simp only [rawxyz_try1_eq _ _ _ none _ _ (Or.inl rfl), rawxyz_try1_eq _ _ _ (some 0) _ _ (Or.inr rfl),
        tryExcept_bind_ok, bind_assoc, ok_bind, bind_ok_unit, raise, err_bind, not_or, ne_eq]
  · have hd : List.drop s0 d.lines = [] := List.drop_eq_nil_of_le (by omega)
    have hge : s0 ≥ d.lines.length := by omega
    simp only [hd, stripTrailing_nil, hle, ↓reduceIte, ge_iff_le, hge]

theorem parseRawxyz_eq (d : XyzDoc) : parseRawxyz Gen.cfg_rawxyz d = toOutcome (rawxyz_parseLines d) := by
  unfold parseRawxyz; rw [rawxyzRun_eq]

/-! ## The transliterations run (non-vacuity: accepted, rejected, and converted outcomes are all reached) -/

example : toOutcome (xyz_parseLines { lines := [[{ int := some 1, flt := true, canon := true }], [],
    [{}, { flt := true }, { flt := true }, { flt := true }]] }) = .ok := by decide
example : toOutcome (xyz_parseLines { lines := [[{}]] }) = .err .SFE := by decide
example : toOutcome (xyz_parseLines { lines := [[{ int := some 1, flt := true, canon := true }], [],
    [{}, { flt := true }, {}, { flt := true }]] }) = .err .SFE := by decide
example : toOutcome (rawxyz_parseLines { lines := [[{ flt := true }, { flt := true }, { flt := true }], []] }) = .ok := by decide
example : toOutcome (rawxyz_parseLines { lines := [[{}, { flt := true }, { flt := true }, { flt := true }],
    [{}, { flt := true }, {}, { flt := true }]] }) = .err .SFE := by decide

/-! ## `P_discus.parseLines`

`discus_parseLines` is the transliteration of the parser object: `discus__parse_*` are the record helper methods, the two
`for self.line in ilines` loops over the shared iterator are the recursions `discus_parseLines_for1/2`, the dispatch
dictionary `record_parsers` is the `match` on the keyword of the first word (default `_parse_unknown_record`). -/


/-- the outer handler tuple of the generated configuration is the tuple written at the `try` of `P_discus.parseLines` -/
theorem discus_handler_eq : Gen.cfg_discus.H = discus_parseLines_try1_handler := rfl
/-- the inner handler tuple (`_parse_cell`, around `setLatPar`) likewise -/
theorem discus_cell_handler_eq : Gen.cfg_discus.Hcell = discus__parse_cell_try1_handler := rfl

/-! ### record helpers of `P_discus` = the arms of `discusHeader` -/

theorem discus_parse_cell_eq (l : Line) (ws : List Tok) (st : DState) (n : Nat) :
    discus__parse_cell l ws st n
      = (floats ((l.cwords.drop 1).take 6) >>= fun _ => tryExcept Gen.cfg_discus.Hcell l.lat.run >>= fun _ =>
          Except.ok ({ st with cellRead := true }, n)) := by
  simp [discus__parse_cell, discus_cell_handler_eq, pure_eq, List.drop_take]

theorem discus_parse_format_eq (l : Line) (ws : List Tok) (st : DState) (n : Nat) :
    discus__parse_format l ws st n
      = (idx ws 1 >>= fun w1 => if w1.kw = .pdffit then raise .SFE else Except.ok (st, n)) := by
  simp only [discus__parse_format, pure_eq]
  cases idx ws 1 with
  | error k => simp [err_bind]
  | ok w1 => by_cases h : w1.kw = .pdffit <;> simp [ok_bind, h, raise, err_bind]

theorem discus_parse_ni_eq (l : Line) (w0 : Tok) (ws : List Tok) (st : DState) (n : Nat) :
    discus__parse_not_implemented l (w0 :: ws) st n = raise .NotImpl := by
  simp [discus__parse_not_implemented, idx, pure_eq, ok_bind]

theorem discus_parse_ncell_eq (l : Line) (ws : List Tok) (st : DState) (n : Nat) :
    discus__parse_ncell l ws st n
      = (ints ((l.cwords.drop 1).take 4) >>= fun v => Except.ok ({ st with ncell := v, ncellRead := true }, n)) := by
  simp [discus__parse_ncell, pure_eq, List.drop_take]

theorem discus_parse_spcgr_eq (l : Line) (ws : List Tok) (st : DState) (n : Nat) :
    discus__parse_spcgr l ws st n = Except.ok (st, n) := rfl
theorem discus_parse_title_eq (l : Line) (ws : List Tok) (st : DState) (n : Nat) :
    discus__parse_title l ws st n = Except.ok (st, n) := rfl
theorem discus_parse_unknown_eq (l : Line) (ws : List Tok) (st : DState) (n : Nat) :
    discus__parse_unknown_record l ws st n = Except.ok (st, n) := rfl

theorem discus_parse_shape_eq (l : Line) (st : DState) (n : Nat) :
    discus__parse_shape l l.words st n = (discusShape l >>= fun _ => Except.ok (st, n)) := by
  simp only [discus__parse_shape, discusShape, floatAt, pure_eq]
  cases h1 : idx l.cwords 1 with
  | error k => simp [err_bind]
  | ok t =>
    simp only [ok_bind]
    by_cases hs : t.kw = .sphere
    · simp [hs]
    · by_cases hc : t.kw = .stepcut
      · simp [hc]
      · simp [hs, hc, raise, err_bind]

theorem discus_parse_atom_eq (l : Line) (w0 : Tok) (ws : List Tok) (st : DState) (n : Nat) :
    discus__parse_atom l (w0 :: ws) st n
      = (floats (((w0 :: ws).drop 1).take 3) >>= fun _ => floatAt (w0 :: ws) 4 >>= fun _ => Except.ok (st, n + 1)) := by
  simp [discus__parse_atom, floatAt, idx, pure_eq, ok_bind, List.drop_take]

/-- header loop (`for self.line in ilines: … break … else: raise`): the recursion over the shared iterator with the
dispatch through `record_parsers` is `discusHeader`; the atom counter is untouched -/
theorem discusHeader_eq (ls : List Line) (st : DState) (n : Nat) :
    discus_parseLines_for1 ls st n = (discusHeader Gen.cfg_discus ls st >>= fun p => Except.ok (p.1, n, p.2)) := by
  induction ls generalizing st with
  | nil => rfl
  | cons l rest ih =>
    unfold discus_parseLines_for1 discusHeader
    cases hw : l.words with
    | nil => exact ih st
    | cons w0 ws =>
      simp only [idx_cons_zero, List.isEmpty_cons, Bool.false_eq_true, ↓reduceIte, pure_eq, ok_bind]
      cases hh : w0.hash
      · simp only [decide_false, Bool.false_eq_true, ↓reduceIte]
        have hsh := discus_parse_shape_eq l st n
        rw [hw] at hsh
        -- the dispatch through `record_parsers` against the `match`: one keyword at a time
        cases hk : w0.kw <;>
          simp only [reduceCtorEq, ↓reduceIte, discus_parse_cell_eq, discus_parse_format_eq, discus_parse_ni_eq,
            discus_parse_ncell_eq, discus_parse_spcgr_eq, discus_parse_title_eq, discus_parse_unknown_eq, hsh,
            bind_assoc, ok_bind, ite_bind, raise, err_bind, ih]
      · simp only [decide_true, ↓reduceIte]
        exact ih st

/-- atom loop over the rest of the iterator = `discusAtoms`; the parser state is untouched -/
theorem discusAtoms_eq (ls : List Line) (st : DState) (n : Nat) :
    discus_parseLines_for2 ls st n = (discusAtoms ls n >>= fun n' => Except.ok (st, n')) := by
  induction ls generalizing n with
  | nil => simp [discus_parseLines_for2, discusAtoms, pure_eq, ok_bind]
  | cons l rest ih =>
    unfold discus_parseLines_for2 discusAtoms
    cases hw : l.cwords with
    | nil => simp [ih, pure_eq, ok_bind]
    | cons w0 ws =>
      cases hh : w0.hash
      · simp [idx, hh, pure_eq, ok_bind, discus_parse_atom_eq, ih]
      · simp [idx, hh, ih, pure_eq, ok_bind]

theorem discusBody_eq (d : DiscusDoc) : discusBody Gen.cfg_discus d = discus_parseLines_try1 d := by
  unfold discusBody discus_parseLines_try1 superCell
  simp only [discusHeader_eq, discusAtoms_eq, bind_assoc, ok_bind, bind_pure_unit, Bool.not_eq_true',
    Bool.not_eq_true]
  rfl

/-- the same in the monad `M` (before `toOutcome`): the `try` around `discusBody`, which `parseDiscus` unfolds to -/
theorem discusRun_eq (d : DiscusDoc) : tryExcept Gen.cfg_discus.H (discusBody Gen.cfg_discus d) = discus_parseLines d := by
  rw [discusBody_eq, discus_handler_eq]
  unfold discus_parseLines
  cases tryExcept discus_parseLines_try1_handler (discus_parseLines_try1 d) <;> simp [err_bind, ok_bind, pure_eq]

/-- **the tie for DISCUS** -/
theorem parseDiscus_eq (d : DiscusDoc) : parseDiscus Gen.cfg_discus d = toOutcome (discus_parseLines d) := by
  unfold parseDiscus; rw [discusRun_eq]

/-! non-vacuity for DISCUS: accepted, rejected, converted, and not-implemented outcomes are reached -/

example : toOutcome (discus_parseLines { lines := [
    { words := [{ kw := .cell }, { flt := true }, { flt := true }, { flt := true }, { flt := true }, { flt := true }, { flt := true }],
      cwords := [{ kw := .cell }, { flt := true }, { flt := true }, { flt := true }, { flt := true }, { flt := true }, { flt := true }] },
    { words := [{ kw := .atoms }], cwords := [{ kw := .atoms }] },
    { words := [{}, { flt := true }, { flt := true }, { flt := true }, { flt := true }],
      cwords := [{}, { flt := true }, { flt := true }, { flt := true }, { flt := true }] }] }) = .ok := by decide
example : toOutcome (discus_parseLines { lines := [
    { words := [{ kw := .cell }, { flt := true }], cwords := [{ kw := .cell }, { flt := true }] }] }) = .err .SFE := by decide
example : toOutcome (discus_parseLines { lines := [
    { words := [{ kw := .cell }, { flt := true }], cwords := [{ kw := .cell }, { flt := true }], lat := .zeroDiv },
    { words := [{ kw := .atoms }], cwords := [{ kw := .atoms }] }] }) = .err .SFE := by decide
example : toOutcome (discus_parseLines { lines := [
    { words := [{ kw := .cell }], cwords := [{ kw := .cell }] },
    { words := [{ kw := .atoms }], cwords := [{ kw := .atoms }] },
    { words := [{}, { flt := true }], cwords := [{}, { flt := true }] }] }) = .err .SFE := by decide
example : toOutcome (discus_parseLines { lines := [
    { words := [{ kw := .molecule }], cwords := [{ kw := .molecule }] }] }) = .err .NotImpl := by decide

/-! ## `P_pdffit.parseLines` -/


/-- the handler tuple of the generated configuration is the tuple written at the `try` of `P_pdffit.parseLines` -/
theorem pdffit_handler_eq : Gen.cfg_pdffit.H = pdffit_parseLines_try1_handler := rfl

/-- `P_pdffit._parse_shape(line)` = `pdffitShape` -/
theorem pdffit_parse_shape_eq (l : Line) (st : PState) (n : Nat) :
    pdffit__parse_shape l st n = (pdffitShape l >>= fun _ => Except.ok (st, n)) := by
  simp only [pdffit__parse_shape, pdffitShape, floatAt, pure_eq]
  cases h1 : idx l.cwords 1 with
  | error k => simp [err_bind]
  | ok t =>
    simp only [ok_bind]
    by_cases hs : t.kw = .sphere
    · simp [hs]
    · by_cases hc : t.kw = .stepcut
      · simp [hc]
      · simp [hs, hc, raise, err_bind]

/-- header loop (`if/elif` chain on `words[0]`, `break` on `atoms` once a cell was read, `else: raise`) = `pdffitHeader` -/
theorem pdffitHeader_eq (ls : List Line) (st : PState) (n : Nat) :
    pdffit_parseLines_for1 ls st n = (pdffitHeader ls st >>= fun p => Except.ok (p.1, n, p.2)) := by
  induction ls generalizing st with
  | nil => rfl
  | cons l rest ih =>
    unfold pdffit_parseLines_for1 pdffitHeader
    cases hw : l.words with
    | nil => exact ih st
    | cons w0 ws =>
      simp only [idx_cons_zero, List.length_cons, Nat.add_one_ne_zero, ↓reduceIte, pure_eq, ok_bind]
      cases hh : w0.hash
      · simp only [decide_false, Bool.false_eq_true, ↓reduceIte]
        -- the `elif` chain on `words[0]` against the `match`: one keyword at a time
        cases hk : w0.kw <;>
          simp only [reduceCtorEq, ↓reduceIte, ih, false_and, true_and, floatAt, bind_assoc, ok_bind, ite_bind,
            raise, err_bind, pdffit_parse_shape_eq, List.drop_take, Nat.reduceSub]
        case sharp =>
          -- `sharp_pars[0..2]`, and `[3]` when there are at least four: an `IndexError` below three either way
          refine bind_congr fun _ => ?_
          generalize (List.drop 1 l.cwords).length = L
          rcases L with _ | _ | _ | _ | L <;> simp [olIdx, raise, err_bind, ok_bind, pure_eq]
          omega
      · simp only [decide_true, ↓reduceIte]
        exact ih st

/-- atom loop (six lines per atom, five of them fetched with `next(ilines)`) = `pdffitAtoms`, for every fuel -/
theorem pdffitAtoms_eq (fuel : Nat) (ls : List Line) (st : PState) (n : Nat) :
    pdffit_parseLines_for2 fuel ls st n = (pdffitAtoms fuel ls n >>= fun n' => Except.ok (st, n')) := by
  induction fuel generalizing ls n with
  | zero => rfl
  | succ f ih =>
    cases ls with
    | nil => rfl
    | cons l1 rest =>
      unfold pdffit_parseLines_for2 pdffitAtoms
      simp only [floatAt, ih, bind_assoc, List.drop_take, List.drop_zero]
      -- `wl1[0]` is read twice
      cases h0 : idx l1.words 0 with
      | error k => rfl
      | ok t => simp only [ok_bind]

theorem pdffitBody_eq (d : PdffitDoc) : pdffitBody Gen.cfg_pdffit d = pdffit_parseLines_try1 d := by
  unfold pdffitBody pdffit_parseLines_try1 superCell
  simp only [pdffitHeader_eq, pdffitAtoms_eq, bind_assoc, ok_bind, bind_pure_unit, Bool.not_eq_true',
    Bool.not_eq_true]
  rfl

/-- the same in the monad `M` (before `toOutcome`): the `try` around `pdffitBody`, which `parsePdffit` unfolds to -/
theorem pdffitRun_eq (d : PdffitDoc) : tryExcept Gen.cfg_pdffit.H (pdffitBody Gen.cfg_pdffit d) = pdffit_parseLines d := by
  rw [pdffitBody_eq, pdffit_handler_eq]
  unfold pdffit_parseLines
  cases tryExcept pdffit_parseLines_try1_handler (pdffit_parseLines_try1 d) <;> simp [err_bind, ok_bind, pure_eq]

/-- **the tie for PDFfit** -/
theorem parsePdffit_eq (d : PdffitDoc) : parsePdffit Gen.cfg_pdffit d = toOutcome (pdffit_parseLines d) := by
  unfold parsePdffit; rw [pdffitRun_eq]

/-! the fuel of the atom loop (`len(remaining lines) + 1`, the translator's rendering of a `for` whose body calls `next`)
is never exhausted -/

/-- two continuations that agree on every shorter remainder agree after `next(ilines)` -/
theorem nextLine_bind_congr {α β} (ls : List α) {f g : α × List α → M β}
    (h : ∀ l r, r.length < ls.length → f (l, r) = g (l, r)) : (nextLine ls >>= f) = (nextLine ls >>= g) := by
  cases ls with
  | nil => rfl
  | cons l r => exact h l r (Nat.lt_succ_self _)

/-- the fuel is never exhausted: with more fuel than remaining lines one more unit changes nothing -/
theorem pdffitAtoms_fuel (fuel : Nat) (ls : List Line) (n : Nat) (h : ls.length < fuel) :
    pdffitAtoms fuel ls n = pdffitAtoms (fuel + 1) ls n := by
  induction fuel generalizing ls n with
  | zero => omega
  | succ f ih =>
    cases ls with
    | nil => rfl
    | cons l1 rest =>
      -- both sides run the same statements up to the recursive call, which gets fewer lines than `rest`
      unfold pdffitAtoms
      simp only [List.length_cons] at h
      repeat (first
        | refine nextLine_bind_congr _ fun _ _ _ => ?_
        | refine bind_congr fun _ => ?_)
      exact ih _ _ (by omega)

/-- any fuel above the number of remaining lines gives the run with the fuel the parser model uses -/
theorem pdffitAtoms_fuel_ge (ls : List Line) (n k : Nat) :
    pdffitAtoms (ls.length + 1 + k) ls n = pdffitAtoms (ls.length + 1) ls n := by
  induction k with
  | zero => rfl
  | succ k ih => rw [← ih, ← Nat.add_assoc, ← pdffitAtoms_fuel _ ls n (by omega)]

/-- the same for the transliterated loop -/
theorem pdffit_for2_fuel (ls : List Line) (st : PState) (n k : Nat) :
    pdffit_parseLines_for2 (ls.length + 1 + k) ls st n = pdffit_parseLines_for2 (ls.length + 1) ls st n := by
  rw [pdffitAtoms_eq, pdffitAtoms_eq, pdffitAtoms_fuel_ge]

/-! non-vacuity for PDFfit -/

example : toOutcome (pdffit_parseLines { lines := [
    { words := [{ kw := .cell }], cwords := [{ kw := .cell }] },
    { words := [{ kw := .ncell }, { int := some 1 }, { int := some 1 }, { int := some 1 }, { int := some 0 }],
      cwords := [{ kw := .ncell }, { int := some 1 }, { int := some 1 }, { int := some 1 }, { int := some 0 }] },
    { words := [{ kw := .atoms }], cwords := [{ kw := .atoms }] }] }) = .ok := by decide
example : toOutcome (pdffit_parseLines { lines := [
    { words := [{ kw := .cell }], cwords := [{ kw := .cell }] }] }) = .err .SFE := by decide
example : toOutcome (pdffit_parseLines { lines := [
    { words := [{ kw := .cell }], cwords := [{ kw := .cell }] },
    { words := [{ kw := .atoms }], cwords := [{ kw := .atoms }] },
    { words := [{}, { flt := true }, { flt := true }, { flt := true }, { flt := true }],
      cwords := [{}, { flt := true }, { flt := true }, { flt := true }, { flt := true }] }] }) = .err .SFE := by decide
example : toOutcome (pdffit_parseLines { lines := [
    { words := [{ kw := .sharp }, { flt := true }], cwords := [{ kw := .sharp }, { flt := true }] }] }) = .err .SFE := by decide

end DS.Props.SrcReaders

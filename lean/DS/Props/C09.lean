import DS.Lemmas.Adp
/-!
# C09 — an atom's displacement parameters stay coherent under any assignment history

Model: `DS.Model.Adp` (the storage / flag / lattice state machine of `atom.py`, every setter and
getter as written, including the `U` getter that rewrites the storage).  All theorems are over
the reals and hold after **every** history `ops` of admissible steps (`OpOK`: assigned tensors are
symmetric, assigned lattices satisfy `LatOK`), starting from a fresh `Atom()`; they are proved
through the invariant `AdpInv` (`runOps_inv`, induction over the op list).
-/
namespace DS.Props.C09
open DS DS.AtomS Real

/-- the state after an admissible history on a fresh `Atom()` satisfies the invariant -/
theorem reach_inv (ops : List (AdpOp ℝ)) (hops : ∀ op ∈ ops, OpOK op) : AdpInv (runOps AtomS.default ops) :=
  runOps_inv ops default_inv hops

/-! ## statements about an arbitrary state satisfying the invariant -/
section state
variable {s : AtomS ℝ}

/-- element getters read the tensor -/
theorem inv_getUij (i j : Ix) : s.getUij i j = (s.getU).1.get i j := by
  unfold getUij getU
  cases s.aniso with
  | true => rfl
  | false => cases i <;> cases j <;> rfl

theorem inv_iso_tensor (hs : s.aniso = false) :
    (s.getU).1 = Mat3.smul s.uisoequiv s.latOf.isotropicunit := by
  unfold getU uisoequiv; simp [hs]

theorem inv_B_eq (i j : Ix) :
    s.getBij i j = 8 * π ^ 2 * s.getUij i j ∧ s.bisoequiv = 8 * π ^ 2 * s.uisoequiv := by
  unfold getBij bisoequiv; rw [UtoB_eq]; exact ⟨rfl, rfl⟩

/-- switching the flag (either direction, or not at all) keeps the equivalent isotropic value -/
theorem inv_toggle (h : AdpInv s) (b : Bool) : (s.setAniso b).uisoequiv = s.uisoequiv := by
  by_cases hb : (b == s.aniso) = true
  · unfold setAniso; simp only [hb, if_true]
  · have hinv := setAniso_inv b h
    cases b with
    | true =>
      have hs : s.aniso = false := by cases hh : s.aniso <;> simp_all
      have e : s.setAniso true = { (s.getU).2 with aniso := true } := by
        unfold setAniso; simp [hs]
      have hU : (s.setAniso true).U = Mat3.smul s.U.a11 (s.setAniso true).latOf.isotropicunit := by
        rw [e]; unfold getU latOf; simp [hs]
      rw [uisoequiv_of_iso_storage hinv (by rw [e]) s.U.a11 hU]
      unfold uisoequiv; simp [hs]
    | false =>
      have hs : s.aniso = true := by cases hh : s.aniso <;> simp_all
      unfold setAniso
      simp only [hs, Bool.false_eq_true, if_false, beq_iff_eq]
      show (if (!false) = true then (s.U.set .i0 .i0 s.uisoequiv).a11 else _) = _
      simp [Mat3.set]

/-- off and on again (the tensor is replaced by the isotropic one of the same value) -/
theorem inv_toggle_twice (h : AdpInv s) (b : Bool) :
    ((s.setAniso b).setAniso (!b)).uisoequiv = s.uisoequiv := by
  rw [inv_toggle (setAniso_inv b h), inv_toggle h]

/-- assigning `Uisoequiv` and reading it back, all three branches of the setter -/
theorem inv_setUiso (h : AdpInv s) (v : ℝ) : (s.setUiso v).uisoequiv = v := by
  have hinv := setUiso_inv v h
  cases hs : s.aniso with
  | false =>
    unfold setUiso uisoequiv; simp [hs, Mat3.set]
  | true =>
    by_cases hc : absα s.uisoequiv < AdpConst.eps
    · have e : s.setUiso v = { s with U := Mat3.smul v s.latOf.isotropicunit } := by
        unfold setUiso; simp [hs, hc]
      refine uisoequiv_of_iso_storage hinv ?_ v ?_
      · rw [e]; exact hs
      · rw [e]; rfl
    · have e : s.setUiso v = { s with U := s.U.scaleR (v / s.uisoequiv) } := by
        unfold setUiso; simp [hs, hc]
      rw [e, uisoequiv_scaleR hs]
      have hne : s.uisoequiv ≠ 0 := by
        intro h0
        apply hc
        rw [h0, absα_zero]
        exact eps_pos
      field_simp

theorem inv_setBiso (h : AdpInv s) (v : ℝ) : (s.setBiso v).bisoequiv = v := by
  unfold setBiso bisoequiv
  rw [inv_setUiso h, ← mul_assoc, UtoB_mul_BtoU, one_mul]

/-- mean-square displacement along a direction: lattice and Cartesian coordinates agree -/
theorem inv_msd_agree (h : AdpInv s) (v : Vec3 ℝ) : s.msdLat v = s.msdCart (s.latOf.cart v) := by
  have hl := latOf_ok h
  unfold msdLat msdCart
  cases hs : s.aniso with
  | false => rfl
  | true =>
    have hg : (s.getU).1 = s.U := by unfold getU; simp [hs]
    simp only [Bool.not_true, Bool.false_eq_true, if_false, hg]
    -- with `G = B·Bᵀ` and `N = B` with scaled rows, the vector `rhs` of `msdLat` is `N` applied to the
    -- normalised Cartesian direction, so both sides are the quadratic form of `Nᵀ·U·N` there
    rw [← hl.metrics_gram, ucart, hl.normbase_def, ← Mat3.rowScale_mul, Mat3.mulVec_mul, Mat3.transpose_mulVec,
      Mat3.dot_mulVec, Mat3.mulVec_mul, Mat3.mulVec_mul, ← divS_vecMul]
    rfl

theorem inv_msd_iso (hs : s.aniso = false) (v : Vec3 ℝ) :
    s.msdLat v = s.uisoequiv ∧ s.msdCart v = s.uisoequiv := by
  unfold msdLat msdCart; simp [hs]

/-- the `U` getter rewrites the storage but no readable quantity changes -/
theorem inv_readU_transparent (h : AdpInv s) :
    ((s.getU).2.getU).1 = (s.getU).1 ∧ (s.getU).2.uisoequiv = s.uisoequiv
      ∧ ∀ i j, (s.getU).2.getUij i j = s.getUij i j := by
  have hd := (latOf_ok h).iso_diag
  have key : ∀ t : AtomS ℝ, t.aniso = false → t.latOf = s.latOf → t.U.a11 = s.U.a11 → s.aniso = false →
      (t.getU).1 = (s.getU).1 ∧ t.uisoequiv = s.uisoequiv ∧ ∀ i j, t.getUij i j = s.getUij i j := by
    intro t ht hl hu hs
    refine ⟨?_, ?_, ?_⟩
    · unfold getU; simp [ht, hs, hl, hu]
    · unfold uisoequiv; simp [ht, hs, hu]
    · intro i j; unfold getUij; simp [ht, hs, hl, hu]
  cases hs : s.aniso with
  | true =>
    have : (s.getU).2 = s := by unfold getU; simp [hs]
    rw [this]; exact ⟨rfl, rfl, fun _ _ => rfl⟩
  | false =>
    apply key _ _ _ _ hs
    · rw [getU_snd_aniso]; exact hs
    · unfold latOf; rw [getU_snd_lat]
    · unfold getU; simp [hs, Mat3.smul, hd.1]

/-- assigning a diagonal element and reading it back (either flag state) -/
theorem inv_setUii (h : AdpInv s) (i : Ix) (v : ℝ) : (s.setUij i i v).getUij i i = v := by
  have hd := (latOf_ok h).iso_diag
  have hl : (s.setUij i i v).latOf = s.latOf := rfl
  unfold getUij
  rw [hl]
  cases hs : s.aniso <;> cases i <;> simp [setUij, hs, Mat3.set, Mat3.get, hd.1, hd.2.1, hd.2.2]

/-- assigning an element of an anisotropic atom sets it and its mirror image, nothing else -/
theorem inv_setUij_aniso (hs : s.aniso = true) (i j : Ix) (v : ℝ) (p q : Ix) :
    (s.setUij i j v).getUij p q = if (p = i ∧ q = j) ∨ (p = j ∧ q = i) then v else s.getUij p q := by
  simp only [setUij, getUij, hs, Bool.not_true, Bool.false_and, Bool.false_eq_true, if_false, if_true,
    Mat3.get_set]
  rw [ite_or]; split_ifs <;> rfl

end state

/-! ## the property: after every admissible history -/
section history
variable (ops : List (AdpOp ℝ)) (h : ∀ op ∈ ops, OpOK op)
include h

/-- the tensor is symmetric -/
theorem U_symm : ((runOps AtomS.default ops).getU).1.isSymm := getU_fst_symm (reach_inv ops h)

omit h in
/-- `U11 … U23` are the elements of the tensor -/
theorem elements_eq (i j : Ix) :
    (runOps AtomS.default ops).getUij i j = ((runOps AtomS.default ops).getU).1.get i j :=
  inv_getUij i j

omit h in
/-- an isotropic atom's tensor is its isotropic value times the lattice's unit isotropic tensor -/
theorem iso_tensor (hs : (runOps AtomS.default ops).aniso = false) :
    ((runOps AtomS.default ops).getU).1 =
      Mat3.smul (runOps AtomS.default ops).uisoequiv (runOps AtomS.default ops).latOf.isotropicunit :=
  inv_iso_tensor hs

omit h in
/-- every B quantity is `8π²` times the U quantity -/
theorem B_eq (i j : Ix) :
    (runOps AtomS.default ops).getBij i j = 8 * π ^ 2 * (runOps AtomS.default ops).getUij i j
      ∧ (runOps AtomS.default ops).bisoequiv = 8 * π ^ 2 * (runOps AtomS.default ops).uisoequiv :=
  inv_B_eq i j

/-- the equivalent isotropic value is one third of the trace of the Cartesian tensor
`normbaseᵀ · U · normbase` (all three branches of the getter, six-term formula included) -/
theorem uiso_trace :
    (runOps AtomS.default ops).uisoequiv =
      (ucart (runOps AtomS.default ops).latOf ((runOps AtomS.default ops).getU).1).trace / 3 :=
  uisoequiv_trace (reach_inv ops h)

/-- switching the flag keeps the equivalent isotropic value, both directions -/
theorem toggle_preserves (b : Bool) :
    ((runOps AtomS.default ops).setAniso b).uisoequiv = (runOps AtomS.default ops).uisoequiv :=
  inv_toggle (reach_inv ops h) b

/-- … and so does switching it off and on (or on and off) again -/
theorem toggle_twice_preserves (b : Bool) :
    (((runOps AtomS.default ops).setAniso b).setAniso (!b)).uisoequiv = (runOps AtomS.default ops).uisoequiv :=
  inv_toggle_twice (reach_inv ops h) b

/-- setting the isotropic value then reading returns it -/
theorem setUiso_spec (v : ℝ) : ((runOps AtomS.default ops).setUiso v).uisoequiv = v :=
  inv_setUiso (reach_inv ops h) v

theorem setBiso_spec (v : ℝ) : ((runOps AtomS.default ops).setBiso v).bisoequiv = v :=
  inv_setBiso (reach_inv ops h) v

/-- mean-square displacements agree in lattice and Cartesian coordinates -/
theorem msd_agree (v : Vec3 ℝ) :
    (runOps AtomS.default ops).msdLat v = (runOps AtomS.default ops).msdCart ((runOps AtomS.default ops).latOf.cart v) :=
  inv_msd_agree (reach_inv ops h) v

/-- reading `U` (which rewrites the storage of an isotropic atom) changes nothing readable -/
theorem readU_transparent :
    (((runOps AtomS.default ops).getU).2.getU).1 = ((runOps AtomS.default ops).getU).1
      ∧ ((runOps AtomS.default ops).getU).2.uisoequiv = (runOps AtomS.default ops).uisoequiv
      ∧ ∀ i j, ((runOps AtomS.default ops).getU).2.getUij i j = (runOps AtomS.default ops).getUij i j :=
  inv_readU_transparent (reach_inv ops h)

/-- assigning a diagonal element then reading returns it -/
theorem setUii_spec (i : Ix) (v : ℝ) : ((runOps AtomS.default ops).setUij i i v).getUij i i = v :=
  inv_setUii (reach_inv ops h) i v

end history

/-! ## non-vacuity -/

/-- an oblique lattice with rational attributes: base vectors (5,0,0), (3,4,0), (0,0,1);
`a = b = 5`, `c = 1`, `cos γ = 3/5`, reciprocal lengths `1/4, 1/4, 1` -/
noncomputable def obl : LatData ℝ :=
  let base : Mat3 ℝ := ⟨5, 0, 0, 3, 4, 0, 0, 0, 1⟩
  let rcb : Mat3 ℝ := ⟨1 / 5, 0, 0, -3 / 20, 1 / 4, 0, 0, 0, 1⟩
  { a := 5, b := 5, c := 1, ca := 0, cb := 0, cg := 3 / 5, ar := 1 / 4, br := 1 / 4, cr := 1,
    base := base, recbase := rcb,
    normbase := base.rowScale (1 / 4) (1 / 4) 1,
    recnormbase := rcb.colDiv (1 / 4) (1 / 4) 1,
    isotropicunit := isotropicunitOf (rcb.colDiv (1 / 4) (1 / 4) 1),
    metrics := metricsOf 5 5 1 0 0 (3 / 5) }

theorem obl_ok : LatOK obl where
  base_rec := by simp only [obl, Mat3.mul, Mat3.one]; norm_num
  rec_base := by simp only [obl, Mat3.mul, Mat3.one]; norm_num
  normbase_def := rfl
  recnormbase_def := rfl
  ar_ne := by simp only [obl]; norm_num
  br_ne := by simp only [obl]; norm_num
  cr_ne := by simp only [obl]; norm_num
  iso_def := rfl
  iso_diag11 := by simp only [obl, Mat3.mul, Mat3.transpose, Mat3.colDiv]; norm_num
  iso_diag22 := by simp only [obl, Mat3.mul, Mat3.transpose, Mat3.colDiv]; norm_num
  iso_diag33 := by simp only [obl, Mat3.mul, Mat3.transpose, Mat3.colDiv]; norm_num
  metrics_def := rfl
  metrics_gram := by simp only [obl, Mat3.mul, Mat3.transpose, metricsOf]; norm_num

/-- the unit isotropic tensor of `obl` is not the identity: off-diagonal `-3/5` -/
example : obl.isotropicunit.a12 = -3 / 5 := by
  simp only [obl, isotropicunitOf, Mat3.forceDiag1, Mat3.mul, Mat3.transpose, Mat3.colDiv]; norm_num

/-- an admissible history that uses every kind of step in the oblique lattice -/
noncomputable def demoOps : List (AdpOp ℝ) :=
  [ .setLattice (some obl), .setUiso 2, .setAniso true, .setUij .i0 .i1 1, .setBij .i2 .i2 3,
    .readU, .setU ⟨1, 2, 3, 2, 4, 5, 3, 5, 6⟩, .setAniso false, .setBiso 7, .setLattice none, .readU ]

theorem demoOps_ok : ∀ op ∈ demoOps, OpOK op := by
  -- only the two lattice assignments and the tensor assignment carry an obligation
  simp only [demoOps, List.forall_mem_cons, OpOK, true_and, List.not_mem_nil, false_imp_iff, implies_true, and_true]
  exact ⟨fun _ e => Option.some.inj e ▸ obl_ok, ⟨rfl, rfl, rfl⟩, fun _ e => nomatch e⟩

/-- the hypotheses of all history theorems are satisfiable by a non-trivial history -/
example : AdpInv (runOps AtomS.default demoOps) := reach_inv demoOps demoOps_ok

/-- the six-term formula on a concrete anisotropic atom in the oblique lattice:
`U = [[1,2,3],[2,4,5],[3,5,6]]` has `Uisoequiv = 281/48` (not `trace/3 = 11/3`) -/
example :
    (runOps AtomS.default [.setLattice (some obl), .setAniso true, .setU ⟨1, 2, 3, 2, 4, 5, 3, 5, 6⟩]).uisoequiv
      = 281 / 48 := by
  simp only [runOps, List.foldl, AdpOp.apply, setLattice, setAniso, setU, getU, uisoequiv, AtomS.default, obl]
  norm_num

end DS.Props.C09

import DS.Props.C15

/-!
# C18 — nanoparticle cut-outs contain only crystal sites inside the requested shape

Model: `DS.Expand.makeEllipsoid` / `makeSphere` / `findCenter` (DS/Model/Expand.lean), a
transcription of `expansion/makeellipsoid.py` and `expansion/shapeutils.py` on top of the
`supercell` model of C15.  Theorems are over `ℝ` (`Real.sqrt` for `** 0.5`, `⌈·⌉` for `math.ceil`).

A successful call is analysed once (`run_of_ok`) into the pieces the source computes — block
multiplier `k ≥ 1`, supercell `T`, centre index `nc` with centre atom `ca`, the filtered list —
and every clause of the property is a theorem about such a `Run`.
-/
namespace DS.Props.C18
open DS DS.Expand
set_option linter.unusedSectionVars false

variable {β : Type}

/-- the pieces of a successful `makeEllipsoid` call -/
structure Run (S : Stru ℝ β) (sabc : Vec3 ℝ) (R : Stru ℝ β) (k : Nat) (T : Stru ℝ β) (nc : Nat)
    (ca : Atom ℝ β) : Prop where
  k_pos : 1 ≤ k
  block : supercell S [(k : Int), (k : Int), (k : Int)] = .ok T
  chosen : centreIndex T = some nc
  centre : T.atoms[nc]? = some ca
  cell : R.cell = T.cell
  atoms : R.atoms = T.atoms.filter (keeps T.cell sabc (T.cell.cartesian ca.xyz))

/-- the semi-axes vector the source builds: `b`, `c` default to `a` -/
def sabcOf (a : ℝ) (b c : Option ℝ) : Vec3 ℝ := ⟨a, b.getD a, c.getD a⟩

/-- every successful call decomposes as the source runs it -/
theorem run_of_ok (S : Stru ℝ β) (a : ℝ) (b c : Option ℝ) (R : Stru ℝ β)
    (h : makeEllipsoid S a b c = .ok R) : ∃ k T nc ca, Run S (sabcOf a b c) R k T nc ca := by
  obtain ⟨T, nc, ca, hT, hnc, hca, rfl⟩ := ellipsoidWith_ok S _ _ R h
  obtain ⟨l, m, n, hl, _, _, hmno⟩ := supercell_ok_inv _ _ _ hT
  simp only [List.cons.injEq, and_true] at hmno
  obtain ⟨h1, _, _⟩ := hmno
  rw [h1] at hT
  exact ⟨l, T, nc, ca, hl, hT, hnc, hca, rfl, rfl⟩

/-- the only failures: `ValueError` when the computed block multiplier is `< 1` (the source's own
FIXME for rotated/oblique lattices), `IndexError` for a structure without atoms -/
theorem raises (S : Stru ℝ β) (a : ℝ) (b c : Option ℝ) (e : Err) (h : makeEllipsoid S a b c = .error e) :
    (e = .ValueError ∧ ellMno S.cell (sabcOf a b c) < 1) ∨
    (e = .IndexError ∧ S.atoms = [] ∧ 1 ≤ ellMno S.cell (sabcOf a b c)) :=
  ellipsoidWith_error S _ _ e h

section
variable {S R T : Stru ℝ β} {sabc : Vec3 ℝ} {k nc : Nat} {ca : Atom ℝ β}

theorem block_eq (run : Run S sabc R k T nc ca) : T = supercellGen S k k k :=
  C15.res run.k_pos run.k_pos run.k_pos run.block

/-- the cut-out is a sublist of the supercell block (order kept), in the block's lattice -/
theorem subset_of_supercell (run : Run S sabc R k T nc ca) : R.atoms.Sublist T.atoms ∧ R.cell = T.cell := by
  rw [run.atoms]; exact ⟨List.filter_sublist, run.cell⟩

/-- hence every returned atom is an original atom displaced by whole cell vectors of the input
lattice, carrying the parent's attributes (C15) -/
theorem genuine_sites (run : Run S sabc R k T nc ca) (p : Atom ℝ β) (hp : p ∈ R.atoms) :
    ∃ a ∈ S.atoms, ∃ t : Nat × Nat × Nat, p.attrs = a.attrs ∧
      R.cell.cartesian p.xyz =
        (S.cell.cartesian a.xyz).add ((Vec3.smul (t.1 : ℝ) S.cell.base.row1).add
          ((Vec3.smul (t.2.1 : ℝ) S.cell.base.row2).add (Vec3.smul (t.2.2 : ℝ) S.cell.base.row3))) := by
  have hpT : p ∈ T.atoms := (subset_of_supercell run).1.subset hp
  obtain ⟨a, ha, t, _, _, hattr, hc⟩ := C15.image_cart run.k_pos run.k_pos run.k_pos run.block p hpT
  exact ⟨a, ha, t, hattr, by rw [run.cell]; exact hc⟩

/-- all returned atoms lie inside (or on) the ellipsoid with the given semi-axes centred on the
centre atom: `((x-x₀)/a)² + ((y-y₀)/b)² + ((z-z₀)/c)² ≤ 1` in Cartesian coordinates -/
theorem all_inside (run : Run S sabc R k T nc ca) (p : Atom ℝ β) (hp : p ∈ R.atoms) :
    ellQ sabc (R.cell.cartesian ca.xyz) (R.cell.cartesian p.xyz) ≤ 1 := by
  rw [run.atoms, List.mem_filter] at hp
  rw [run.cell]
  exact (keeps_iff _ _ _ _).1 hp.2

/-- the centre atom is one of the returned atoms -/
theorem centre_kept (run : Run S sabc R k T nc ca) : ca ∈ R.atoms := by
  rw [run.atoms, List.mem_filter]
  refine ⟨List.mem_of_getElem? run.centre, (keeps_iff _ _ _ _).2 ?_⟩
  rw [ellQ_self]; norm_num

/-- no site twice: if no two atoms of the input are lattice-equivalent, all returned positions
are different -/
theorem nodup_of_nodup (run : Run S sabc R k T nc ca)
    (h : S.atoms.Pairwise (fun a b => ¬ LatEquiv a.xyz b.xyz)) : (R.atoms.map (·.xyz)).Nodup := by
  have hT : (T.atoms.map (·.xyz)).Nodup := by
    rw [block_eq run]
    exact nodup_xyz_images S.atoms run.k_pos run.k_pos run.k_pos h
  exact hT.sublist ((subset_of_supercell run).1.map _)

/-- no site twice, unconditionally, in the sense of (parent, translation) pairs: the returned atoms
can be labelled with pairwise different pairs (index of the parent in the input, box translation),
each atom being that parent's image under that translation -/
theorem no_pair_twice (run : Run S sabc R k T nc ca) :
    ∃ lab : List (Nat × (Nat × Nat × Nat) × Atom ℝ β),
      (lab.map fun x => (x.1, x.2.1)).Nodup ∧
      (∀ x ∈ lab, ∃ a, S.atoms[x.1]? = some a ∧ x.2.1 ∈ ijkList k k k ∧ x.2.2 = image k k k a x.2.1) ∧
      R.atoms = lab.map (·.2.2) := by
  refine ⟨(labelled S.atoms k k k).filter fun x => keeps T.cell sabc (T.cell.cartesian ca.xyz) x.2.2, ?_, ?_, ?_⟩
  · exact (labelled_keys_nodup S.atoms k k k).sublist (List.filter_sublist.map _)
  · intro x hx
    exact labelled_mem S.atoms k k k x (List.mem_filter.1 hx).1
  · rw [run.atoms, block_eq run]
    show List.filter _ (S.atoms.flatMap (images k k k)) = _
    rw [← labelled_atoms, List.filter_map]
    rfl

/-- the same for the usual case: input atoms inside the unit cell at pairwise different positions -/
theorem nodup_in_cell (run : Run S sabc R k T nc ca) (hin : ∀ a ∈ S.atoms, InCell a.xyz)
    (hd : (S.atoms.map (·.xyz)).Nodup) : (R.atoms.map (·.xyz)).Nodup := by
  refine nodup_of_nodup run ?_
  rw [List.Nodup, List.pairwise_map] at hd
  refine hd.imp_of_mem ?_
  intro a b ha hb hne heq
  exact hne (latEquiv_inCell (hin a ha) (hin b hb) heq)

/-- the arithmetic at the heart of completeness -/
theorem box_arithmetic {x : ℝ} {n : ℤ} {m : ℕ} (hm : 0 < m) (hx0 : 0 ≤ x) (hx1 : x < 1)
    (h0 : 0 ≤ (x + n) / m) (h1 : (x + n) / m < 1) : 0 ≤ n ∧ n < (m : ℤ) := by
  have hm' : (0 : ℝ) < m := by exact_mod_cast hm
  rw [le_div_iff₀ hm'] at h0
  rw [div_lt_one hm'] at h1
  have a : (-1 : ℝ) < n := by linarith
  have b : (n : ℝ) < m := by linarith
  have a' : -1 < n := by exact_mod_cast a
  have b' : n < (m : ℤ) := by exact_mod_cast b
  exact ⟨by omega, b'⟩

/-- completeness: when the input atoms lie in `[0,1)³`, every crystal site `x + n` (`n ∈ ℤ³`, `x` the
position of an input atom) that lies inside the unit cell of the returned structure (its
fractional coordinates `(x+n)/k` there are in `[0,1)³`) and inside the ellipsoid is present, with
the parent's attributes -/
theorem complete_in_block (run : Run S sabc R k T nc ca) (hin : ∀ a ∈ S.atoms, InCell a.xyz)
    (a : Atom ℝ β) (ha : a ∈ S.atoms) (n₁ n₂ n₃ : ℤ)
    (hcell : InCell ⟨(a.xyz.x + n₁) / k, (a.xyz.y + n₂) / k, (a.xyz.z + n₃) / k⟩)
    (hins : ellQ sabc (R.cell.cartesian ca.xyz)
      (R.cell.cartesian ⟨(a.xyz.x + n₁) / k, (a.xyz.y + n₂) / k, (a.xyz.z + n₃) / k⟩) ≤ 1) :
    (⟨⟨(a.xyz.x + n₁) / k, (a.xyz.y + n₂) / k, (a.xyz.z + n₃) / k⟩, a.attrs⟩ : Atom ℝ β) ∈ R.atoms := by
  obtain ⟨x0, x1, y0, y1, z0, z1⟩ := hin a ha
  obtain ⟨u0, u1, v0, v1, w0, w1⟩ := hcell
  have kp : 0 < k := run.k_pos
  obtain ⟨a1, a2⟩ := box_arithmetic kp x0 x1 u0 u1
  obtain ⟨b1, b2⟩ := box_arithmetic kp y0 y1 v0 v1
  obtain ⟨c1, c2⟩ := box_arithmetic kp z0 z1 w0 w1
  have cast : ∀ {n : ℤ}, 0 ≤ n → ((n.toNat : ℕ) : ℝ) = (n : ℝ) := by
    intro n hn
    have : ((n.toNat : ℕ) : ℤ) = n := Int.toNat_of_nonneg hn
    exact_mod_cast congrArg (fun z : ℤ => (z : ℝ)) this
  have himg : image k k k a (n₁.toNat, n₂.toNat, n₃.toNat)
      = ⟨⟨(a.xyz.x + n₁) / k, (a.xyz.y + n₂) / k, (a.xyz.z + n₃) / k⟩, a.attrs⟩ := by
    simp only [image, cast a1, cast b1, cast c1]
  have hT : image k k k a (n₁.toNat, n₂.toNat, n₃.toNat) ∈ T.atoms :=
    C15.image_present run.k_pos run.k_pos run.k_pos run.block a ha _
      (show n₁.toNat < k ∧ n₂.toNat < k ∧ n₃.toNat < k from ⟨by omega, by omega, by omega⟩)
  rw [run.atoms, List.mem_filter, ← himg]
  refine ⟨hT, (keeps_iff _ _ _ _).2 ?_⟩
  rw [himg, ← run.cell]
  exact hins

/-- the point `(x+n)/k` of the returned cell is the crystal site `x + n` of the input lattice -/
theorem site_is_crystal_site (run : Run S sabc R k T nc ca) (u : Vec3 ℝ) :
    R.cell.cartesian ⟨u.x / k, u.y / k, u.z / k⟩ = S.cell.cartesian u := by
  have kne : (k : ℝ) ≠ 0 := cne run.k_pos
  rw [run.cell, block_eq run]
  exact cart_scale_div S.cell kne kne kne u

end

/-- a sphere is the ellipsoid with three equal radii -/
theorem sphere_eq (S : Stru ℝ β) (r : ℝ) : makeSphere S r = makeEllipsoid S r (some r) (some r) := rfl

/-- which atom is the centre: the first atom of the block at minimal distance from the middle
`(½,½,½)` of the block (when that distance is below the number of block atoms, as the source's
initial bound `bestd = len(S)` requires; otherwise the last atom, the source's index `-1`) -/
theorem centre_nearest {S R T : Stru ℝ β} {sabc : Vec3 ℝ} {k nc : Nat} {ca : Atom ℝ β}
    (run : Run S sabc R k T nc ca) :
    (∃ pre post, T.atoms = pre ++ ca :: post ∧ nc = pre.length ∧
      (∀ p ∈ pre, dmid T.cell ca < dmid T.cell p) ∧ (∀ p ∈ post, dmid T.cell ca ≤ dmid T.cell p)) ∨
    (nc = T.atoms.length - 1 ∧ ∀ p ∈ T.atoms, (T.atoms.length : ℝ) ≤ dmid T.cell p) := by
  rcases centreIndex_spec T nc run.chosen with ⟨pre, c, post, e, hn, h1, h2⟩ | ⟨_, hn, h⟩
  · left
    have hc : c = ca := by
      have := run.centre
      rw [e, hn, List.getElem?_append_right (Nat.le_refl _)] at this
      simpa using this
    subst hc
    exact ⟨pre, post, e, hn, h1, h2⟩
  · exact Or.inr ⟨hn, h⟩

/-- input untouched, result fresh (heap model): `makeEllipsoidH` allocates the block through
`supercellH` and only removes references from the new structure's own list.  No address alive
before the call changes, the input reads the same afterwards, every returned atom is a freshly
allocated object, and the value of the result is what the pure model computes from the value of
the input. -/
theorem input_untouched {α : Type} [Add α] [Mul α] [Sub α] [Neg α] [Div α] [OfNat α 0] [OfNat α 1]
    [OfNat α 2] [Elem α] [NatCast α] [LT α] [DecidableRel (α := α) (· < ·)] [IntCeil α]
    (h : Heap α β) (S : HStru α) (a : α) (b c : Option α) (h' : Heap α β) (R : HStru α)
    (run : makeEllipsoidH h S a b c = .ok (h', R)) :
    (∀ r, r < h.atoms.length → h'.atoms[r]? = h.atoms[r]?) ∧
    ((∀ r ∈ S.refs, r < h.atoms.length) → S.value h' = S.value h) ∧
    (∀ r ∈ R.refs, h.atoms.length ≤ r) ∧
    makeEllipsoid (S.value h) a b c = .ok (R.value h') := by
  have hval := ellipsoidWithH_value h S ⟨a, b.getD a, c.getD a⟩ (ellMno S.cell ⟨a, b.getD a, c.getD a⟩)
  unfold makeEllipsoidH at run
  simp only at run
  rw [run] at hval
  obtain ⟨T, hT, hsub⟩ := ellipsoidWithH_ok h S _ _ h' R run
  exact ⟨(C15.input_untouched h S _ h' T hT).1, (C15.input_untouched h S _ h' T hT).2,
    fun r hr => (C15.disjoint_from_input h S _ h' T hT).1 r (hsub r hr), hval.symm⟩

/-! ### non-vacuity (cubic cell of edge 2, one atom, radius 1.5, block multiplier 2), and the reading of
"no position twice" that does not hold -/

noncomputable def exS : Stru ℝ Nat := ⟨⟨2, 2, 2, 90, 90, 90, Mat3.one⟩, [⟨⟨0, 0, 0⟩, 7⟩]⟩

/-- the unconditional geometric reading "no position twice whenever the input positions are
pairwise different" — **false**: input atoms that differ by a lattice translation (or, likewise,
two atoms on one site) give the same block position twice.  What holds is `no_pair_twice`
(unconditional, by labels) and `nodup_of_nodup` / `nodup_in_cell` (positions, for inputs without
lattice-equivalent atoms). -/
def nodup_positions_statement : Prop :=
  ∀ (S : Stru ℝ Nat) (k : Nat), 1 ≤ k → (S.atoms.map (·.xyz)).Nodup →
    ((supercellGen S k k k).atoms.map (·.xyz)).Nodup

/-- witness: atoms at `x = 0` and `x = 1`, block multiplier 2: the position `x = ½` occurs twice -/
noncomputable def exDup : Stru ℝ Nat :=
  ⟨⟨2, 2, 2, 90, 90, 90, Mat3.one⟩, [⟨⟨0, 0, 0⟩, 7⟩, ⟨⟨1, 0, 0⟩, 8⟩]⟩

theorem nodup_positions_statement_false : ¬ nodup_positions_statement := by
  intro h
  have h1 : ((exDup.atoms.flatMap (images 2 2 2)).map (·.xyz)).Nodup :=
    h exDup 2 (by omega) (by simp [exDup])
  -- the image `(1,0,0)` of the first atom and the image `(0,0,0)` of the second both sit at `(½, 0, 0)`
  rw [List.map_flatMap] at h1
  have hd := (List.nodup_flatMap.1 h1).2
  simp only [exDup, List.pairwise_cons, List.mem_singleton, forall_eq] at hd
  have hdis := hd.1
  refine @hdis (⟨1 / 2, 0, 0⟩ : Vec3 ℝ) ?_ ?_
  · exact List.mem_map.2 ⟨_, List.mem_map.2 ⟨(1, 0, 0), mem_ijkList.2 (by simp), rfl⟩, by simp [image]⟩
  · exact List.mem_map.2 ⟨_, List.mem_map.2 ⟨(0, 0, 0), mem_ijkList.2 (by simp), rfl⟩, by simp [image]⟩

/-- a block with atoms always has a centre atom -/
theorem centre_exists (T : Stru ℝ β) (hne : T.atoms ≠ []) : ∃ nc ca, centreIndex T = some nc ∧ T.atoms[nc]? = some ca := by
  cases hnc : centreIndex T with
  | none => exact absurd ((centreIndex_eq_none T).1 hnc) hne
  | some nc => exact ⟨nc, T.atoms[nc]'(centreIndex_lt T nc hnc), rfl, List.getElem?_eq_getElem _⟩

/-- a `Run` exists (so none of the theorems above is vacuous): block multiplier 2 on `exS` -/
example : ∃ R nc ca, Run exS ⟨3 / 2, 3 / 2, 3 / 2⟩ R 2 (supercellGen exS 2 2 2) nc ca := by
  obtain ⟨nc, ca, hnc, hca⟩ := centre_exists (supercellGen exS 2 2 2)
    (by simp [supercellGen, exS, images, ijkList, List.range_succ, List.flatMap])
  exact ⟨⟨(supercellGen exS 2 2 2).cell, (supercellGen exS 2 2 2).atoms.filter
    (keeps (supercellGen exS 2 2 2).cell ⟨3 / 2, 3 / 2, 3 / 2⟩ ((supercellGen exS 2 2 2).cell.cartesian ca.xyz))⟩,
    nc, ca, by omega, supercell_eq exS (by omega) (by omega) (by omega), hnc, hca, rfl, rfl⟩

/-- and the function itself succeeds once the block multiplier is `≥ 1` and there is an atom -/
example : ∃ R, ellipsoidWith exS ⟨3 / 2, 3 / 2, 3 / 2⟩ ((2 : Nat) : Int) = .ok R := by
  obtain ⟨nc, ca, hnc, hca⟩ := centre_exists (supercellGen exS 2 2 2)
    (by simp [supercellGen, exS, images, ijkList, List.range_succ, List.flatMap])
  have hrun : supercell exS [((2 : Nat) : Int), ((2 : Nat) : Int), ((2 : Nat) : Int)] = .ok (supercellGen exS 2 2 2) :=
    supercell_eq exS (by omega) (by omega) (by omega)
  unfold ellipsoidWith
  rw [hrun]
  simp only [hnc, cutWith, hca]
  exact ⟨_, rfl⟩

example (S : Stru ℝ Nat) : makeSphere S 2 = makeEllipsoid S 2 (some 2) (some 2) := sphere_eq S 2

end DS.Props.C18

import DS.Lemmas.C12Matrix
import DS.Lemmas.FormatsX
import DS.Props.C12
/-!
# C12 — the written-format × parser matrix, proved on the models of `DS.Model.Formats`

`f_on_g` : what the model of parser `f` does with the lines the model of writer `g` produces
(`P_f.parseLines(P_g.toLines(s))`), for `f ≠ g`.  The real library (tabulated with every writer × every
parser on ordinary and edge structures, see the table at the end of this comment) rejects foreign text with
`StructureFormatError` in every cell, EXCEPT for the following inputs, which are genuine counter-examples of
the written-text clause of C12 and therefore appear as explicit decidable hypotheses:

* `kwFree` (no record word `cell` / `dcell`: `xyzKwFree`, `rawKwFree`, `xcfgKwFree`): the DISCUS and PDFfit readers
  give up on a text without a `cell` record, so text in which no line begins with `cell` is rejected
  (`parseDiscus_noCell`, `parsePdffit_noCell`).  Entries `discus_on_xyz`, `pdffit_on_xyz`, `…_on_rawxyz`, `…_on_xcfg`,
  rows `matrix_xyz`, `matrix_rawxyz`, `matrix_xcfg`, theorem `written_text_detected_models`.  This criterion does not
  depend on the `atoms` record.  (`dcell` is excluded for the model's sake: a `dcell` record with other than six numbers
  is outside the PDFfit document type, `PErr.unmodelled`.)
* `atomsFree` (no record word `atoms`: `xyzAtomsFree`, `rawAtomsFree`, `xcfgAtomsFree` — the title's first word, where the
  text has a title line, and every element name): both readers require the `atoms` record (56ab7f4; the models:
  `discusHeader [] _ = pdffitHeader [] _ = .error .sfe`), so text in which no line begins with `atoms` is rejected as well
  (`parseDiscus_noAtoms`, `parsePdffit_noAtoms`; for PDFfit even "no `atoms` line after the first `cell` line",
  `parsePdffit_noAtomsAfterCell`).  An XYZ title `cell 1 1 1` over ordinary elements fails `xyzKwFree` and satisfies
  `xyzAtomsFree`.  Entries `discus_on_xyz_atoms`, `discus_on_rawxyz_atoms`,
  `discus_on_xcfg_atoms` need `…AtomsFree` only; `pdffit_on_…_atoms` need `…AtomsFree` and `…DcellFree` (no word `dcell`,
  again only because the MODEL answers `unmodelled` at a short `dcell` record where the real reader goes on and raises
  `StructureFormatError` at the end of the header; `pdffit_on_…_atoms'` are the entries without it, conclusion
  `sfe ∨ unmodelled`).
* either of the two: `discus_on_…_either` under `…KwFree ∨ …AtomsFree`, `pdffit_on_…_either` under
  `…KwFree ∨ (…AtomsFree ∧ …DcellFree)`, rows `matrix_xyz'`, `matrix_rawxyz'`, `matrix_xcfg'` and
  `written_text_detected_models'` under the latter disjunction.  What remains excluded is exactly a text with a `cell`
  word AND an `atoms` word in record position (finding `cross:word-formats:atoms-element`): XYZ text of the two atoms
  `cell 1 1 1`, `atoms 0 0 0` is a DISCUS file without atoms, for the model as for the real reader (example beside
  `discus_on_xyz_either`), so the disjunction cannot be dropped; the title `cell 1 1 1` over ordinary elements is
  detected as `xyz` (last example of the file).
* `rawPdbFree` (the first element of raw XYZ text is not a PDB record name): raw XYZ text of a structure whose
  elements are all named `TITLE` / `END` / `REMARK` … is accepted by the PDB reader with zero atoms.

```
written\parser  xyz   rawxyz  discus      pdffit      pdb          xcfg   cif
xyz             own   SFE     SFE [W]     SFE [W]     SFE          SFE    SFE
rawxyz          SFE   own     SFE [W]     SFE [W]     SFE [rawPdbFree] SFE SFE
discus          SFE   SFE     own         SFE         SFE          SFE    SFE
pdffit          SFE   SFE     SFE         own         SFE          SFE    SFE
pdb             SFE   SFE     SFE         SFE         own          SFE    SFE
xcfg            SFE   SFE     SFE [W]     SFE [W]     SFE          own    SFE
cif             SFE   SFE     SFE         SFE         SFE          SFE    own
```
([W] = `kwFree`, or `atomsFree` (with `dcellFree` in the pdffit column), or either - see above.)
(SFE = `StructureFormatError`; no cell of the real table is "accepted and agreeing".)
-/
namespace DS.Props.C12Matrix
open DS DS.Dec DS.Formats

/-! ## character facts -/

theorem digit_facts {c : Char} (h : isDigit c = true) :
    isWs c = false ∧ isUpperA c = false ∧ c ≠ '#' ∧ c ≠ 'N' ∧ c ≠ 'c' ∧ c ≠ 'd' ∧ c ≠ '-' := by
  refine ⟨isWs_of_isDigit h, ?_, ?_, ?_, ?_, ?_, ?_⟩
  · simp only [isDigit, Bool.and_eq_true, decide_eq_true_eq] at h
    simp only [isUpperA, Bool.and_eq_false_iff, decide_eq_false_iff_not]
    omega
  all_goals (intro e; subst e; revert h; decide)

theorem numHead_facts {c : Char} (h : numHead c = true) :
    isUpperA c = false ∧ c ≠ 'c' ∧ c ≠ 'd' ∧ c ≠ 'o' ∧ c ≠ 'N' := by
  simp only [numHead, Bool.or_eq_true, beq_iff_eq] at h
  rcases h with ((h | h) | h) | h
  · obtain ⟨_, h2, _, h4, h5, h6, _⟩ := digit_facts h
    exact ⟨h2, h5, h6, by intro e; subst e; revert h; decide, h4⟩
  all_goals (subst h; decide)

theorem upper_facts {c : Char} (h : isUpperA c = true) : isWs c = false ∧ c ≠ '#' ∧ isDigit c = false ∧ c ≠ '-' ∧ c ≠ 'c' ∧ c ≠ 'd' := by
  simp only [isUpperA, Bool.and_eq_true, decide_eq_true_eq] at h
  refine ⟨?_, ?_, ?_, ?_, ?_, ?_⟩
  · apply isWs_of_isGraphA
    simp only [isGraphA, Bool.and_eq_true, decide_eq_true_eq]; omega
  · intro e; subst e; revert h; decide
  · simp only [isDigit, Bool.and_eq_false_iff, decide_eq_false_iff_not]; omega
  all_goals (intro e; subst e; revert h; decide)

/-! ## record words

The DISCUS and PDFfit readers look at the first word of every line.  Which lines of a foreign text can begin with a
given record word `k` is settled once, for any `k` that none of the fixed lines of the XYZ / raw XYZ / XCFG writers
begins with (`plainWord`): only a title or an element name can then be the word, and the hypotheses `…WordFree k` of
the entries exclude just that. -/

def wordFree (k w : Str) : Bool := w != k

/-- no record word `cell` / `dcell` -/
def kwFree (w : Str) : Bool := w != kwCell && w != kwDcell
def atomsFree (w : Str) : Bool := wordFree kwAtoms w
def dcellFree (w : Str) : Bool := wordFree kwDcell w

theorem wordFree_ne {k w : Str} (h : wordFree k w = true) : w ≠ k := by
  simpa [wordFree] using h

theorem kwFree_words {w : Str} (h : kwFree w = true) : wordFree kwCell w = true ∧ wordFree kwDcell w = true :=
  Bool.and_eq_true_iff.mp h

theorem all_kwFree {α : Type} {el : α → Str} {l : List α} (h : l.all (fun a => kwFree (el a)) = true) :
    l.all (fun a => wordFree kwCell (el a)) = true ∧ l.all (fun a => wordFree kwDcell (el a)) = true := by
  simp only [List.all_eq_true] at h ⊢
  exact ⟨fun a ha => (kwFree_words (h a ha)).1, fun a ha => (kwFree_words (h a ha)).2⟩

/-- a word that none of the fixed lines of the XYZ / raw XYZ / XCFG writers begins with: it has two characters at
least, does not start like a number, nor with `N` (`Number of particles`), `A` (`A =`), `H` (`H0(…)`), `e`
(`entry_count`), `au` (`auxiliary[…]`) -/
def plainWord (k : Str) : Bool :=
  match k with
  | c :: c2 :: _ => !numHead c && c != 'N' && c != 'A' && c != 'H' && c != 'e' && !(c == 'a' && c2 == 'u')
  | _ => false

theorem plainWord_spec {k : Str} (h : plainWord k = true) :
    ∃ c c2 t, k = c :: c2 :: t ∧ numHead c = false ∧ c ≠ 'N' ∧ c ≠ 'A' ∧ c ≠ 'H' ∧ c ≠ 'e' ∧ (c = 'a' → c2 ≠ 'u') := by
  match k, h with
  | c :: c2 :: t, h =>
    simp only [plainWord, Bool.and_eq_true, Bool.not_eq_true', bne_iff_ne, ne_eq, Bool.and_eq_false_iff,
      beq_eq_false_iff_ne] at h
    obtain ⟨⟨⟨⟨⟨h1, h2⟩, h3⟩, h4⟩, h5⟩, h6⟩ := h
    refine ⟨c, c2, t, rfl, h1, h2, h3, h4, h5, ?_⟩
    intro e; rcases h6 with h6 | h6
    · exact absurd e h6
    · exact h6

theorem plain_atoms : plainWord kwAtoms = true := by decide
theorem plain_dcell : plainWord kwDcell = true := by decide

theorem plain_cell : plainWord kwCell = true := by decide

theorem firstWordNot_one {l w k : Str} {ws : List Str} (hs : splitWs l = w :: ws) (h : w ≠ k) :
    FirstWordNot [k] l :=
  .of_words hs (by simpa using h)

theorem firstWordNot_num {k : Str} (hk : plainWord k = true) {l w : Str} {ws : List Str} (hs : splitWs l = w :: ws)
    {c : Char} {cs : Str} (hw : w = c :: cs) (hc : numHead c = true) : FirstWordNot [k] l := by
  apply firstWordNot_one hs
  obtain ⟨c', c2, t, rfl, hn, _⟩ := plainWord_spec hk
  intro e; rw [hw] at e; cases e
  rw [hc] at hn; cases hn

theorem headNot1 {k l : Str} {c : Char} {cs : Str} (e : l = c :: cs) (h1 : isWs c = false)
    (hk : ∀ t, k ≠ c :: t) : FirstWordNot [k] l := by
  obtain ⟨t, rest, es⟩ := splitWs_cons_head (s := cs) h1
  subst e
  exact firstWordNot_one es (fun e' => hk t e'.symm)

theorem splitWs_cons2_head {c c2 : Char} {s : Str} (hc : isWs c = false) (hc2 : isWs c2 = false) :
    ∃ t rest, splitWs (c :: c2 :: s) = (c :: c2 :: t) :: rest := by
  obtain ⟨t, rest, e⟩ := splitAux_acc s [c2, c] (by simp)
  refine ⟨t, rest, ?_⟩
  simp only [splitWs, splitAux, hc, hc2, Bool.false_eq_true, if_false]
  simpa using e

theorem headNot2 {k l : Str} {c c2 : Char} {cs : Str} (e : l = c :: c2 :: cs) (h1 : isWs c = false)
    (h2 : isWs c2 = false) (hk : ∀ t, k ≠ c :: c2 :: t) : FirstWordNot [k] l := by
  obtain ⟨t, rest, es⟩ := splitWs_cons2_head (s := cs) h1 h2
  subst e
  exact firstWordNot_one es (fun e' => hk t e'.symm)

/-! ## lines that start with `Number of particles =` -/

theorem kwNumber_eq : kwNumber = 'N' :: "umber of particles =".toList := by decide +kernel

theorem not_prefix_of_head {l : Str} (h : l.head? ≠ some 'N') : isPrefixOf kwNumber l = false := by
  cases hp : isPrefixOf kwNumber l with
  | false => rfl
  | true => exact absurd (isPrefixOf_head kwNumber_eq hp) h

theorem splitWs_number_of (s : Str) :
    splitWs ("Number".toList ++ ' ' :: ("of".toList ++ ' ' :: s)) = "Number".toList :: "of".toList :: splitWs s := by
  rw [splitWs_tok_ws (IsTok_lit _ (by decide)) isWs_space, splitWs_tok_ws (IsTok_lit _ (by decide)) isWs_space]

/-- a line that starts with `Number of particles =` has `of` as its second word -/
theorem prefix_words {l : Str} (h : isPrefixOf kwNumber l = true) :
    ∃ ws, splitWs l = "Number".toList :: "of".toList :: ws := by
  have e : l = kwNumber ++ l.drop kwNumber.length := by
    simp only [isPrefixOf, beq_iff_eq] at h
    conv_lhs => rw [← List.take_append_drop kwNumber.length l, h]
  have e2 : kwNumber = "Number".toList ++ ' ' :: ("of".toList ++ ' ' :: "particles =".toList) := by decide +kernel
  rw [e, e2]
  simp only [List.append_assoc, List.cons_append]
  exact ⟨_, splitWs_number_of _⟩

/-! ## text written as XYZ -/

/-- hypothesis of the `discus` / `pdffit` columns for XYZ text: neither the title's first word nor an element is
`cell` / `dcell` -/
def xyzKwFree (d : XyzS) : Bool :=
  (match splitWs d.title with | w :: _ => kwFree w | [] => true) && d.atoms.all (fun a => kwFree a.el)

def xyzWordFree (k : Str) (d : XyzS) : Bool :=
  (match splitWs d.title with | w :: _ => wordFree k w | [] => true) && d.atoms.all (fun a => wordFree k a.el)
/-- hypothesis of the `discus` / `pdffit` columns for XYZ text, second form: neither the title's first word nor an
element is `atoms` -/
def xyzAtomsFree (d : XyzS) : Bool := xyzWordFree kwAtoms d
/-- … nor `dcell` (for the model of the PDFfit reader: a `dcell` record that has not six numbers is `PErr.unmodelled`) -/
def xyzDcellFree (d : XyzS) : Bool := xyzWordFree kwDcell d

theorem xyzKwFree_words {d : XyzS} (h : xyzKwFree d = true) :
    xyzWordFree kwCell d = true ∧ xyzWordFree kwDcell d = true := by
  simp only [xyzKwFree, xyzWordFree, Bool.and_eq_true] at h ⊢
  obtain ⟨ht, ha⟩ := h
  have ht' : (match splitWs d.title with | w :: _ => wordFree kwCell w | [] => true) = true ∧
      (match splitWs d.title with | w :: _ => wordFree kwDcell w | [] => true) = true := by
    cases hs : splitWs d.title with
    | nil => exact ⟨rfl, rfl⟩
    | cons w ws => rw [hs] at ht; exact kwFree_words ht
  exact ⟨⟨ht'.1, (all_kwFree ha).1⟩, ⟨ht'.2, (all_kwFree ha).2⟩⟩

theorem xyz_first (d : XyzS) : ∃ c cs, natDigits d.atoms.length = c :: cs ∧ isDigit c = true ∧
    lstrip (natDigits d.atoms.length) = c :: cs ∧ splitWs (natDigits d.atoms.length) = [natDigits d.atoms.length] := by
  obtain ⟨c, cs, e, hc⟩ := natDigits_head d.atoms.length
  refine ⟨c, cs, e, hc, ?_, splitWs_tok_end (IsTok_natDigits _)⟩
  rw [lstrip_noWs (IsTok_natDigits _).2, e]

/-- the raw XYZ reader rejects XYZ text: the count line has one column (any title, any atoms) -/
theorem rawxyz_on_xyz (d : XyzS) : parseRaw (writeXyz d) = .error .sfe := by
  obtain ⟨c, cs, _, _, _, hs⟩ := xyz_first d
  unfold writeXyz
  apply parseRaw_reject
  · rw [hs]; exact isSkip_tok_digits _
  · exact ⟨_, List.mem_cons_self, by rw [hs]; simp⟩

/-- the PDB reader rejects XYZ text: the count is not a record name -/
theorem pdb_on_xyz (d : XyzS) : parsePdb (writeXyz d) = .error .sfe := by
  obtain ⟨c, cs, _, hc, hl, _⟩ := xyz_first d
  obtain ⟨h1, h2, _⟩ := digit_facts hc
  exact parsePdb_reject_head _ _ c cs hl h1 h2

/-- the XCFG reader rejects XYZ text: the count line is not `Number of particles = …` -/
theorem xcfg_on_xyz (d : XyzS) : parseXcfg (writeXyz d) = .error .sfe := by
  obtain ⟨c, cs, e, hc, _, hs⟩ := xyz_first d
  obtain ⟨_, _, h3, h4, _⟩ := digit_facts hc
  unfold writeXyz
  apply parseXcfg_reject_head
  · exact strip_ne_of_split (by rw [hs]; simp)
  · rw [e]; simp only [List.head?_cons, ne_eq, Option.some.injEq]; exact h3
  · apply not_prefix_of_head; rw [e]; simp only [List.head?_cons, ne_eq, Option.some.injEq]; exact h4

theorem xyz_noWord (k : Str) (hp : plainWord k = true) (d : XyzS) (hr : reprXyz d = true)
    (hk : xyzWordFree k d = true) : ∀ l ∈ writeXyz d, FirstWordNot [k] l := by
  simp only [reprXyz, rangeXyz, Bool.and_eq_true] at hr
  simp only [xyzWordFree, Bool.and_eq_true] at hk
  intro l hl
  simp only [writeXyz, List.mem_cons, List.mem_map] at hl
  rcases hl with rfl | rfl | ⟨a, ha, rfl⟩
  · obtain ⟨c, cs, e, hc, _, hs⟩ := xyz_first d
    exact firstWordNot_num hp hs e (by simp [numHead, hc])
  · intro w ws e hm
    have := hk.1
    rw [e] at this
    simp only [List.mem_cons, List.not_mem_nil, or_false] at hm
    exact wordFree_ne this hm
  · have hel := List.all_eq_true.mp hr.2 a ha
    exact firstWordNot_one (splitWs_xyzLine a hel) (wordFree_ne (List.all_eq_true.mp hk.2 a ha))

theorem xyz_noCell (d : XyzS) (hr : reprXyz d = true) (hk : xyzKwFree d = true) :
    ∀ l ∈ writeXyz d, FirstWordNot [kwCell, kwDcell] l := fun l hl =>
  .pair (xyz_noWord _ plain_cell d hr (xyzKwFree_words hk).1 l hl) (xyz_noWord _ plain_dcell d hr (xyzKwFree_words hk).2 l hl)

theorem xyz_noAtoms (d : XyzS) (hr : reprXyz d = true) (hk : xyzAtomsFree d = true) :
    ∀ l ∈ writeXyz d, FirstWordNot [kwAtoms] l := xyz_noWord _ plain_atoms d hr hk

theorem discus_on_xyz (d : XyzS) (hr : reprXyz d = true) (hk : xyzKwFree d = true) :
    parseDiscus (writeXyz d) = .error .sfe ∨ parseDiscus (writeXyz d) = .error .notImpl :=
  parseDiscus_noCell _ (fun l hl => (xyz_noCell d hr hk l hl).mono (by simp))

theorem pdffit_on_xyz (d : XyzS) (hr : reprXyz d = true) (hk : xyzKwFree d = true) :
    parsePdffit (writeXyz d) = .error .sfe :=
  parsePdffit_noCell _ (xyz_noCell d hr hk)

theorem discus_on_xyz_atoms (d : XyzS) (hr : reprXyz d = true) (ha : xyzAtomsFree d = true) :
    parseDiscus (writeXyz d) = .error .sfe ∨ parseDiscus (writeXyz d) = .error .notImpl :=
  parseDiscus_noAtoms _ (xyz_noAtoms d hr ha)

/-- the PDFfit reader rejects XYZ text that has no `atoms` record (and no `dcell` record, for the model's sake) -/
theorem pdffit_on_xyz_atoms (d : XyzS) (hr : reprXyz d = true) (ha : xyzAtomsFree d = true)
    (hd : xyzDcellFree d = true) : parsePdffit (writeXyz d) = .error .sfe :=
  parsePdffit_noAtoms _ (fun l hl => .pair (xyz_noAtoms d hr ha l hl) (xyz_noWord _ plain_dcell d hr hd l hl))

/-- … without the `dcell` condition: the model of the PDFfit reader never accepts -/
theorem pdffit_on_xyz_atoms' (d : XyzS) (hr : reprXyz d = true) (ha : xyzAtomsFree d = true) :
    parsePdffit (writeXyz d) = .error .sfe ∨ parsePdffit (writeXyz d) = .error .unmodelled :=
  (parsePdffit_noAtoms' _ (xyz_noAtoms d hr ha)).imp id And.left

theorem discus_on_xyz_either (d : XyzS) (hr : reprXyz d = true) (h : xyzKwFree d = true ∨ xyzAtomsFree d = true) :
    parseDiscus (writeXyz d) = .error .sfe ∨ parseDiscus (writeXyz d) = .error .notImpl :=
  h.elim (discus_on_xyz d hr) (discus_on_xyz_atoms d hr)

theorem pdffit_on_xyz_either (d : XyzS) (hr : reprXyz d = true)
    (h : xyzKwFree d = true ∨ (xyzAtomsFree d = true ∧ xyzDcellFree d = true)) :
    parsePdffit (writeXyz d) = .error .sfe :=
  h.elim (pdffit_on_xyz d hr) (fun h => pdffit_on_xyz_atoms d hr h.1 h.2)

/-- non-vacuity, and a hypothesis of this kind is needed: XYZ text of two atoms named `cell` (at 1 1 1) and `atoms` has a
`cell` record and an `atoms` record, and the DISCUS model (like the real reader) accepts it as a structure without atoms.
(The title `cell 1 1 1` alone is rejected, second example: the readers require the `atoms` record, 56ab7f4.) -/
example : reprXyz ⟨"NaCl".toList, [⟨"Na".toList, 0, 1/2, -1/3⟩]⟩ = true ∧
    xyzKwFree ⟨"NaCl".toList, [⟨"Na".toList, 0, 1/2, -1/3⟩]⟩ = true := by decide +kernel
example : (match parseDiscus (writeXyz ⟨"t".toList, [⟨"cell".toList, 1, 1, 1⟩, ⟨"atoms".toList, 0, 0, 0⟩]⟩) with
    | .ok r => r.atoms.isEmpty | .error _ => false) = true := by decide +kernel
example : parseDiscus (writeXyz ⟨"cell 1 1 1".toList, [⟨"C".toList, 0, 0, 0⟩]⟩) = .error .sfe := by decide +kernel

/-- non-vacuity of `xyzAtomsFree` and `xyzDcellFree` -/
example : reprXyz ⟨"NaCl".toList, [⟨"Na".toList, 0, 1/2, -1/3⟩]⟩ = true ∧
    xyzAtomsFree ⟨"NaCl".toList, [⟨"Na".toList, 0, 1/2, -1/3⟩]⟩ = true ∧
    xyzDcellFree ⟨"NaCl".toList, [⟨"Na".toList, 0, 1/2, -1/3⟩]⟩ = true := by decide +kernel
/-- `xyzAtomsFree` covers what `xyzKwFree` does not: the title `cell 1 1 1` fails `xyzKwFree` and satisfies
`xyzAtomsFree` -/
example : reprXyz ⟨"cell 1 1 1".toList, [⟨"C".toList, 0, 0, 0⟩]⟩ = true ∧
    xyzKwFree ⟨"cell 1 1 1".toList, [⟨"C".toList, 0, 0, 0⟩]⟩ = false ∧
    xyzAtomsFree ⟨"cell 1 1 1".toList, [⟨"C".toList, 0, 0, 0⟩]⟩ = true ∧
    xyzDcellFree ⟨"cell 1 1 1".toList, [⟨"C".toList, 0, 0, 0⟩]⟩ = true := by decide +kernel
/-- … and `xyzKwFree` covers what `xyzAtomsFree` does not: an atom named `atoms` without any `cell` -/
example : reprXyz ⟨"t".toList, [⟨"atoms".toList, 0, 0, 0⟩]⟩ = true ∧
    xyzKwFree ⟨"t".toList, [⟨"atoms".toList, 0, 0, 0⟩]⟩ = true ∧
    xyzAtomsFree ⟨"t".toList, [⟨"atoms".toList, 0, 0, 0⟩]⟩ = false := by decide +kernel
/-- the disjunction cannot be dropped: XYZ text of the atoms `cell 1 1 1`, `atoms 0 0 0` fails both hypotheses, and the
DISCUS model (like the real reader) accepts it as a structure without atoms -/
example : xyzKwFree ⟨"t".toList, [⟨"cell".toList, 1, 1, 1⟩, ⟨"atoms".toList, 0, 0, 0⟩]⟩ = false ∧
    xyzAtomsFree ⟨"t".toList, [⟨"cell".toList, 1, 1, 1⟩, ⟨"atoms".toList, 0, 0, 0⟩]⟩ = false ∧
    (match parseDiscus (writeXyz ⟨"t".toList, [⟨"cell".toList, 1, 1, 1⟩, ⟨"atoms".toList, 0, 0, 0⟩]⟩) with
      | .ok r => r.atoms.isEmpty | .error _ => false) = true := by decide +kernel
/-- why `xyzDcellFree` stands beside `xyzAtomsFree` in the PDFfit entries: the model of the PDFfit reader leaves a
`dcell` record with two numbers as `unmodelled` (the real reader stores the two numbers and fails at the end of the
header, `StructureFormatError`) -/
example : parsePdffit (writeXyz ⟨"dcell 1 2".toList, [⟨"C".toList, 0, 0, 0⟩]⟩) = .error .unmodelled := by decide +kernel

/-! ## text written as raw XYZ -/

def rawWordFree (k : Str) (atoms : List PAtom) : Bool := atoms.all (fun a => wordFree k a.el)

def rawKwFree (atoms : List PAtom) : Bool := atoms.all (fun a => kwFree a.el)
def rawAtomsFree (atoms : List PAtom) : Bool := rawWordFree kwAtoms atoms
def rawDcellFree (atoms : List PAtom) : Bool := rawWordFree kwDcell atoms

/-- hypothesis of the `pdb` column for raw XYZ text: the first element is not a PDB record name -/
def rawPdbFree (atoms : List PAtom) : Bool :=
  match atoms with
  | a :: _ => !isPdbRecord a.el
  | [] => true

theorem raw_line (atoms : List PAtom) (hr : reprRaw atoms = true) (a : PAtom) (ha : a ∈ atoms) :
    (rawElOk a.el = true ∧ splitWs (rawLine a) = [a.el, fmtG 6 a.x, fmtG 6 a.y, fmtG 6 a.z]) ∨
    (a.el = [] ∧ splitWs (rawLine a) = [fmtG 6 a.x, fmtG 6 a.y, fmtG 6 a.z]) := by
  simp only [reprRaw, Bool.or_eq_true, List.all_eq_true] at hr
  rcases hr with he | he
  · left
    have h := he a ha
    refine ⟨h, splitWs_rawLine_el a ?_⟩
    simp only [rawElOk, Bool.and_eq_true] at h
    exact h.1.1
  · right
    have h : a.el = [] := by simpa using he a ha
    exact ⟨h, splitWs_rawLine_noel a h⟩

/-- the XYZ reader rejects raw XYZ text: the first line has three or four columns, not one -/
theorem xyz_on_rawxyz (atoms : List PAtom) (hr : reprRaw atoms = true) (hne : atoms ≠ []) :
    parseXyz (writeRaw atoms) = .error .sfe := by
  cases atoms with
  | nil => exact absurd rfl hne
  | cons a as =>
    simp only [writeRaw, List.map_cons]
    rcases raw_line _ hr a List.mem_cons_self with ⟨hel, hs⟩ | ⟨_, hs⟩
    · apply parseXyz_reject_words _ _ _ _ hs _ (Or.inl (by simp))
      simp only [rawElOk, Bool.and_eq_true, bne_iff_ne, ne_eq] at hel
      exact hel.2
    · exact parseXyz_reject_words _ _ _ _ hs (fmtG_ne_hash _ _) (Or.inl (by simp))

theorem raw_noWord (k : Str) (hp : plainWord k = true) (atoms : List PAtom) (hr : reprRaw atoms = true)
    (hk : rawWordFree k atoms = true) : ∀ l ∈ writeRaw atoms, FirstWordNot [k] l := by
  intro l hl
  simp only [writeRaw, List.mem_map] at hl
  obtain ⟨a, ha, rfl⟩ := hl
  rcases raw_line _ hr a ha with ⟨_, hs⟩ | ⟨_, hs⟩
  · exact firstWordNot_one hs (wordFree_ne (List.all_eq_true.mp hk a ha))
  · obtain ⟨c, cs, e, hc⟩ := fmtG_numHead 6 a.x
    exact firstWordNot_num hp hs e hc

theorem raw_noCell (atoms : List PAtom) (hr : reprRaw atoms = true) (hk : rawKwFree atoms = true) :
    ∀ l ∈ writeRaw atoms, FirstWordNot [kwCell, kwDcell] l := fun l hl =>
  .pair (raw_noWord _ plain_cell atoms hr (all_kwFree hk).1 l hl)
    (raw_noWord _ plain_dcell atoms hr (all_kwFree hk).2 l hl)

theorem raw_noAtoms (atoms : List PAtom) (hr : reprRaw atoms = true) (hk : rawAtomsFree atoms = true) :
    ∀ l ∈ writeRaw atoms, FirstWordNot [kwAtoms] l := raw_noWord _ plain_atoms atoms hr hk

theorem discus_on_rawxyz (atoms : List PAtom) (hr : reprRaw atoms = true) (hk : rawKwFree atoms = true) :
    parseDiscus (writeRaw atoms) = .error .sfe ∨ parseDiscus (writeRaw atoms) = .error .notImpl :=
  parseDiscus_noCell _ (fun l hl => (raw_noCell atoms hr hk l hl).mono (by simp))

theorem pdffit_on_rawxyz (atoms : List PAtom) (hr : reprRaw atoms = true) (hk : rawKwFree atoms = true) :
    parsePdffit (writeRaw atoms) = .error .sfe :=
  parsePdffit_noCell _ (raw_noCell atoms hr hk)

theorem discus_on_rawxyz_atoms (atoms : List PAtom) (hr : reprRaw atoms = true) (ha : rawAtomsFree atoms = true) :
    parseDiscus (writeRaw atoms) = .error .sfe ∨ parseDiscus (writeRaw atoms) = .error .notImpl :=
  parseDiscus_noAtoms _ (raw_noAtoms atoms hr ha)

theorem pdffit_on_rawxyz_atoms (atoms : List PAtom) (hr : reprRaw atoms = true) (ha : rawAtomsFree atoms = true)
    (hd : rawDcellFree atoms = true) : parsePdffit (writeRaw atoms) = .error .sfe :=
  parsePdffit_noAtoms _ (fun l hl => .pair (raw_noAtoms atoms hr ha l hl) (raw_noWord _ plain_dcell atoms hr hd l hl))

theorem pdffit_on_rawxyz_atoms' (atoms : List PAtom) (hr : reprRaw atoms = true) (ha : rawAtomsFree atoms = true) :
    parsePdffit (writeRaw atoms) = .error .sfe ∨ parsePdffit (writeRaw atoms) = .error .unmodelled :=
  (parsePdffit_noAtoms' _ (raw_noAtoms atoms hr ha)).imp id And.left

theorem discus_on_rawxyz_either (atoms : List PAtom) (hr : reprRaw atoms = true)
    (h : rawKwFree atoms = true ∨ rawAtomsFree atoms = true) :
    parseDiscus (writeRaw atoms) = .error .sfe ∨ parseDiscus (writeRaw atoms) = .error .notImpl :=
  h.elim (discus_on_rawxyz atoms hr) (discus_on_rawxyz_atoms atoms hr)

theorem pdffit_on_rawxyz_either (atoms : List PAtom) (hr : reprRaw atoms = true)
    (h : rawKwFree atoms = true ∨ (rawAtomsFree atoms = true ∧ rawDcellFree atoms = true)) :
    parsePdffit (writeRaw atoms) = .error .sfe :=
  h.elim (pdffit_on_rawxyz atoms hr) (fun h => pdffit_on_rawxyz_atoms atoms hr h.1 h.2)

theorem pdb_on_rawxyz (atoms : List PAtom) (hr : reprRaw atoms = true) (hne : atoms ≠ []) (hp : rawPdbFree atoms = true) :
    parsePdb (writeRaw atoms) = .error .sfe := by
  cases atoms with
  | nil => exact absurd rfl hne
  | cons a as =>
    simp only [writeRaw, List.map_cons]
    rcases raw_line _ hr a List.mem_cons_self with ⟨_, hs⟩ | ⟨_, hs⟩
    · exact parsePdb_reject_words _ _ _ _ hs (by simpa [rawPdbFree] using hp)
    · obtain ⟨c, cs, e, hn⟩ := fmtG_numHead 6 a.x
      rw [e] at hs
      exact parsePdb_reject_words _ _ _ _ hs (not_pdbRecord (.inl (numHead_facts hn).1))

/-- the XCFG reader rejects raw XYZ text: no line starts with `Number of particles =` -/
theorem xcfg_on_rawxyz (atoms : List PAtom) (hr : reprRaw atoms = true) :
    parseXcfg (writeRaw atoms) = .error .sfe := by
  apply parseXcfg_reject_noNumber
  intro l hl
  simp only [writeRaw, List.mem_map] at hl
  obtain ⟨a, ha, rfl⟩ := hl
  cases hp : isPrefixOf kwNumber (rawLine a) with
  | false => rfl
  | true =>
    -- the line would have `Number` as its first and `of` as its second word, and one of the two is a number
    obtain ⟨ws, e⟩ := prefix_words hp
    obtain ⟨c, cs, e', hn⟩ := fmtG_numHead 6 a.x
    rcases raw_line _ hr a ha with ⟨_, hs⟩ | ⟨_, hs⟩
    · rw [hs, e'] at e
      simp only [List.cons.injEq] at e
      have := e.2.1
      cases this
      exact absurd rfl (numHead_facts hn).2.2.2.1
    · rw [hs, e'] at e
      simp only [List.cons.injEq] at e
      have := e.1
      cases this
      exact absurd rfl (numHead_facts hn).2.2.2.2

example : reprRaw [⟨"Na".toList, 0, 1/2, -1/3⟩] = true ∧ rawKwFree [⟨"Na".toList, 0, 1/2, -1/3⟩] = true ∧
    rawPdbFree [⟨"Na".toList, 0, 1/2, -1/3⟩] = true := by decide +kernel
/-- `rawPdbFree` is needed: raw XYZ text of one atom named `END` is an (empty) PDB file for the model as for the
real reader -/
example : (match parsePdb (writeRaw [⟨"END".toList, 0, 0, 0⟩]) with
    | .ok r => r.atoms.isEmpty | .error _ => false) = true := by decide +kernel

/-- non-vacuity; an element `cell` alone fails `rawKwFree` and satisfies `rawAtomsFree` -/
example : reprRaw [⟨"Na".toList, 0, 1/2, -1/3⟩] = true ∧ rawAtomsFree [⟨"Na".toList, 0, 1/2, -1/3⟩] = true ∧
    rawDcellFree [⟨"Na".toList, 0, 1/2, -1/3⟩] = true := by decide +kernel
example : reprRaw [⟨"cell".toList, 1, 1, 1⟩, ⟨"C".toList, 0, 0, 0⟩] = true ∧
    rawKwFree [⟨"cell".toList, 1, 1, 1⟩, ⟨"C".toList, 0, 0, 0⟩] = false ∧
    rawAtomsFree [⟨"cell".toList, 1, 1, 1⟩, ⟨"C".toList, 0, 0, 0⟩] = true ∧
    rawDcellFree [⟨"cell".toList, 1, 1, 1⟩, ⟨"C".toList, 0, 0, 0⟩] = true := by decide +kernel
/-- the disjunction cannot be dropped: raw XYZ text of the atoms `cell 1 1 1`, `atoms 0 0 0` is a DISCUS file without
atoms for the model -/
example : rawKwFree [⟨"cell".toList, 1, 1, 1⟩, ⟨"atoms".toList, 0, 0, 0⟩] = false ∧
    rawAtomsFree [⟨"cell".toList, 1, 1, 1⟩, ⟨"atoms".toList, 0, 0, 0⟩] = false ∧
    (match parseDiscus (writeRaw [⟨"cell".toList, 1, 1, 1⟩, ⟨"atoms".toList, 0, 0, 0⟩]) with
      | .ok r => r.atoms.isEmpty | .error _ => false) = true := by decide +kernel

/-! ## text written as DISCUS or PDFfit: the first record is `title` -/

theorem canon_title : canonInt kwTitle = none := by decide
theorem title_not_hash : kwTitle ≠ ['#'] := by decide
theorem title_not_record : isPdbRecord kwTitle = false := not_pdbRecord (.inl (by decide))

/-- what the other readers do with a text whose first line is a `title` record and which has an `atoms` line -/
theorem title_first (k : Nat) (hk : 1 ≤ k) (t : Str) (rest : List Str) :
    parseXyz (strip (kwTitle ++ sp k ++ t) :: rest) = .error .sfe ∧
    parsePdb (strip (kwTitle ++ sp k ++ t) :: rest) = .error .sfe ∧
    parseXcfg (strip (kwTitle ++ sp k ++ t) :: rest) = .error .sfe ∧
    (kwAtoms ∈ rest → parseRaw (strip (kwTitle ++ sp k ++ t) :: rest) = .error .sfe) := by
  obtain ⟨hs, _⟩ := title_line k hk t
  refine ⟨?_, ?_, ?_, ?_⟩
  · cases hws : splitWs t with
    | nil => exact parseXyz_reject_words _ _ _ _ hs title_not_hash (Or.inr canon_title)
    | cons a as => exact parseXyz_reject_words _ _ _ _ hs title_not_hash (Or.inl (by simp [hws]))
  · exact parsePdb_reject_words _ _ _ _ hs title_not_record
  · have e : strip (kwTitle ++ sp k ++ t) = kwTitle ++ rstrip (sp k ++ t) := by
      rw [List.append_assoc, strip_tok_append IsTok_kw.1]
    apply parseXcfg_reject_head
    · exact strip_ne_of_split (by rw [hs]; simp)
    · rw [e]; simp [kwTitle]
    · apply not_prefix_of_head; rw [e]; simp [kwTitle]
  · intro hmem
    apply parseRaw_reject
    · rw [hs]; simp [isSkip, title_not_hash]
    · refine ⟨kwAtoms, List.mem_cons_of_mem _ hmem, ?_⟩
      rw [splitWs_tok_end IsTok_kw.2.2.2.2.2.1]; simp

theorem xyz_on_discus (d : DiscusS) : parseXyz (writeDiscus d) = .error .sfe := by
  simp only [writeDiscus, List.cons_append, List.nil_append]; exact (title_first 3 (by omega) _ _).1
theorem pdb_on_discus (d : DiscusS) : parsePdb (writeDiscus d) = .error .sfe := by
  simp only [writeDiscus, List.cons_append, List.nil_append]; exact (title_first 3 (by omega) _ _).2.1
theorem xcfg_on_discus (d : DiscusS) : parseXcfg (writeDiscus d) = .error .sfe := by
  simp only [writeDiscus, List.cons_append, List.nil_append]; exact (title_first 3 (by omega) _ _).2.2.1
/-- the raw XYZ reader rejects DISCUS text: the `atoms` line has one column -/
theorem rawxyz_on_discus (d : DiscusS) : parseRaw (writeDiscus d) = .error .sfe := by
  simp only [writeDiscus, List.cons_append, List.nil_append]
  exact (title_first 3 (by omega) _ _).2.2.2 (by simp)

theorem xyz_on_pdffit (d : PdffitS) : parseXyz (writePdffit d) = .error .sfe := by
  simp only [writePdffit, List.cons_append, List.nil_append]; exact (title_first 2 (by omega) _ _).1
theorem pdb_on_pdffit (d : PdffitS) : parsePdb (writePdffit d) = .error .sfe := by
  simp only [writePdffit, List.cons_append, List.nil_append]; exact (title_first 2 (by omega) _ _).2.1
theorem xcfg_on_pdffit (d : PdffitS) : parseXcfg (writePdffit d) = .error .sfe := by
  simp only [writePdffit, List.cons_append, List.nil_append]; exact (title_first 2 (by omega) _ _).2.2.1
theorem rawxyz_on_pdffit (d : PdffitS) : parseRaw (writePdffit d) = .error .sfe := by
  simp only [writePdffit, List.cons_append, List.nil_append]
  exact (title_first 2 (by omega) _ _).2.2.2 (by simp)

/-! ## DISCUS text read as PDFfit, PDFfit text read as DISCUS (the two share the header grammar) -/

theorem dh_title2 (t : Str) (rest : List Str) (h : DHdr) :
    discusHeader (strip (kwTitle ++ sp 2 ++ t) :: rest) h = discusHeader rest { h with title := strip t } := by
  obtain ⟨h1, h2⟩ := title_line 2 (by omega) t
  rw [discusHeader_cons h1 (by decide) (by decide), discusRecord_title, h2]

theorem format_words : splitWs (kwFormat ++ sp 1 ++ kwPdffit) = [kwFormat, kwPdffit] := by
  rw [List.append_assoc, splitWs_tok_blanks IsTok_kw.2.2.2.2.2.2.2.1 (AllWs_sp 1) (sp_ne_nil (by omega)),
    splitWs_tok_end IsTok_kw.2.2.2.2.2.2.2.2.1]

/-- `format pdffit` makes the DISCUS reader give up -/
theorem dh_format (rest : List Str) (h : DHdr) :
    discusHeader ((kwFormat ++ sp 1 ++ kwPdffit) :: rest) h = .error .sfe := by
  rw [discusHeader_cons format_words (by decide) (by decide)]
  unfold discusRecord
  rw [if_neg (by decide), if_pos rfl]
  simp

/-- the DISCUS reader rejects PDFfit text: the `format pdffit` record comes before `cell` (any document) -/
theorem discus_on_pdffit (d : PdffitS) : parseDiscus (writePdffit d) = .error .sfe := by
  simp only [writePdffit, List.cons_append, List.nil_append]
  unfold parseDiscus
  rw [dropTrailingBlank_cons _ _ (strip_ne_of_split (by rw [(title_line 2 (by omega) d.title).1]; simp)),
    dropTrailingBlank_cons _ _ (strip_ne_of_split (by rw [format_words]; simp)), dh_title2, dh_format]

theorem pdffitAtoms_spec (L : List Str) :
    pdffitAtoms L = .error .sfe ∨ ∃ as, pdffitAtoms L = .ok as ∧ L.length = 6 * as.length := by
  fun_induction pdffitAtoms L
  case case1 => exact .inr ⟨[], rfl, rfl⟩
  case case2 as has ih =>
    rcases ih with e | ⟨as', e, hlen⟩
    · rw [has] at e; cases e
    · rw [has] at e; cases e
      exact .inr ⟨_, rfl, by simp only [List.length_cons, hlen]; omega⟩
  case case3 k hk ih =>
    rcases ih with e | ⟨as', e, _⟩
    · rw [hk] at e; exact .inl e
    · rw [hk] at e; cases e
  all_goals exact .inl rfl

theorem ph_title3 (t : Str) (rest : List Str) (h : PHdr) :
    pdffitHeader (strip (kwTitle ++ sp 3 ++ t) :: rest) h = pdffitHeader rest { h with title := strip t } := by
  obtain ⟨h1, h2⟩ := title_line 3 (by omega) t
  rw [pdffitHeader_cons h1 (by decide) (by decide)]
  unfold pdffitRecord
  simp only
  rw [if_pos trivial, h2]

theorem pdffitHeader_discus (d : DiscusS) (rest : List Str) :
    pdffitHeader ([strip (kwTitle ++ sp 3 ++ d.title), kwSpcgr ++ sp 3 ++ d.spcgr] ++ shapeLines d.spd d.stepcut ++
        [cellLine kwCell 3 d.cell, ncellLine d.atoms.length, kwAtoms] ++ rest) PHdr.init =
      .ok (⟨strip d.title, 1, 0, 0, 1, 0, strip d.spcgr, quantShape d.spd, quantShape d.stepcut,
            d.cell.map (roundTo 6), true, ⟨0, 0, 0, 0, 0, 0⟩, [1, 1, 1, (d.atoms.length : Int)]⟩, rest) := by
  unfold shapeLines quantShape
  by_cases h1 : 0 < d.spd <;> by_cases h2 : 0 < d.stepcut <;>
  simp only [h1, h2, if_true, if_false, List.cons_append, List.nil_append, List.append_nil, ph_title3, ph_spcgr, ph_sphere,
    ph_stepcut, ph_cell, ph_ncell, PHdr.init] <;>
  rw [ph_atoms _ _ rfl]

theorem dropTrailingBlank_writeDiscus (d : DiscusS) (h : d.atoms.all (fun a => elemOkD a.el) = true) :
    dropTrailingBlank (writeDiscus d) = writeDiscus d := by
  have hne : writeDiscus d ≠ [] := by simp [writeDiscus]
  apply dropTrailingBlank_of_last _ hne
  have hpre : [strip (kwTitle ++ sp 3 ++ d.title), kwSpcgr ++ sp 3 ++ d.spcgr] ++ shapeLines d.spd d.stepcut ++
      [cellLine kwCell 3 d.cell, ncellLine d.atoms.length, kwAtoms] ≠ [] := by simp
  rcases getLast_append_map _ hpre discusAtomLine d.atoms hne with e | ⟨a, ha, e⟩
  · simp only [writeDiscus] at e ⊢
    rw [e]; simp only [List.getLast_append_of_ne_nil _ (show [cellLine kwCell 3 d.cell, ncellLine d.atoms.length, kwAtoms] ≠ [] by simp)]
    have : [cellLine kwCell 3 d.cell, ncellLine d.atoms.length, kwAtoms].getLast (by simp) = kwAtoms := rfl
    rw [this]; decide
  · simp only [writeDiscus] at e ⊢
    rw [e]; exact discusAtomLine_nonblank a (List.all_eq_true.1 h a ha)

/-- the PDFfit reader rejects DISCUS text of a non-empty structure: it reads the header, then takes the one-line atom
records for six-line blocks; the count announced by `ncell` cannot match -/
theorem pdffit_on_discus (d : DiscusS) (hr : reprDiscus d = true) (hne : d.atoms ≠ []) :
    parsePdffit (writeDiscus d) = .error .sfe := by
  simp only [reprDiscus, rangeDiscus, Bool.and_eq_true] at hr
  unfold parsePdffit
  rw [dropTrailingBlank_writeDiscus d hr.2]
  unfold writeDiscus
  rw [pdffitHeader_discus d (d.atoms.map discusAtomLine)]
  simp only [Bool.true_eq_false, if_false]
  rcases pdffitAtoms_spec (d.atoms.map discusAtomLine) with e | ⟨as, e, hlen⟩
  · rw [e]
  · rw [e]
    simp only [intProd_ncell]
    have hpos : 0 < d.atoms.length := List.length_pos_iff.mpr hne
    rw [List.length_map] at hlen
    have : ((d.atoms.length : Int) ≠ (as.length : Int)) := by omega
    simp [this]

example : reprDiscus ⟨"Ni fcc".toList, "F m -3 m".toList, 25, 0, ⟨3, 3, 3, 90, 90, 90⟩,
    [⟨"Ni".toList, ⟨0, 1/2, 1/2⟩, 1/3⟩]⟩ = true := by decide +kernel
/-- non-emptiness is needed: DISCUS text of a structure without atoms IS a PDFfit file without atoms for the model
(the real writer/reader pair behaves the same way; the clause of C12 is about non-empty structures) -/
example : (match parsePdffit (writeDiscus ⟨"t".toList, "P1".toList, 0, 0, ⟨3, 3, 3, 90, 90, 90⟩, []⟩) with
    | .ok r => r.atoms.isEmpty | .error _ => false) = true := by decide +kernel

/-! ## text written as PDB: every record starts with `T`, `C`, `A` or `E` -/

def pdbHead (c : Char) : Bool := c == 'T' || c == 'C' || c == 'A' || c == 'E'

def StartsPdb (l : Str) : Prop := ∃ c cs, l = c :: cs ∧ pdbHead c = true

theorem pdbHead_facts {c : Char} (h : pdbHead c = true) :
    isWs c = false ∧ isUpperA c = true ∧ c ≠ '#' ∧ c ≠ 'N' ∧ c ≠ 'c' ∧ c ≠ 'd' ∧ isDigit c = false ∧ c ≠ '-' := by
  simp only [pdbHead, Bool.or_eq_true, beq_iff_eq] at h
  rcases h with ((h | h) | h) | h <;> subst h <;> decide

theorem startsPdb_atomsLines (as : List PdbAtom) : ∀ k, ∀ l ∈ pdbAtomsLines k as, StartsPdb l := by
  induction as with
  | nil => intro k l hl; simp [pdbAtomsLines] at hl
  | cons a as ih =>
    intro k l hl
    simp only [pdbAtomsLines, List.mem_append] at hl
    rcases hl with hl | hl
    · simp only [pdbAtomLines] at hl
      split at hl
      · simp only [List.mem_cons, List.not_mem_nil, or_false] at hl; subst hl
        exact ⟨'A', _, rfl, by decide⟩
      · simp only [List.mem_cons, List.not_mem_nil, or_false] at hl
        rcases hl with rfl | rfl
        · exact ⟨'A', _, rfl, by decide⟩
        · exact ⟨'A', _, rfl, by decide⟩
    · exact ih _ l hl

theorem startsPdb_write (d : PdbS) : ∀ l ∈ writePdb d, StartsPdb l := by
  intro l hl
  simp only [writePdb, List.mem_append, List.mem_cons, List.not_mem_nil, or_false] at hl
  rcases hl with ((hl | hl) | hl) | (rfl | rfl)
  · simp only [pdbTitleLines, List.mem_map] at hl
    obtain ⟨p, _, rfl⟩ := hl
    exact ⟨'T', _, rfl, by decide⟩
  · cases hc : d.cell with
    | none => simp [hc] at hl
    | some c =>
      simp only [hc, List.mem_cons, List.not_mem_nil, or_false] at hl; subst hl
      exact ⟨'C', _, rfl, by decide⟩
  · exact startsPdb_atomsLines d.atoms 0 l hl
  · exact ⟨'T', _, rfl, by decide⟩
  · exact ⟨'E', _, rfl, by decide⟩

theorem writePdb_head (d : PdbS) : ∃ c cs ls, writePdb d = (c :: cs) :: ls ∧ pdbHead c = true := by
  cases e : writePdb d with
  | nil => simp [writePdb] at e
  | cons l ls =>
    obtain ⟨c, cs, rfl, hc⟩ := startsPdb_write d l (by rw [e]; simp)
    exact ⟨c, cs, ls, rfl, hc⟩

theorem lstrip_cons_noWs {c : Char} {cs : Str} (h : isWs c = false) : lstrip (c :: cs) = c :: cs := by
  simp [lstrip, h]

theorem pdb_noCell (d : PdbS) : ∀ l ∈ writePdb d, FirstWordNot [kwCell, kwDcell] l := by
  intro l hl
  obtain ⟨c, cs, rfl, hc⟩ := startsPdb_write d l hl
  obtain ⟨h1, _, _, _, h4, h5, _⟩ := pdbHead_facts hc
  exact .pair (headNot1 rfl h1 (fun t e => by cases e; exact h4 rfl)) (headNot1 rfl h1 (fun t e => by cases e; exact h5 rfl))

theorem xyz_on_pdb (d : PdbS) : parseXyz (writePdb d) = .error .sfe := by
  obtain ⟨c, cs, ls, e, hc⟩ := writePdb_head d
  obtain ⟨h1, _, h2, _, _, _, h6, h7⟩ := pdbHead_facts hc
  rw [e]
  exact parseXyz_reject_head _ _ c cs (lstrip_cons_noWs h1) h1 h2 h6 h7

theorem end_words : splitWs (padRight 80 kwEND) = [kwEND] := by
  rw [padRight_eq, splitWs_append_allWs (AllWs_replicate _)]
  exact splitWs_tok_end ⟨by decide, by intro c hc; revert c; decide⟩

/-- the raw XYZ reader rejects PDB text: the `END` record has one column -/
theorem rawxyz_on_pdb (d : PdbS) : parseRaw (writePdb d) = .error .sfe := by
  obtain ⟨c, cs, ls, e, hc⟩ := writePdb_head d
  obtain ⟨h1, _, h2, _⟩ := pdbHead_facts hc
  have hend : padRight 80 kwEND ∈ writePdb d := by simp [writePdb]
  rw [e] at hend ⊢
  apply parseRaw_reject
  · obtain ⟨t, rest, es⟩ := splitWs_cons_head (s := cs) h1
    rw [es]
    simp only [isSkip, beq_eq_false_iff_ne, ne_eq]
    intro e'; cases e'; exact h2 rfl
  · exact ⟨_, hend, by rw [end_words]; simp⟩

theorem discus_on_pdb (d : PdbS) :
    parseDiscus (writePdb d) = .error .sfe ∨ parseDiscus (writePdb d) = .error .notImpl :=
  parseDiscus_noCell _ (fun l hl => (pdb_noCell d l hl).mono (by simp))

theorem pdffit_on_pdb (d : PdbS) : parsePdffit (writePdb d) = .error .sfe :=
  parsePdffit_noCell _ (pdb_noCell d)

theorem xcfg_on_pdb (d : PdbS) : parseXcfg (writePdb d) = .error .sfe := by
  obtain ⟨c, cs, ls, e, hc⟩ := writePdb_head d
  obtain ⟨h1, _, h2, h3, _⟩ := pdbHead_facts hc
  rw [e]
  apply parseXcfg_reject_head
  · obtain ⟨t, rest, es⟩ := splitWs_cons_head (s := cs) h1
    exact strip_ne_of_split (by rw [es]; simp)
  · simp only [List.head?_cons, ne_eq, Option.some.injEq]; exact h2
  · apply not_prefix_of_head; simp only [List.head?_cons, ne_eq, Option.some.injEq]; exact h3

/-! ## text written as XCFG -/

def xcfgWordFree (k : Str) (d : XcfgS) : Bool := d.atoms.all (fun a => wordFree k a.el)

/-- hypothesis of the `discus` / `pdffit` columns for XCFG text: no element is named `cell` / `dcell` (an element
line `cell` is a complete `cell` record for both readers) -/
def xcfgKwFree (d : XcfgS) : Bool := d.atoms.all (fun a => kwFree a.el)

/-- no element is named `atoms` (XCFG text has no title line) -/
def xcfgAtomsFree (d : XcfgS) : Bool := xcfgWordFree kwAtoms d
def xcfgDcellFree (d : XcfgS) : Bool := xcfgWordFree kwDcell d

theorem numLine_words (n : Nat) :
    splitWs (numLine n) = ["Number".toList, "of".toList, "particles".toList, "=".toList, natDigits n] := by
  have e : numLine n = "Number".toList ++ ' ' :: ("of".toList ++ ' ' :: ("particles".toList ++ ' ' :: ("=".toList ++ ' ' :: natDigits n))) := rfl
  rw [e, splitWs_number_of, splitWs_tok_ws (IsTok_lit _ (by decide)) isWs_space,
    splitWs_tok_ws (IsTok_lit _ (by decide)) isWs_space, splitWs_tok_end (IsTok_natDigits n)]

theorem writeXcfg_cons (d : XcfgS) : ∃ ls, writeXcfg d = numLine d.atoms.length :: ls := by
  rw [writeXcfg_eq, writeXcfgL]; exact ⟨_, rfl⟩

theorem xyz_on_xcfg (d : XcfgS) : parseXyz (writeXcfg d) = .error .sfe := by
  obtain ⟨ls, e⟩ := writeXcfg_cons d
  rw [e]
  exact parseXyz_reject_words _ _ _ _ (numLine_words _) (by decide) (Or.inl (by simp))

/-- the raw XYZ reader rejects XCFG text: the first line has five columns -/
theorem rawxyz_on_xcfg (d : XcfgS) : parseRaw (writeXcfg d) = .error .sfe := by
  obtain ⟨ls, e⟩ := writeXcfg_cons d
  rw [e]
  apply parseRaw_reject
  · rw [numLine_words]; exact (by decide : ("Number".toList == ['#']) = false)
  · exact ⟨_, List.mem_cons_self, by rw [numLine_words]; simp⟩

theorem pdb_on_xcfg (d : XcfgS) : parsePdb (writeXcfg d) = .error .sfe := by
  obtain ⟨ls, e⟩ := writeXcfg_cons d
  rw [e]
  exact parsePdb_reject_words _ _ _ _ (numLine_words _) (not_pdbRecord (c := 'N') (cs := "umber".toList) (.inr (by decide)))

theorem xcfgAtomLines_noWord (k : Str) (hp : plainWord k = true) (L : XLayout) (as : List XAtom)
    (hel : ∀ a ∈ as, elemOk a.el = true) (hk : ∀ a ∈ as, wordFree k a.el = true) :
    ∀ prev, ∀ l ∈ xcfgAtomLines L prev as, FirstWordNot [k] l := by
  induction as with
  | nil => intro prev l hl; simp [xcfgAtomLines] at hl
  | cons a as ih =>
    intro prev l hl
    have hentry : FirstWordNot [k] (xcfgEntry L a) := by
      cases hv : entryVals L a with
      | nil => exact absurd hv (entryVals_ne_nil L a)
      | cons v vs =>
        have hs : splitWs (xcfgEntry L a) = g8 v :: vs.map g8 := by
          rw [xcfgEntry_eq, splitWs_entry, hv]; rfl
        obtain ⟨c, cs, e, hc⟩ := fmtG_numHead 8 v
        exact firstWordNot_num hp hs e hc
    have hrest := ih (fun b hb => hel b (List.mem_cons_of_mem _ hb)) (fun b hb => hk b (List.mem_cons_of_mem _ hb))
    simp only [xcfgAtomLines, List.mem_append, List.mem_cons] at hl
    rcases hl with hl | rfl | hl
    · split at hl
      · cases hl
      · simp only [List.mem_cons, List.not_mem_nil, or_false] at hl
        rcases hl with rfl | rfl
        · have hs : splitWs (fmtF 0 4 a.mass) = [fmtFbody 4 a.mass] := (PadOf_fmtF 0 4 a.mass).split_last
          obtain ⟨c, cs, e, hc⟩ := fmtFbody_numHead 4 a.mass
          exact firstWordNot_num hp hs e hc
        · exact firstWordNot_one (splitWs_tok_end (IsTok_of_elemOk (hel a List.mem_cons_self)))
            (wordFree_ne (hk a List.mem_cons_self))
    · exact hentry
    · exact hrest _ l hl

theorem xcfg_noWord (k : Str) (hp : plainWord k = true) (d : XcfgS) (hr : reprXcfg d = true)
    (hk : xcfgWordFree k d = true) : ∀ l ∈ writeXcfg d, FirstWordNot [k] l := by
  obtain ⟨_, _, _, hwf⟩ := reprXcfg_spec d hr
  obtain ⟨c, c2, t, rfl, hn, hN, hA, hH, he, hau⟩ := plainWord_spec hp
  have hdot : c ≠ '.' := by intro e; subst e; revert hn; decide
  intro l hl
  rw [writeXcfg_eq, ← writeXcfgL_eq] at hl
  simp only [List.mem_append, List.mem_cons, List.mem_map, List.not_mem_nil, or_false] at hl
  rcases hl with ((((((rfl | rfl) | ⟨k, _, rfl⟩) | hl) | rfl) | ⟨p, _, rfl⟩) | rfl) | hl
  · exact headNot1 (c := 'N') rfl (by decide) (by intro t e; cases e; exact hN rfl)
  · exact headNot1 (c := 'A') rfl (by decide) (by intro t e; cases e; exact hA rfl)
  · exact headNot1 (c := 'H') rfl (by decide) (by intro t e; cases e; exact hH rfl)
  · split at hl
    · simp only [List.mem_cons, List.not_mem_nil, or_false] at hl; subst hl
      exact headNot1 (c := '.') rfl (by decide) (by intro t e; cases e; exact hdot rfl)
    · cases hl
  · exact headNot1 (c := 'e') rfl (by decide) (by intro t e; cases e; exact he rfl)
  · exact headNot2 (c := 'a') (c2 := 'u') rfl (by decide) (by decide) (by intro t e; cases e; exact hau rfl rfl)
  · intro w ws e; cases e
  · exact xcfgAtomLines_noWord _ hp _ d.atoms (fun a ha => (hwf a ha).1) (fun a ha => List.all_eq_true.mp hk a ha) none l hl

theorem xcfg_noCell (d : XcfgS) (hr : reprXcfg d = true) (hk : xcfgKwFree d = true) :
    ∀ l ∈ writeXcfg d, FirstWordNot [kwCell, kwDcell] l := fun l hl =>
  .pair (xcfg_noWord _ plain_cell d hr (all_kwFree hk).1 l hl)
    (xcfg_noWord _ plain_dcell d hr (all_kwFree hk).2 l hl)

theorem xcfg_noAtoms (d : XcfgS) (hr : reprXcfg d = true) (hk : xcfgAtomsFree d = true) :
    ∀ l ∈ writeXcfg d, FirstWordNot [kwAtoms] l := xcfg_noWord _ plain_atoms d hr hk

theorem discus_on_xcfg (d : XcfgS) (hr : reprXcfg d = true) (hk : xcfgKwFree d = true) :
    parseDiscus (writeXcfg d) = .error .sfe ∨ parseDiscus (writeXcfg d) = .error .notImpl :=
  parseDiscus_noCell _ (fun l hl => (xcfg_noCell d hr hk l hl).mono (by simp))

theorem pdffit_on_xcfg (d : XcfgS) (hr : reprXcfg d = true) (hk : xcfgKwFree d = true) :
    parsePdffit (writeXcfg d) = .error .sfe :=
  parsePdffit_noCell _ (xcfg_noCell d hr hk)

theorem discus_on_xcfg_atoms (d : XcfgS) (hr : reprXcfg d = true) (ha : xcfgAtomsFree d = true) :
    parseDiscus (writeXcfg d) = .error .sfe ∨ parseDiscus (writeXcfg d) = .error .notImpl :=
  parseDiscus_noAtoms _ (xcfg_noAtoms d hr ha)

theorem pdffit_on_xcfg_atoms (d : XcfgS) (hr : reprXcfg d = true) (ha : xcfgAtomsFree d = true)
    (hd : xcfgDcellFree d = true) : parsePdffit (writeXcfg d) = .error .sfe :=
  parsePdffit_noAtoms _ (fun l hl => .pair (xcfg_noAtoms d hr ha l hl) (xcfg_noWord _ plain_dcell d hr hd l hl))

theorem pdffit_on_xcfg_atoms' (d : XcfgS) (hr : reprXcfg d = true) (ha : xcfgAtomsFree d = true) :
    parsePdffit (writeXcfg d) = .error .sfe ∨ parsePdffit (writeXcfg d) = .error .unmodelled :=
  (parsePdffit_noAtoms' _ (xcfg_noAtoms d hr ha)).imp id And.left

theorem discus_on_xcfg_either (d : XcfgS) (hr : reprXcfg d = true)
    (h : xcfgKwFree d = true ∨ xcfgAtomsFree d = true) :
    parseDiscus (writeXcfg d) = .error .sfe ∨ parseDiscus (writeXcfg d) = .error .notImpl :=
  h.elim (discus_on_xcfg d hr) (discus_on_xcfg_atoms d hr)

theorem pdffit_on_xcfg_either (d : XcfgS) (hr : reprXcfg d = true)
    (h : xcfgKwFree d = true ∨ (xcfgAtomsFree d = true ∧ xcfgDcellFree d = true)) :
    parsePdffit (writeXcfg d) = .error .sfe :=
  h.elim (pdffit_on_xcfg d hr) (fun h => pdffit_on_xcfg_atoms d hr h.1 h.2)

/-- line level own entry for XCFG -/
theorem parseXcfg_writeXcfg (d : XcfgS) (h : reprXcfg d = true) : parseXcfg (writeXcfg d) = .ok (quantXcfg d) := by
  obtain ⟨hne, hb, hs, hwf⟩ := reprXcfg_spec d h
  rw [writeXcfg_eq, quantXcfg_eq]
  exact parseXcfg_writeXcfgL _ d hne hb (layout_aux_tok d hs) _ (layout_aux_length d) hwf

example : xcfgKwFree ⟨[3, 0, 0, 0, 3, 0, 0, 0, 3], false, [],
    [⟨"C".toList, 12, ⟨0, 0, 0⟩, 1, [0, 0, 0, 0, 0, 0, 0, 0, 0], none, []⟩]⟩ = true ∧
  reprXcfg ⟨[3, 0, 0, 0, 3, 0, 0, 0, 3], false, [],
    [⟨"C".toList, 12, ⟨0, 0, 0⟩, 1, [0, 0, 0, 0, 0, 0, 0, 0, 0], none, []⟩]⟩ = true := by decide +kernel

/-- non-vacuity; an element `cell` fails `xcfgKwFree` and satisfies `xcfgAtomsFree` -/
example : xcfgAtomsFree ⟨[3, 0, 0, 0, 3, 0, 0, 0, 3], false, [],
    [⟨"C".toList, 12, ⟨0, 0, 0⟩, 1, [0, 0, 0, 0, 0, 0, 0, 0, 0], none, []⟩]⟩ = true ∧
  xcfgDcellFree ⟨[3, 0, 0, 0, 3, 0, 0, 0, 3], false, [],
    [⟨"C".toList, 12, ⟨0, 0, 0⟩, 1, [0, 0, 0, 0, 0, 0, 0, 0, 0], none, []⟩]⟩ = true ∧
  reprXcfg ⟨[3, 0, 0, 0, 3, 0, 0, 0, 3], false, [],
    [⟨"C".toList, 12, ⟨0, 0, 0⟩, 1, [0, 0, 0, 0, 0, 0, 0, 0, 0], none, []⟩]⟩ = true := by decide +kernel
example : xcfgKwFree ⟨[3, 0, 0, 0, 3, 0, 0, 0, 3], false, [],
    [⟨"cell".toList, 12, ⟨0, 0, 0⟩, 1, [0, 0, 0, 0, 0, 0, 0, 0, 0], none, []⟩]⟩ = false ∧
  xcfgAtomsFree ⟨[3, 0, 0, 0, 3, 0, 0, 0, 3], false, [],
    [⟨"cell".toList, 12, ⟨0, 0, 0⟩, 1, [0, 0, 0, 0, 0, 0, 0, 0, 0], none, []⟩]⟩ = true ∧
  xcfgDcellFree ⟨[3, 0, 0, 0, 3, 0, 0, 0, 3], false, [],
    [⟨"cell".toList, 12, ⟨0, 0, 0⟩, 1, [0, 0, 0, 0, 0, 0, 0, 0, 0], none, []⟩]⟩ = true ∧
  reprXcfg ⟨[3, 0, 0, 0, 3, 0, 0, 0, 3], false, [],
    [⟨"cell".toList, 12, ⟨0, 0, 0⟩, 1, [0, 0, 0, 0, 0, 0, 0, 0, 0], none, []⟩]⟩ = true := by decide +kernel

/-! ## assembly: rows of the matrix and automatic detection on the models -/

open DS.Load DS.Props.C12

/-- what a parser returns: the document type of its format -/
inductive Res where
  | xyz (d : XyzS) | rawxyz (d : List PAtom) | discus (d : DiscusS) | pdffit (d : PdffitS) | pdb (d : PdbS)
  | xcfg (d : XcfgRead) | cif (d : CifRead)

def lift {α : Type} (tag : α → Res) : PRes α → Outcome Res
  | .ok r => .ok (tag r)
  | .error e => .err (showErr e) ""

/-- the candidate formats of the registry under test -/
def allFormats : List String := ["cif", "discus", "pdb", "pdffit", "rawxyz", "xcfg", "xyz"]

/-- the parser table on the lines `t`: the six modelled readers; the CIF reader (PyCifRW + glue) is the parameter
`cifP` -/
def modelParse (cifP : List Str → Outcome Res) (t : List Str) (f : String) : Outcome Res :=
  if f = "xyz" then lift .xyz (parseXyz t)
  else if f = "rawxyz" then lift .rawxyz (parseRaw t)
  else if f = "discus" then lift .discus (parseDiscus t)
  else if f = "pdffit" then lift .pdffit (parsePdffit t)
  else if f = "pdb" then lift .pdb (parsePdb t)
  else if f = "xcfg" then lift .xcfg (parseXcfg t)
  else if f = "cif" then cifP t
  else .err "StructureFormatError" ""

/-- one row of the matrix, for the lines `t` written in format `g`: `g`'s reader returns `r`, every other candidate
raises an exception that the automatic parser swallows -/
structure Row (cifP : List Str → Outcome Res) (t : List Str) (g : String) (r : Res) : Prop where
  own : modelParse cifP t g = .ok r
  others : ∀ f ∈ allFormats, f ≠ g → Swallowed genAutoCfg (modelParse cifP t) f

theorem modelParse_xyz (cifP : List Str → Outcome Res) (t : List Str) : modelParse cifP t "xyz" = lift .xyz (parseXyz t) := rfl
theorem modelParse_rawxyz (cifP : List Str → Outcome Res) (t : List Str) : modelParse cifP t "rawxyz" = lift .rawxyz (parseRaw t) := rfl
theorem modelParse_discus (cifP : List Str → Outcome Res) (t : List Str) : modelParse cifP t "discus" = lift .discus (parseDiscus t) := rfl
theorem modelParse_pdffit (cifP : List Str → Outcome Res) (t : List Str) : modelParse cifP t "pdffit" = lift .pdffit (parsePdffit t) := rfl
theorem modelParse_pdb (cifP : List Str → Outcome Res) (t : List Str) : modelParse cifP t "pdb" = lift .pdb (parsePdb t) := rfl
theorem modelParse_xcfg (cifP : List Str → Outcome Res) (t : List Str) : modelParse cifP t "xcfg" = lift .xcfg (parseXcfg t) := rfl

theorem swallowed_lift {α : Type} (tag : α → Res) {p : PRes α} {parse : String → Outcome Res} {f : String}
    (hf : parse f = lift tag p) (h : p = .error .sfe ∨ p = .error .notImpl) : Swallowed genAutoCfg parse f := by
  rcases h with h | h
  · exact gen_swallowed (by rw [hf, h]; rfl) (.inl rfl)
  · exact gen_swallowed (by rw [hf, h]; rfl) (.inr rfl)

theorem candidates_eq : candidates genOrderCfg genRegistry = allFormats := by decide +kernel

/-- a row of the matrix decides automatic detection, for every file name: the format reported is the one the text was
written in, and the structure is the one its own reader returns -/
theorem detected_of_row (cifP : List Str → Outcome Res) (t : List Str) (g : String) (r : Res) (hg : g ∈ allFormats)
    (row : Row cifP t g r) (fn : Option String) :
    auto genAutoCfg (modelParse cifP t) (orderFor genOrderCfg genRegistry fn) = .ok g r := by
  have hperm := gen_order_perm fn
  rw [candidates_eq] at hperm
  have hgo : g ∈ orderFor genOrderCfg genRegistry fn := hperm.mem_iff.mpr hg
  have hroa : RejectOrAgree genAutoCfg (modelParse cifP t) (fun a b => a = b) (orderFor genOrderCfg genRegistry fn) g r := by
    refine ⟨row.own, ?_⟩
    intro f hf
    by_cases hfg : f = g
    · right; subst hfg; exact ⟨r, row.own, rfl⟩
    · left; exact row.others f (hperm.mem_iff.mp hf) hfg
  obtain ⟨f, r', ha, hfo, hf, hs⟩ := written_text_detected_partial genAutoCfg _ _ _ g r hgo hroa
  by_cases hfg : f = g
  · subst hfg; subst hs; exact ha
  · obtain ⟨k, m, hk, _⟩ := row.others f (hperm.mem_iff.mp hfo) hfg
    rw [hk] at hf; cases hf

theorem forall_formats {P : String → Prop} (hcif : P "cif") (hdiscus : P "discus") (hpdb : P "pdb") (hpdffit : P "pdffit")
    (hraw : P "rawxyz") (hxcfg : P "xcfg") (hxyz : P "xyz") : ∀ f ∈ allFormats, P f := by
  intro f hf
  simp only [allFormats, List.mem_cons, List.not_mem_nil, or_false] at hf
  rcases hf with rfl | rfl | rfl | rfl | rfl | rfl | rfl <;> assumption

theorem Row.of_entries {cifP : List Str → Outcome Res} {t : List Str} {g : String} {r : Res}
    (own : modelParse cifP t g = .ok r)
    (hcif : "cif" ≠ g → Swallowed genAutoCfg (modelParse cifP t) "cif")
    (hdiscus : "discus" ≠ g → parseDiscus t = .error .sfe ∨ parseDiscus t = .error .notImpl)
    (hpdb : "pdb" ≠ g → parsePdb t = .error .sfe)
    (hpdffit : "pdffit" ≠ g → parsePdffit t = .error .sfe)
    (hraw : "rawxyz" ≠ g → parseRaw t = .error .sfe)
    (hxcfg : "xcfg" ≠ g → parseXcfg t = .error .sfe)
    (hxyz : "xyz" ≠ g → parseXyz t = .error .sfe) : Row cifP t g r :=
  ⟨own, forall_formats (P := fun f => f ≠ g → Swallowed genAutoCfg (modelParse cifP t) f) hcif
    (fun h => swallowed_lift .discus (modelParse_discus cifP t) (hdiscus h))
    (fun h => swallowed_lift .pdb (modelParse_pdb cifP t) (.inl (hpdb h)))
    (fun h => swallowed_lift .pdffit (modelParse_pdffit cifP t) (.inl (hpdffit h)))
    (fun h => swallowed_lift .rawxyz (modelParse_rawxyz cifP t) (.inl (hraw h)))
    (fun h => swallowed_lift .xcfg (modelParse_xcfg cifP t) (.inl (hxcfg h)))
    (fun h => swallowed_lift .xyz (modelParse_xyz cifP t) (.inl (hxyz h)))⟩

/-- row `xyz` under either criterion: the `cif` entry is the hypothesis `hcif` -/
theorem matrix_xyz' (cifP : List Str → Outcome Res) (d : XyzS) (hr : reprXyz d = true)
    (hk : xyzKwFree d = true ∨ (xyzAtomsFree d = true ∧ xyzDcellFree d = true))
    (hcif : Swallowed genAutoCfg (modelParse cifP (writeXyz d)) "cif") :
    Row cifP (writeXyz d) "xyz" (.xyz (quantXyz d)) := by
  have own : parseXyz (writeXyz d) = .ok (quantXyz d) := by
    simp only [reprXyz, rangeXyz, Bool.and_eq_true] at hr
    exact parseXyz_writeXyz d hr.2
  exact .of_entries (by rw [modelParse_xyz, own]; rfl) (fun _ => hcif)
    (fun _ => discus_on_xyz_either d hr (hk.imp id And.left)) (fun _ => pdb_on_xyz d)
    (fun _ => pdffit_on_xyz_either d hr hk) (fun _ => rawxyz_on_xyz d) (fun _ => xcfg_on_xyz d) (fun h => absurd rfl h)

theorem matrix_xyz (cifP : List Str → Outcome Res) (d : XyzS) (hr : reprXyz d = true) (hk : xyzKwFree d = true)
    (hcif : Swallowed genAutoCfg (modelParse cifP (writeXyz d)) "cif") :
    Row cifP (writeXyz d) "xyz" (.xyz (quantXyz d)) :=
  matrix_xyz' cifP d hr (.inl hk) hcif

theorem matrix_rawxyz' (cifP : List Str → Outcome Res) (d : List PAtom) (hr : reprRaw d = true) (hne : d ≠ [])
    (hk : rawKwFree d = true ∨ (rawAtomsFree d = true ∧ rawDcellFree d = true)) (hp : rawPdbFree d = true)
    (hcif : Swallowed genAutoCfg (modelParse cifP (writeRaw d)) "cif") :
    Row cifP (writeRaw d) "rawxyz" (.rawxyz (quantRaw d)) :=
  .of_entries (by rw [modelParse_rawxyz, parseRaw_writeRaw d hr]; rfl) (fun _ => hcif)
    (fun _ => discus_on_rawxyz_either d hr (hk.imp id And.left)) (fun _ => pdb_on_rawxyz d hr hne hp)
    (fun _ => pdffit_on_rawxyz_either d hr hk) (fun h => absurd rfl h) (fun _ => xcfg_on_rawxyz d hr)
    (fun _ => xyz_on_rawxyz d hr hne)

theorem matrix_rawxyz (cifP : List Str → Outcome Res) (d : List PAtom) (hr : reprRaw d = true) (hne : d ≠ [])
    (hk : rawKwFree d = true) (hp : rawPdbFree d = true)
    (hcif : Swallowed genAutoCfg (modelParse cifP (writeRaw d)) "cif") :
    Row cifP (writeRaw d) "rawxyz" (.rawxyz (quantRaw d)) :=
  matrix_rawxyz' cifP d hr hne (.inl hk) hp hcif

theorem matrix_discus (cifP : List Str → Outcome Res) (d : DiscusS) (hr : reprDiscus d = true) (hne : d.atoms ≠ [])
    (hcif : Swallowed genAutoCfg (modelParse cifP (writeDiscus d)) "cif") :
    Row cifP (writeDiscus d) "discus" (.discus (quantDiscus d)) := by
  have own : parseDiscus (writeDiscus d) = .ok (quantDiscus d) := by
    have hr' := hr
    simp only [reprDiscus, rangeDiscus, Bool.and_eq_true] at hr'
    exact parseDiscus_writeDiscus d hr'.2
  exact .of_entries (by rw [modelParse_discus, own]; rfl) (fun _ => hcif)
    (fun h => absurd rfl h) (fun _ => pdb_on_discus d) (fun _ => pdffit_on_discus d hr hne)
    (fun _ => rawxyz_on_discus d) (fun _ => xcfg_on_discus d) (fun _ => xyz_on_discus d)

theorem matrix_pdffit (cifP : List Str → Outcome Res) (d : PdffitS) (hr : reprPdffit d = true)
    (hcif : Swallowed genAutoCfg (modelParse cifP (writePdffit d)) "cif") :
    Row cifP (writePdffit d) "pdffit" (.pdffit (quantPdffit d)) := by
  have own : parsePdffit (writePdffit d) = .ok (quantPdffit d) := by
    simp only [reprPdffit, rangePdffit, Bool.and_eq_true] at hr
    exact parsePdffit_writePdffit d hr.2
  exact .of_entries (by rw [modelParse_pdffit, own]; rfl) (fun _ => hcif)
    (fun _ => .inl (discus_on_pdffit d)) (fun _ => pdb_on_pdffit d) (fun h => absurd rfl h)
    (fun _ => rawxyz_on_pdffit d) (fun _ => xcfg_on_pdffit d) (fun _ => xyz_on_pdffit d)

/-- row `pdb` (no condition beyond the round-trip range) -/
theorem matrix_pdb (cifP : List Str → Outcome Res) (d : PdbS) (hr : reprPdb d = true)
    (hcif : Swallowed genAutoCfg (modelParse cifP (writePdb d)) "cif") :
    Row cifP (writePdb d) "pdb" (.pdb (quantPdb d)) :=
  .of_entries (by rw [modelParse_pdb, parsePdb_writePdb d hr]; rfl) (fun _ => hcif)
    (fun _ => discus_on_pdb d) (fun h => absurd rfl h) (fun _ => pdffit_on_pdb d) (fun _ => rawxyz_on_pdb d)
    (fun _ => xcfg_on_pdb d) (fun _ => xyz_on_pdb d)

theorem matrix_xcfg' (cifP : List Str → Outcome Res) (d : XcfgS) (hr : reprXcfg d = true)
    (hk : xcfgKwFree d = true ∨ (xcfgAtomsFree d = true ∧ xcfgDcellFree d = true))
    (hcif : Swallowed genAutoCfg (modelParse cifP (writeXcfg d)) "cif") :
    Row cifP (writeXcfg d) "xcfg" (.xcfg (quantXcfg d)) :=
  .of_entries (by rw [modelParse_xcfg, parseXcfg_writeXcfg d hr]; rfl) (fun _ => hcif)
    (fun _ => discus_on_xcfg_either d hr (hk.imp id And.left)) (fun _ => pdb_on_xcfg d)
    (fun _ => pdffit_on_xcfg_either d hr hk) (fun _ => rawxyz_on_xcfg d) (fun h => absurd rfl h)
    (fun _ => xyz_on_xcfg d)

theorem matrix_xcfg (cifP : List Str → Outcome Res) (d : XcfgS) (hr : reprXcfg d = true) (hk : xcfgKwFree d = true)
    (hcif : Swallowed genAutoCfg (modelParse cifP (writeXcfg d)) "cif") :
    Row cifP (writeXcfg d) "xcfg" (.xcfg (quantXcfg d)) :=
  matrix_xcfg' cifP d hr (.inl hk) hcif

/-! ## the written-text clause of C12 on the models -/

/-- the `cif` column — the only entries of the 6 × 7 matrix that remain hypotheses: the CIF reader (PyCifRW's
tokeniser and grammar, not modelled for foreign text) raises a swallowed exception on the lines `t` -/
def CifRejects (cifP : List Str → Outcome Res) (t : List Str) : Prop :=
  Swallowed genAutoCfg (modelParse cifP t) "cif"

/-- **Written text is detected (models), either criterion.**  `written_text_detected_models` with the hypotheses on the
words of the document weakened to: no word `cell` / `dcell` (`…KwFree`), OR no word `atoms` and no word `dcell`
(`…AtomsFree`, `…DcellFree`: the DISCUS and PDFfit readers require an `atoms` record, 56ab7f4).  The rows `discus`,
`pdffit`, `pdb` carry no such hypothesis. -/
theorem written_text_detected_models' (cifP : List Str → Outcome Res) (fn : Option String) :
    (∀ d : XyzS, reprXyz d = true → (xyzKwFree d = true ∨ (xyzAtomsFree d = true ∧ xyzDcellFree d = true)) →
      CifRejects cifP (writeXyz d) →
      auto genAutoCfg (modelParse cifP (writeXyz d)) (orderFor genOrderCfg genRegistry fn) = .ok "xyz" (.xyz (quantXyz d))) ∧
    (∀ d : List PAtom, reprRaw d = true → d ≠ [] →
      (rawKwFree d = true ∨ (rawAtomsFree d = true ∧ rawDcellFree d = true)) → rawPdbFree d = true →
      CifRejects cifP (writeRaw d) →
      auto genAutoCfg (modelParse cifP (writeRaw d)) (orderFor genOrderCfg genRegistry fn) = .ok "rawxyz" (.rawxyz (quantRaw d))) ∧
    (∀ d : DiscusS, reprDiscus d = true → d.atoms ≠ [] → CifRejects cifP (writeDiscus d) →
      auto genAutoCfg (modelParse cifP (writeDiscus d)) (orderFor genOrderCfg genRegistry fn) = .ok "discus" (.discus (quantDiscus d))) ∧
    (∀ d : PdffitS, reprPdffit d = true → CifRejects cifP (writePdffit d) →
      auto genAutoCfg (modelParse cifP (writePdffit d)) (orderFor genOrderCfg genRegistry fn) = .ok "pdffit" (.pdffit (quantPdffit d))) ∧
    (∀ d : PdbS, reprPdb d = true → CifRejects cifP (writePdb d) →
      auto genAutoCfg (modelParse cifP (writePdb d)) (orderFor genOrderCfg genRegistry fn) = .ok "pdb" (.pdb (quantPdb d))) ∧
    (∀ d : XcfgS, reprXcfg d = true → (xcfgKwFree d = true ∨ (xcfgAtomsFree d = true ∧ xcfgDcellFree d = true)) →
      CifRejects cifP (writeXcfg d) →
      auto genAutoCfg (modelParse cifP (writeXcfg d)) (orderFor genOrderCfg genRegistry fn) = .ok "xcfg" (.xcfg (quantXcfg d))) :=
  ⟨fun d hr hk hc => detected_of_row cifP _ _ _ (by decide) (matrix_xyz' cifP d hr hk hc) fn,
   fun d hr hne hk hp hc => detected_of_row cifP _ _ _ (by decide) (matrix_rawxyz' cifP d hr hne hk hp hc) fn,
   fun d hr hne hc => detected_of_row cifP _ _ _ (by decide) (matrix_discus cifP d hr hne hc) fn,
   fun d hr hc => detected_of_row cifP _ _ _ (by decide) (matrix_pdffit cifP d hr hc) fn,
   fun d hr hc => detected_of_row cifP _ _ _ (by decide) (matrix_pdb cifP d hr hc) fn,
   fun d hr hk hc => detected_of_row cifP _ _ _ (by decide) (matrix_xcfg' cifP d hr hk hc) fn⟩

/-- **Written text is detected (models).**  For the lines produced by the model of the writer of `g ∈ {xyz, rawxyz,
discus, pdffit, pdb, xcfg}` from a document in the round-trip range of `g` (non-empty where that range does not say
so already; `kwFree` / `rawPdbFree`, see the head of the file), and for EVERY file name `fn`, the
automatic parser over the candidate order of the registry under test — with the models of the six readers and any CIF
reader that rejects these lines — succeeds, reports `g`, and returns exactly what `g`'s own reader returns
(`quant_g d`).  All 30 off-diagonal entries among the six formats are proved from the models; the six `cif`-column
entries are the hypothesis `CifRejects`. -/
theorem written_text_detected_models (cifP : List Str → Outcome Res) (fn : Option String) :
    (∀ d : XyzS, reprXyz d = true → xyzKwFree d = true → CifRejects cifP (writeXyz d) →
      auto genAutoCfg (modelParse cifP (writeXyz d)) (orderFor genOrderCfg genRegistry fn) = .ok "xyz" (.xyz (quantXyz d))) ∧
    (∀ d : List PAtom, reprRaw d = true → d ≠ [] → rawKwFree d = true → rawPdbFree d = true → CifRejects cifP (writeRaw d) →
      auto genAutoCfg (modelParse cifP (writeRaw d)) (orderFor genOrderCfg genRegistry fn) = .ok "rawxyz" (.rawxyz (quantRaw d))) ∧
    (∀ d : DiscusS, reprDiscus d = true → d.atoms ≠ [] → CifRejects cifP (writeDiscus d) →
      auto genAutoCfg (modelParse cifP (writeDiscus d)) (orderFor genOrderCfg genRegistry fn) = .ok "discus" (.discus (quantDiscus d))) ∧
    (∀ d : PdffitS, reprPdffit d = true → CifRejects cifP (writePdffit d) →
      auto genAutoCfg (modelParse cifP (writePdffit d)) (orderFor genOrderCfg genRegistry fn) = .ok "pdffit" (.pdffit (quantPdffit d))) ∧
    (∀ d : PdbS, reprPdb d = true → CifRejects cifP (writePdb d) →
      auto genAutoCfg (modelParse cifP (writePdb d)) (orderFor genOrderCfg genRegistry fn) = .ok "pdb" (.pdb (quantPdb d))) ∧
    (∀ d : XcfgS, reprXcfg d = true → xcfgKwFree d = true → CifRejects cifP (writeXcfg d) →
      auto genAutoCfg (modelParse cifP (writeXcfg d)) (orderFor genOrderCfg genRegistry fn) = .ok "xcfg" (.xcfg (quantXcfg d))) :=
  have h := written_text_detected_models' cifP fn
  ⟨fun d hr hk => h.1 d hr (.inl hk), fun d hr hne hk => h.2.1 d hr hne (.inl hk), h.2.2.1, h.2.2.2.1, h.2.2.2.2.1,
   fun d hr hk => h.2.2.2.2.2 d hr (.inl hk)⟩

/-- non-vacuity: a CIF reader that answers every text with the format error satisfies `CifRejects` everywhere, and
the theorem then applies to a concrete document under a misleading file name (`x.cif` puts `cif` first) -/
example : ∀ t, CifRejects (fun _ => .err "StructureFormatError" "not a CIF") t :=
  fun _ => gen_swallowed rfl (.inl rfl)
example : auto genAutoCfg (modelParse (fun _ => .err "StructureFormatError" "not a CIF")
      (writeXyz ⟨"NaCl".toList, [⟨"Na".toList, 0, 1/2, -1/3⟩]⟩)) (orderFor genOrderCfg genRegistry (some "x.cif")) =
    .ok "xyz" (.xyz (quantXyz ⟨"NaCl".toList, [⟨"Na".toList, 0, 1/2, -1/3⟩]⟩)) :=
  (written_text_detected_models _ _).1 _ (by decide +kernel) (by decide +kernel) (gen_swallowed rfl (.inl rfl))

/-- non-vacuity on an input that only the second criterion covers: XYZ text with the title `cell 1 1 1`, under a
misleading file name, is detected as `xyz` (the right disjunct holds, the left one does not) -/
example : auto genAutoCfg (modelParse (fun _ => .err "StructureFormatError" "not a CIF")
      (writeXyz ⟨"cell 1 1 1".toList, [⟨"C".toList, 0, 0, 0⟩]⟩)) (orderFor genOrderCfg genRegistry (some "x.discus")) =
    .ok "xyz" (.xyz (quantXyz ⟨"cell 1 1 1".toList, [⟨"C".toList, 0, 0, 0⟩]⟩)) :=
  (written_text_detected_models' _ _).1 _ (by decide +kernel) (Or.inr (by decide +kernel)) (gen_swallowed rfl (.inl rfl))

end DS.Props.C12Matrix


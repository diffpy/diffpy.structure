import DS.Model.Column
/-!
# C08 — whole-column attribute assignment (`stru.xyz = v`, `stru.occupancy = v`, `stru.U = v`, …)

The container part of C08 (`DS.Props.C08`) speaks about atom identities and lattice references, which a
column assignment does not touch.  What it does change is one attribute of every atom; the statement
"as the same operation on a plain list of atoms would give" is NumPy's broadcasting of the value against
`(n,) + shape(attribute)`.  The theorems hold for every number of atoms `n` and every attribute shape.
-/
namespace DS.Props.C08Column
open DS.Column

theorem allSome_map_some {α β : Type} (f : α → β) (l : List α) :
    allSome (l.map (fun x => some (f x))) = some (l.map f) := by
  induction l with
  | nil => rfl
  | cons x r ih => simp [allSome, ih]

theorem flatten_chunks {α : Type} (k : Nat) : ∀ (n : Nat) (d : List α), d.length = n * k → (chunks k n d).flatten = d := by
  intro n
  induction n with
  | zero => intro d h; simp at h; subst h; rfl
  | succ n ih =>
    intro d h
    have hle : n * k ≤ (n + 1) * k := Nat.mul_le_mul_right k (Nat.le_succ n)
    have h1 : (d.take (n * k)).length = n * k := by
      rw [List.length_take, h]; exact Nat.min_eq_left hle
    have hc : chunks k (n + 1) d = chunks k n (d.take (n * k)) ++ [(d.drop (n * k)).take k] := by
      simp only [chunks, List.range_succ, List.map_append, List.map_cons, List.map_nil]
      congr 1
      apply List.map_congr_left
      intro i hi
      have hi' : i < n := List.mem_range.mp hi
      have : i * k + k ≤ n * k := by
        have := Nat.mul_le_mul_right k (Nat.succ_le_of_lt hi'); simpa [Nat.succ_mul] using this
      rw [List.drop_take, List.take_take]
      congr 1
      omega
    rw [hc, List.flatten_append, ih _ h1]
    simp only [List.flatten_cons, List.flatten_nil, List.append_nil]
    have : ((d.drop (n * k)).take k) = d.drop (n * k) := by
      apply List.take_of_length_le
      simp [List.length_drop, h, Nat.succ_mul]
    rw [this, List.take_append_drop]

theorem bc_same : ∀ (ts : List Nat) (d : List Int), d.length = prod ts → bc ts ts d = some d := by
  intro ts
  induction ts with
  | nil => intro d h; simp [bc, prod] at *; exact h
  | cons t ts ih =>
    intro d h
    simp only [bc, if_true]
    have hs : ∀ i ∈ List.range t, bc ts ts ((d.drop (i * prod ts)).take (prod ts)) = some ((d.drop (i * prod ts)).take (prod ts)) := by
      intro i hi
      apply ih
      have hi' : i < t := List.mem_range.mp hi
      have : i * prod ts + prod ts ≤ t * prod ts := by
        have := Nat.mul_le_mul_right (prod ts) (Nat.succ_le_of_lt hi'); simpa [Nat.succ_mul] using this
      simp [List.length_take, List.length_drop, h, prod]; omega
    have : (List.range t).map (fun i => bc ts ts ((d.drop (i * prod ts)).take (prod ts)))
        = (List.range t).map (fun i => some ((d.drop (i * prod ts)).take (prod ts))) :=
      List.map_congr_left hs
    rw [this, allSome_map_some]
    simp only [Option.map_some]
    congr 1
    exact flatten_chunks (prod ts) t d (by simpa [prod] using h)

theorem chunks_replicate_flatten (k n : Nat) (v : List Int) (hv : v.length = k) :
    chunks k n (List.replicate n v).flatten = List.replicate n v := by
  induction n with
  | zero => simp [chunks]
  | succ n ih =>
    rw [List.replicate_succ, List.flatten_cons]
    simp only [chunks, List.range_succ_eq_map, List.map_cons, List.map_map]
    have h0 : ((v ++ (List.replicate n v).flatten).drop (0 * k)).take k = v := by
      simp [← hv]
    rw [h0]
    congr 1
    have : (List.range n).map ((fun i => ((v ++ (List.replicate n v).flatten).drop (i * k)).take k) ∘ Nat.succ)
        = (List.range n).map (fun i => (((List.replicate n v).flatten).drop (i * k)).take k) := by
      apply List.map_congr_left
      intro i _
      simp only [Function.comp]
      have : (i + 1) * k = v.length + i * k := by rw [hv, Nat.succ_mul, Nat.add_comm]
      rw [this, List.drop_append]
      have hd : v.drop (v.length + i * k) = [] := List.drop_of_length_le (by omega)
      simp [hd]
    rw [this]
    exact ih

/-- one new value per atom -/
theorem count (n : Nat) (item : List Nat) (sc : Option Int) (vs : List Nat) (vd : List Int) (r : List (List Int))
    (h : setColumn n item sc vs vd = .ok r) : r.length = n := by
  unfold setColumn at h
  split at h
  · rename_i h0; injection h with h; subst h; simp [h0]
  · split at h
    · injection h with h; subst h; simp
    · split at h
      · cases h
      · split at h
        · injection h with h; subst h; simp [chunks]
        · cases h

/-- a Python scalar goes to every component of every atom -/
theorem scalar_all (n : Nat) (item : List Nat) (c : Int) (vs : List Nat) (vd : List Int) (hn : n ≠ 0) :
    setColumn n item (some c) vs vd = .ok (List.replicate n (List.replicate (prod item) c)) := by
  simp [setColumn, hn]

/-- a value with the attribute's own shape is given to every atom in full, whatever the number of atoms
(in particular when `n` equals the leading dimension of the value: 3 atoms and one xyz triple) -/
theorem whole_item (n : Nat) (item : List Nat) (vd : List Int) (hn : n ≠ 0) (hv : vd.length = prod item) :
    setColumn n item none item vd = .ok (List.replicate n vd) := by
  have hp : pad (item.length + 1) item = 1 :: item := by simp [pad]
  simp only [setColumn, hn, if_false, hp]
  have hlt : ¬ item.length > item.length + 1 := by omega
  simp only [hlt, if_false]
  by_cases h1 : n = 1
  · subst h1
    have : bc (1 :: item) (1 :: item) vd = some vd := bc_same (1 :: item) vd (by simp [prod, hv])
    rw [this]
    simp [chunks, ← hv]
  · have hb : bc (n :: item) (1 :: item) vd = some ((List.replicate n vd).flatten) := by
      have h1' : ¬ (1 = n) := fun h => h1 h.symm
      simp only [bc, h1', if_false, if_true, bc_same item vd hv, Option.map_some]
    rw [hb]
    simp only
    rw [chunks_replicate_flatten (prod item) n vd hv]

/-- a value of shape `(n,) + shape(attribute)` gives atom `i` its `i`-th item -/
theorem per_atom (n : Nat) (item : List Nat) (vd : List Int) (hn : n ≠ 0) (hv : vd.length = n * prod item) :
    setColumn n item none (n :: item) vd = .ok (chunks (prod item) n vd) := by
  have hp : pad (item.length + 1) (n :: item) = n :: item := by simp [pad]
  simp only [setColumn, hn, if_false, hp]
  have hlt : ¬ (n :: item).length > item.length + 1 := by simp
  simp only [hlt, if_false]
  rw [bc_same (n :: item) vd (by simpa [prod] using hv)]

/-! non-vacuity: three atoms, one xyz triple / one triple per atom / a scalar -/
example : setColumn 3 [3] none [3] [1, 2, 3] = .ok [[1, 2, 3], [1, 2, 3], [1, 2, 3]] := by decide
example : setColumn 3 [3] none [3, 3] [1, 2, 3, 4, 5, 6, 7, 8, 9] = .ok [[1, 2, 3], [4, 5, 6], [7, 8, 9]] := by decide
example : setColumn 2 [] (some 7) [] [] = .ok [[7], [7]] := by decide
example : setColumn 3 [] none [2] [1, 2] = .valueError := by decide
example : setColumn 2 [3] none [2, 1] [5, 6] = .ok [[5, 5, 5], [6, 6, 6]] := by decide

end DS.Props.C08Column

import DS.Gen.SrcContainer
import DS.Lemmas.World
/-!
# Source tie for the container methods of `Structure` (serves C08)

`DS/Gen/SrcContainer.lean` is regenerated on every run by `translate/src_container.py` from the *current*
`src/diffpy/structure/structure.py`: for every container method the parameters and defaults, every store into a
`.lattice` reference (`links`), the `list` primitives reached through `super(Structure, self)` (`listCalls`), the call
skeleton (`calls`) and all statements after the docstring (`body`).

1. `…_src` theorems (`rfl`): each method is, statement for statement, what the World model transcribes.  Any
   edit of these methods breaks the corresponding theorem (also a harmless one — then the check widens its search and
   reports `no-failing-input-found` at most).
2. `modelTable`, `table_eq`: the per-method parameters the World model relies on (default of `copy=`, list
   primitive, whether the method itself stores a lattice reference) are those extracted from the source, and
   the theorems of section 3 prove that `DS.World.planG` / `World.prep` really have these parameters (for every view /
   world, by unfolding the planner — not by sampling).
-/
namespace DS.Props.SrcContainer
open DS.World DS.Src.Container

/-! ## 1. the methods as written -/

/-- `append(a, copy=True)`: `adup = copy and Atom(a) or a`, link to the structure's lattice, then `list.append` -/
theorem m_append_src : Src.Container.m_append =
  { name := "append",
    params := [("a", ""), ("copy", "True")],
    copyDefault := "True",
    links := ["adup.lattice = self.lattice"],
    listCalls := [("append", "adup")],
    calls := ["Atom(a)", "list.append(adup)"],
    body := ["adup = copy and Atom(a) or a",
      "adup.lattice = self.lattice",
      "super(Structure, self).append(adup)",
      "return"] } := rfl

/-- `insert(idx, a, copy=True)`: as `append`, with `copymod.copy(a)` and `list.insert(idx, adup)` -/
theorem m_insert_src : Src.Container.m_insert =
  { name := "insert",
    params := [("idx", ""), ("a", ""), ("copy", "True")],
    copyDefault := "True",
    links := ["adup.lattice = self.lattice"],
    listCalls := [("insert", "idx, adup")],
    calls := ["copymod.copy(a)", "list.insert(idx, adup)"],
    body := ["adup = copy and copymod.copy(a) or a",
      "adup.lattice = self.lattice",
      "super(Structure, self).insert(idx, adup)",
      "return"] } := rfl

/-- `extend(atoms, copy=None)`: `None` -> all copied for a Structure, otherwise an atom is copied iff it is already a member or was yielded before (`memo`); `True` -> all copied; `False` -> taken as they are; every new atom is linked (`setlat`) *before* `list.extend` -/
theorem m_extend_src : Src.Container.m_extend =
  { name := "extend",
    params := [("atoms", ""), ("copy", "None")],
    copyDefault := "None",
    links := ["setattr(a, 'lattice', self.lattice)"],
    listCalls := [("extend", "newatoms")],
    calls := ["copymod.copy(a)", "copymod.copy(a)", "list.extend(newatoms)"],
    body := ["adups = (copymod.copy(a) for a in atoms)",
      "if copy is None:",
      "    if isinstance(atoms, Structure):",
      "        newatoms = adups",
      "    else:",
      "        memo = set((id(a) for a in self))",
      "        def nextatom(a):",
      "            return a if id(a) not in memo else copymod.copy(a)",
      "        def mark(a):",
      "            return (memo.add(id(a)), a)[-1]",
      "        newatoms = (mark(nextatom(a)) for a in atoms)",
      "elif copy:",
      "    newatoms = adups",
      "else:",
      "    newatoms = atoms",
      "def setlat(a):",
      "    return (setattr(a, 'lattice', self.lattice), a)[-1]",
      "newatoms = [setlat(a) for a in newatoms]",
      "super(Structure, self).extend(newatoms)",
      "return"] } := rfl

/-- `__getitem__`: slice -> `__emptySharedStructure()` + `list.__getitem__` + `extend(lst, copy=False)`; integer -> the member itself; otherwise numpy indexing of `arange(len(self))` (tuples through `numpy.r_`), labels resolved to unique positions first (IndexError for unknown / duplicate labels) -/
theorem d_getitem_src : Src.Container.d_getitem =
  { name := "__getitem__",
    params := [("idx", "")],
    copyDefault := "",
    links := [],
    listCalls := [("__getitem__", "idx"), ("__getitem__", "idx")],
    calls := ["self.__emptySharedStructure()", "list.__getitem__(idx)", "rv.extend(lst, copy=False)", "list.__getitem__(idx)", "list.__getitem__(self, i)", "self.__emptySharedStructure()", "rv.extend(rhs, copy=False)", "STORE labeltoindex[a.label] = duplicate if a.label in labeltoindex else i", "LOAD self[idx2]"],
    body := ["if isinstance(idx, slice):",
      "    rv = self.__emptySharedStructure()",
      "    lst = super(Structure, self).__getitem__(idx)",
      "    rv.extend(lst, copy=False)",
      "    return rv",
      "try:",
      "    rv = super(Structure, self).__getitem__(idx)",
      "    return rv",
      "except TypeError:",
      "    pass",
      "scalarstringlabel = isinstance(idx, str)",
      "hasstringlabel = scalarstringlabel or (isiterable(idx) and any((isinstance(ii, str) for ii in idx)))",
      "if not hasstringlabel:",
      "    idx1 = idx",
      "    if type(idx) is tuple:",
      "        idx1 = numpy.r_[idx]",
      "    indices = numpy.arange(len(self))[idx1]",
      "    rhs = [list.__getitem__(self, i) for i in indices]",
      "    rv = self.__emptySharedStructure()",
      "    rv.extend(rhs, copy=False)",
      "    return rv",
      "duplicate = object()",
      "labeltoindex = {}",
      "for i, a in enumerate(self):",
      "    labeltoindex[a.label] = duplicate if a.label in labeltoindex else i",
      "def _resolveindex(aid):",
      "    aid1 = aid",
      "    if isinstance(aid, str):",
      "        aid1 = labeltoindex.get(aid, None)",
      "        if aid1 is None:",
      "            raise IndexError('Invalid atom label %r.' % aid)",
      "        if aid1 is duplicate:",
      "            raise IndexError('Atom label %r is not unique.' % aid)",
      "    return aid1",
      "if scalarstringlabel:",
      "    idx2 = _resolveindex(idx)",
      "else:",
      "    idx2 = [_resolveindex(i) for i in idx]",
      "    if type(idx) is tuple:",
      "        idx2 = tuple(idx2)",
      "rv = self[idx2]",
      "return rv"] } := rfl

/-- `__setitem__(idx, value, copy=True)`: slice -> with `copy` the members of the assigned slice are kept, everything else is copied (`Atom(a)`), each value is linked while `list.__setitem__` consumes the `filter`; integer -> `Atom(value) if copy else value`, linked *before* `list.__setitem__` (so a failing assignment has already re-linked the atom) -/
theorem d_setitem_src : Src.Container.d_setitem =
  { name := "__setitem__",
    params := [("idx", ""), ("value", ""), ("copy", "True")],
    copyDefault := "True",
    links := ["a.lattice = self.lattice", "vfinal.lattice = self.lattice"],
    listCalls := [("__getitem__", "idx"), ("__setitem__", "idx, vfinal")],
    calls := ["list.__getitem__(idx)", "Atom(a)", "Atom(value)", "list.__setitem__(idx, vfinal)"],
    body := ["if isinstance(idx, slice):",
      "    def _fixlat(a):",
      "        a.lattice = self.lattice",
      "        return a",
      "    v1 = value",
      "    if copy:",
      "        keep = set(super(Structure, self).__getitem__(idx))",
      "        v1 = (a if a in keep else Atom(a) for a in value)",
      "    vfinal = filter(_fixlat, v1)",
      "else:",
      "    vfinal = Atom(value) if copy else value",
      "    vfinal.lattice = self.lattice",
      "super(Structure, self).__setitem__(idx, vfinal)",
      "return"] } := rfl

/-- `__add__`: `copymod.copy(self)` then `+=` -/
theorem d_add_src : Src.Container.d_add =
  { name := "__add__",
    params := [("other", "")],
    copyDefault := "",
    links := [],
    listCalls := [],
    calls := ["copymod.copy(self)", "AUG rv += other"],
    body := ["rv = copymod.copy(self)",
      "rv += other",
      "return rv"] } := rfl

/-- `__iadd__`: `self.extend(other, copy=True)` -/
theorem d_iadd_src : Src.Container.d_iadd =
  { name := "__iadd__",
    params := [("other", "")],
    copyDefault := "",
    links := [],
    listCalls := [],
    calls := ["self.extend(other, copy=True)"],
    body := ["self.extend(other, copy=True)",
      "return self"] } := rfl

/-- `__sub__`: copy of the selection `self[keepindices]` (the intermediate selection re-links the kept atoms to `self.lattice`) -/
theorem d_sub_src : Src.Container.d_sub =
  { name := "__sub__",
    params := [("other", "")],
    copyDefault := "",
    links := [],
    listCalls := [],
    calls := ["copymod.copy(self[keepindices])", "LOAD self[keepindices]"],
    body := ["otherset = set(other)",
      "keepindices = [i for i, a in enumerate(self) if a not in otherset]",
      "rv = copymod.copy(self[keepindices])",
      "return rv"] } := rfl

/-- `__isub__`: `self[:] = [members not in other]` (slice assignment with the default flag: members are kept, not copied) -/
theorem d_isub_src : Src.Container.d_isub =
  { name := "__isub__",
    params := [("other", "")],
    copyDefault := "",
    links := [],
    listCalls := [],
    calls := ["STORE self[:] = [a for a in self if a not in otherset]"],
    body := ["otherset = set(other)",
      "self[:] = [a for a in self if a not in otherset]",
      "return self"] } := rfl

/-- `__mul__`: copy of the empty selection `self[:0]`, then `+= n * self.tolist()` (all copied) -/
theorem d_mul_src : Src.Container.d_mul =
  { name := "__mul__",
    params := [("n", "")],
    copyDefault := "",
    links := [],
    listCalls := [],
    calls := ["copymod.copy(self[:0])", "LOAD self[:0]", "AUG rv += n * self.tolist()", "self.tolist()"],
    body := ["rv = copymod.copy(self[:0])",
      "rv += n * self.tolist()",
      "return rv"] } := rfl

/-- `__imul__`: `n <= 0` -> `self[:] = []`; otherwise `extend((n - 1) * self.tolist(), copy=True)` -/
theorem d_imul_src : Src.Container.d_imul =
  { name := "__imul__",
    params := [("n", "")],
    copyDefault := "",
    links := [],
    listCalls := [],
    calls := ["STORE self[:] = []", "self.extend((n - 1) * self.tolist(), copy=True)", "self.tolist()"],
    body := ["if n <= 0:",
      "    self[:] = []",
      "else:",
      "    self.extend((n - 1) * self.tolist(), copy=True)",
      "return self"] } := rfl

/-- `copy()`: `copymod.copy(self)` -/
theorem m_copy_src : Src.Container.m_copy =
  { name := "copy",
    params := [],
    copyDefault := "",
    links := [],
    listCalls := [],
    calls := ["copymod.copy(self)"],
    body := ["return copymod.copy(self)"] } := rfl

/-- `__copy__(target=None)`: new `Structure()` unless a target is given, a *new* `Lattice(self.lattice)`, then `target[:] = self` (slice assignment with the default flag into an empty target: every atom copied) -/
theorem d_copy_src : Src.Container.d_copy =
  { name := "__copy__",
    params := [("target", "None")],
    copyDefault := "",
    links := ["target.lattice = Lattice(self.lattice)"],
    listCalls := [],
    calls := ["Structure()", "Lattice(self.lattice)", "copymod.deepcopy(self.pdffit)", "STORE target[:] = self"],
    body := ["if target is None:",
      "    target = Structure()",
      "elif target is self:",
      "    return target",
      "target.title = self.title",
      "target.lattice = Lattice(self.lattice)",
      "target.pdffit = copymod.deepcopy(self.pdffit)",
      "target[:] = self",
      "return target"] } := rfl

/-- `__setstate__`: restore `__dict__`, then re-assign `self.lattice` (the property setter re-links every atom) -/
theorem d_setstate_src : Src.Container.d_setstate =
  { name := "__setstate__",
    params := [("state", "")],
    copyDefault := "",
    links := ["self.lattice = self._lattice"],
    listCalls := [],
    calls := ["self.__dict__.update(state)"],
    body := ["self.__dict__.update(state)",
      "self.lattice = self._lattice",
      "return"] } := rfl

/-- `_set_lattice(value)`: every member atom gets the reference, then `self._lattice` -/
theorem u_set_lattice_src : Src.Container.u_set_lattice =
  { name := "_set_lattice",
    params := [("value", "")],
    copyDefault := "",
    links := ["a.lattice = value", "self._lattice = value"],
    listCalls := [],
    calls := [],
    body := ["for a in self:",
      "    a.lattice = value",
      "self._lattice = value",
      "return"] } := rfl

/-- `addNewAtom`: the new `Atom` is built with `lattice=self.lattice` and appended with `copy=False` -/
theorem m_addNewAtom_src : Src.Container.m_addNewAtom =
  { name := "addNewAtom",
    params := [("*args", ""), ("**kwargs", "")],
    copyDefault := "",
    links := ["kwargs['lattice'] = self.lattice"],
    listCalls := [],
    calls := ["STORE kwargs['lattice'] = self.lattice", "Atom(*args, **kwargs)", "self.append(a, copy=False)"],
    body := ["kwargs['lattice'] = self.lattice",
      "a = Atom(*args, **kwargs)",
      "self.append(a, copy=False)",
      "return"] } := rfl

/-- `tolist()`: a plain list of the member atoms (no copies) -/
theorem m_tolist_src : Src.Container.m_tolist =
  { name := "tolist",
    params := [],
    copyDefault := "",
    links := [],
    listCalls := [],
    calls := [],
    body := ["rv = [a for a in self]",
      "return rv"] } := rfl

/-- `__emptySharedStructure()`: a new `Structure()` whose `__dict__` entries (among them `_lattice`) are *the same objects* as those of `self` -/
theorem p_emptySharedStructure_src : Src.Container.p_emptySharedStructure =
  { name := "__emptySharedStructure",
    params := [],
    copyDefault := "",
    links := [],
    listCalls := [],
    calls := ["Structure()", "rv.__dict__.update([(k, getattr(self, k)) for k in rv.__dict__])"],
    body := ["rv = Structure()",
      "rv.__dict__.update([(k, getattr(self, k)) for k in rv.__dict__])",
      "return rv"] } := rfl

/-- `__init__`: copy construction through `Structure.__copy__(atoms, self)`, then `title`, then the `lattice` argument through the property setter (a new `Lattice()` if there is none), then `extend(atoms)` with the default flag unless the copy already filled the structure -/
theorem d_init_src : Src.Container.d_init =
  { name := "__init__",
    params := [("atoms", "None"), ("lattice", "None"), ("title", "None"), ("filename", "None"), ("format", "None")],
    copyDefault := "",
    links := ["self.lattice = lattice", "self.lattice = Lattice()"],
    listCalls := [],
    calls := ["self.read(filename, **readkwargs)", "Structure.__copy__(atoms, self)", "Lattice()", "self.extend(atoms)"],
    body := ["if filename is not None:",
      "    if any((atoms, lattice, title)):",
      "        emsg = 'Cannot use filename and atoms arguments together.'",
      "        raise ValueError(emsg)",
      "    readkwargs = format is not None and {'format': format} or {}",
      "    self.read(filename, **readkwargs)",
      "    return",
      "if isinstance(atoms, Structure):",
      "    Structure.__copy__(atoms, self)",
      "if title is not None:",
      "    self.title = title",
      "if lattice is not None:",
      "    self.lattice = lattice",
      "elif self.lattice is None:",
      "    self.lattice = Lattice()",
      "if not len(self) and atoms is not None:",
      "    self.extend(atoms)",
      "return"] } := rfl

theorem bases_eq : Src.Container.bases = ["list"] := rfl

/-- not defined in `Structure` (no class-level binding of any kind): item / slice deletion, `pop`, `remove`,
`reverse`, `sort`, `clear` are the plain `list` operations — the model plans them as bare list edits without incoming
atoms (`inherited_are_raw`); there is no `__getstate__` / `__reduce__` / `__reduce_ex__` / `__deepcopy__` /
`__getnewargs__` / `__new__`, so pickling and `deepcopy` follow the default protocol for a `list` subclass and come
back through `__setstate__` (`d_setstate_src`); iteration, `len`, `in`, `==`, `index`, `count` are those of `list` -/
theorem absent_eq : Src.Container.absent =
    ["__delitem__", "__getstate__", "__reduce__", "__reduce_ex__", "__deepcopy__", "__getnewargs__", "__getnewargs_ex__",
     "__new__", "__iter__", "__len__", "__contains__", "__eq__", "__hash__", "pop", "remove", "reverse", "sort", "clear",
     "index", "count", "__reversed__"] := rfl

/-- `n * s` is `s * n`; `lattice` is a property over `_get_lattice` / `_set_lattice`; the class default is `None` -/
theorem classAssigns_eq : Src.Container.classAssigns =
    ["_lattice = None", "__rmul__ = __mul__", "lattice = property(_get_lattice, _set_lattice)"] := rfl

/-! ## 2. the parameters of the World model are those of the source -/

/-- per method: default of `copy=` (`""` = no such parameter), the `list` primitives it reaches through `super()`,
whether the method itself stores a lattice reference.  Hand-written beside the model; section 3 proves the rows
about `planG` / `prep`. -/
def modelTable : List Row := [
  ⟨"append", "True", ["append"], true⟩,
  ⟨"insert", "True", ["insert"], true⟩,
  ⟨"extend", "None", ["extend"], true⟩,
  ⟨"__getitem__", "", ["__getitem__", "__getitem__"], false⟩,
  ⟨"__setitem__", "True", ["__getitem__", "__setitem__"], true⟩,
  ⟨"__add__", "", [], false⟩,
  ⟨"__iadd__", "", [], false⟩,
  ⟨"__sub__", "", [], false⟩,
  ⟨"__isub__", "", [], false⟩,
  ⟨"__mul__", "", [], false⟩,
  ⟨"__imul__", "", [], false⟩,
  ⟨"copy", "", [], false⟩,
  ⟨"__copy__", "", [], true⟩,
  ⟨"__setstate__", "", [], true⟩,
  ⟨"_set_lattice", "", [], true⟩,
  ⟨"addNewAtom", "", [], true⟩,
  ⟨"tolist", "", [], false⟩,
  ⟨"__emptySharedStructure", "", [], false⟩,
  ⟨"__init__", "", [], true⟩]

/-- **the table extracted from the current source is the model's table** -/
theorem table_eq : Src.Container.table = modelTable := rfl

/-- every method of the list was found and read (none is missing from the generated table) -/
theorem table_complete : Src.Container.table.map (·.method) =
    ["append", "insert", "extend", "__getitem__", "__setitem__", "__add__", "__iadd__", "__sub__", "__isub__", "__mul__",
     "__imul__", "copy", "__copy__", "__setstate__", "_set_lattice", "addNewAtom", "tolist", "__emptySharedStructure",
     "__init__"] := rfl

/-- a default of `copy=` as written -> the model's flag -/
def flagOfText : String → Option CopyFlag
  | "True" => some .yes
  | "False" => some .no
  | "None" => some .dflt
  | _ => none

/-- does the edit `e` of the model stand for the CPython call `list.<prim>(…)`? -/
def standsFor : String → Edit → Bool
  | "append", .append => true          -- one incoming element
  | "extend", .append => true          -- all incoming elements
  | "insert", .insert _ => true
  | "__setitem__", .setInt _ => true
  | "__setitem__", .setSlice _ => true
  | _, _ => false

def rowOf (name : String) : Option Row := modelTable.find? (fun r => r.method == name)

/-! ## 3. … and the model does have these parameters -/

/-- `s.append(a)` is `s.append(a, copy=<default as written>)`: the model plans the default flag exactly as the flag the
source names as default (`True`) -/
theorem append_default (v : View Nat) (h : Nat) (a : ARef) :
    ((rowOf "append").bind (fun r => flagOfText r.copyDefault)).map (fun c => planG v (.append h a c)) =
      some (planG v (.append h a .dflt)) := by
  show some (planG v (.append h a .yes)) = some (planG v (.append h a .dflt))
  simp only [planG]
  rfl

theorem insert_default (v : View Nat) (h : Nat) (i : Int) (a : ARef) :
    ((rowOf "insert").bind (fun r => flagOfText r.copyDefault)).map (fun c => planG v (.insert h i a c)) =
      some (planG v (.insert h i a .dflt)) := by
  show some (planG v (.insert h i a .yes)) = some (planG v (.insert h i a .dflt))
  simp only [planG]
  rfl

/-- `extend`: the default as written is `None`, the model's third flag … -/
theorem extend_default (v : View Nat) (h : Nat) (it : Iter) :
    ((rowOf "extend").bind (fun r => flagOfText r.copyDefault)).map (fun c => planG v (.extend h it c)) =
      some (planG v (.extend h it .dflt)) := rfl

/-- … whose meaning is the branch skeleton of `m_extend_src`: `None` and a Structure -> every atom copied; `None` and
anything else -> an atom is copied iff it is a member already or was yielded before; `True` -> every atom copied;
`False` -> none -/
theorem extend_flags (old xs : List Nat) (isStru : Bool) :
    copyFlags .dflt true old xs = allTrue xs ∧ copyFlags .dflt false old xs = memoFlags old xs ∧
    copyFlags .yes isStru old xs = allTrue xs ∧ copyFlags .no isStru old xs = allFalse xs := ⟨rfl, rfl, rfl, rfl⟩

/-- `s[i] = a` / `s[i:j:k] = …` are `__setitem__(…, copy=True)`: the model's item and slice assignment carry a Boolean
(no third behaviour); the harness sends the default call with `true` -/
theorem setitem_default : (rowOf "__setitem__").bind (fun r => flagOfText r.copyDefault) = some .yes := by decide

/-- no other method has a `copy=` parameter -/
theorem copy_parameters : (modelTable.filter (fun r => r.copyDefault != "")).map (·.method) =
    ["append", "insert", "extend", "__setitem__"] := by decide

/-- `append`: one incoming atom, copied unless `copy=False`, put at the end by `list.append` -/
theorem append_plan {v : View Nat} {h : Nat} {a : ARef} {c : CopyFlag} {p : Plan Nat}
    (hp : planG v (.append h a c) = .ok (.plan p)) :
    (m_append.listCalls.map Prod.fst).all (standsFor · p.edit) = true ∧ m_append.listCalls.length = 1 ∧
    p.tgt = .old h ∧ p.pre = none ∧ p.inc.length = 1 ∧ p.flags = [decide (c ≠ .no)] := by
  cases planG_ok hp
  exact ⟨rfl, rfl, rfl, rfl, rfl, rfl⟩

/-- `insert`: as `append`, placed by `list.insert` at the index given -/
theorem insert_plan {v : View Nat} {h : Nat} {i : Int} {a : ARef} {c : CopyFlag} {p : Plan Nat}
    (hp : planG v (.insert h i a c) = .ok (.plan p)) :
    (m_insert.listCalls.map Prod.fst).all (standsFor · p.edit) = true ∧ m_insert.listCalls = [("insert", "idx, adup")] ∧
    p.edit = .insert i ∧ p.tgt = .old h ∧ p.pre = none ∧ p.inc.length = 1 ∧ p.flags = [decide (c ≠ .no)] := by
  cases planG_ok hp
  exact ⟨rfl, rfl, rfl, rfl, rfl, rfl, rfl⟩

/-- `extend`: everything the iterable yields, flags by `copyFlags`, appended by `list.extend` -/
theorem extend_plan {v : View Nat} {h : Nat} {it : Iter} {c : CopyFlag} {p : Plan Nat}
    (hp : planG v (.extend h it c) = .ok (.plan p)) :
    (m_extend.listCalls.map Prod.fst).all (standsFor · p.edit) = true ∧ m_extend.listCalls.length = 1 ∧
    p.tgt = .old h ∧ p.pre = none ∧
    ∃ old xs isS, v.atoms h = .ok old ∧ v.iter it = .ok (xs, isS) ∧ p.inc = xs ∧ p.flags = copyFlags c isS old xs := by
  cases planG_ok hp with
  | extend h1 h2 => exact ⟨rfl, rfl, rfl, rfl, _, _, _, h1, h2, rfl, rfl⟩

/-- item assignment: one incoming atom, copied iff the flag says so, stored by `list.__setitem__` at the index given -/
theorem setitem_plan {v : View Nat} {h : Nat} {i : Int} {a : ARef} {c : Bool} {p : Plan Nat}
    (hp : planG v (.setitem h i a c) = .ok (.plan p)) :
    (d_setitem.listCalls.map Prod.fst).getLast?.all (standsFor · p.edit) = true ∧ p.edit = .setInt i ∧
    p.tgt = .old h ∧ p.inc.length = 1 ∧ p.flags = [c] := by
  cases planG_ok hp
  exact ⟨rfl, rfl, rfl, rfl, rfl⟩

/-- slice assignment: `keep = set(list.__getitem__(idx))` are the members of the assigned slice; with the flag set an
incoming atom is copied iff it is not one of them, without the flag nothing is copied; stored by `list.__setitem__`
with the slice given -/
theorem setslice_plan {v : View Nat} {h : Nat} {sl : Slice} {it : Iter} {c : Bool} {p : Plan Nat}
    (hp : planG v (.setslice h sl it c) = .ok (.plan p)) :
    d_setitem.listCalls.map Prod.fst = ["__getitem__", "__setitem__"] ∧ standsFor "__setitem__" p.edit = true ∧
    p.edit = .setSlice sl ∧ p.tgt = .old h ∧
    ∃ old xs isS a, v.atoms h = .ok old ∧ v.iter it = .ok (xs, isS) ∧ sliceAdjust old.length sl = .ok a ∧ p.inc = xs ∧
      p.flags = if c then xs.map (fun x => decide (x ∉ pick old (sliceIdx a))) else allFalse xs := by
  cases planG_ok hp with
  | setslice h1 h2 h3 => exact ⟨rfl, rfl, rfl, rfl, _, _, _, _, h1, h2, h3, rfl, rfl⟩

/-- `s += other` is `s.extend(other, copy=True)` (`d_iadd_src`), in the model too -/
theorem iadd_is_extend_copy (v : View Nat) (h : Nat) (it : Iter) :
    planG v (.iadd h it) = planG v (.extend h it .yes) := by
  simp only [planG]
  split
  · rfl
  · split <;> rfl

/-- the inherited `list` methods (`absent_eq`) are planned as bare list edits: nothing comes in, nothing is re-linked -/
theorem inherited_are_raw {v : View Nat} {op : Op} {p : Plan Nat}
    (hop : (∃ h i, op = .delitem h i) ∨ (∃ h sl, op = .delslice h sl) ∨ (∃ h i, op = .pop h i) ∨ (∃ h a, op = .remove h a) ∨
           (∃ h, op = .reverse h) ∨ (∃ h, op = .sort h) ∨ (∃ h, op = .clear h))
    (hp : planG v op = .ok (.plan p)) : p.inc = [] ∧ p.flags = [] ∧ p.pre = none ∧ ∃ h, p.tgt = .old h := by
  rcases hop with ⟨h, i, rfl⟩ | ⟨h, sl, rfl⟩ | ⟨h, i, rfl⟩ | ⟨h, a, rfl⟩ | ⟨h, rfl⟩ | ⟨h, rfl⟩ | ⟨h, rfl⟩ <;>
    cases planG_ok hp <;> exact ⟨rfl, rfl, rfl, _, rfl⟩

/-- the methods that store a lattice reference themselves (`links` non-empty); the others reach one of these
(`__getitem__` through `extend(…, copy=False)`, `+=` through `extend`, `-=` / `*=` / `__copy__` through slice assignment …) -/
theorem lattice_storing_methods : (modelTable.filter (·.storesLattice)).map (·.method) =
    ["append", "insert", "extend", "__setitem__", "__copy__", "__setstate__", "_set_lattice", "addNewAtom", "__init__"] := by
  decide

/-- what these stores amount to in the model: whatever an operation materialises for its target refers to the target's
lattice afterwards — also when the list primitive then raises (the stores precede the `super()` call in `m_append_src`,
`m_insert_src`, `m_extend_src`, `d_setitem_src`) -/
theorem materialised_are_linked (w : World) {op : Op} {p : Plan Nat} (hp : planG w.view op = .ok (.plan p)) :
    ∀ y ∈ (w.prep p).2.2, (w.stepFull op).1.alat y = World.tgtLat w p := by
  simp only [World.stepFull, hp, World.exec]
  exact World.execPlan_links w p

/-- `_set_lattice` in the model: every member is re-linked and the structure's own reference is replaced -/
theorem setLat_model (w : World) (h : Nat) (src : LatSrc) :
    (∀ a ∈ w.atomsOf h, (w.exec (.setLat h src)).1.alat a = World.latSrcOf w src) ∧
    (h < w.strus.length → (w.exec (.setLat h src)).1.latOf h = World.latSrcOf w src) := by
  obtain ⟨e1, e2, _, _⟩ := World.exec_setLat w h src
  refine ⟨fun a ha => by rw [e2]; exact if_pos ha, fun hh => ?_⟩
  simp [World.latOf, e1, getElem?_updAt, hh]

/-- `addNewAtom` in the model: a fresh atom that already refers to the structure's lattice, at the end -/
theorem addNew_model (w : World) (h p : Nat) :
    (w.exec (.addNew h p)).1.alat w.nextA = w.latOf h ∧ (w.exec (.addNew h p)).1.pay w.nextA = p := by
  simp [World.exec, World.setAtoms, World.allocAtom]

end DS.Props.SrcContainer

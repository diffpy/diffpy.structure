import DS.Lemmas.Sched
import DS.Gen.Protocol
/-!
# C19 — space-group lookups are correct when first used from several threads

Model: `DS/Model/Sched.lean` (interleaving semantics of the lazily built lookup tables, any
number of threads, any number `K` of keys, any values).  `Gen.idProtocol`, `Gen.hashProtocol`,
`Gen.idReader`, `Gen.hashReader` are extracted from `spacegroups.py` on every run by
`translate/protocol.py`; the theorems `id_table_linearizable` / `hash_table_linearizable` only
type-check when the extracted protocol is `publish`, and `readers_ensure_first` only when both readers
test emptiness first (the shape of reader the thread programs of the model have).
-/
namespace DS.Props.C19
open DS DS.Sched

variable {K : Nat} {val : Nat → Nat} {lookups : List (List Nat)} {s : State}

/-- publish protocol: in EVERY reachable state (any number of threads, keys, steps) the shared
table is empty or complete — no thread can ever observe a partially filled table -/
theorem shared_inv (h : Reach .publish K val lookups s) :
    s.shared = emptyT ∨ s.shared = fullT K val :=
  (inv_reach h).1

/-- the same in terms of the observable class used by the schedule harness -/
theorem never_partial (h : Reach .publish K val lookups s) : classOf K val s.shared ≠ .part := by
  rcases shared_inv h with he | hf
  · rw [he, classOf, if_pos isEmptyB_empty]
    nofun
  · rw [hf, classOf, if_pos isFullB_full]
    split <;> nofun

/-- publish protocol: every finished lookup, in every interleaving of any number of threads,
returned exactly what the single-threaded program returns for its candidate keys -/
theorem linearizable (h : Reach .publish K val lookups s) (i : Nat) (r : Result)
    (hr : (results s)[i]? = some (some r)) :
    ∃ qs, lookups[i]? = some qs ∧ r = seqResult K val qs := by
  simp only [results, List.getElem?_map, Option.map_eq_some_iff] at hr
  obtain ⟨⟨qs, pc⟩, hth, hpc⟩ := hr
  refine ⟨qs, ?_, ?_⟩
  · rw [← reach_qs h, List.getElem?_map, hth]; rfl
  · -- for a finished thread the invariant says just this
    cases pc <;> cases hpc
    exact (inv_reach h).2 _ (List.mem_of_getElem? hth)

/-- publish protocol: a thread that has not finished can always take a step (no deadlock, no
stuck state; that no step ends in `KeyError` is `no_key_error`) -/
theorem publish_progress (th : Thread) (sh : Table) (hnd : ∀ r, th.pc ≠ .done r) :
    ∃ x, stepThread .publish K val sh th = some x := by
  obtain ⟨qs, pc⟩ := th
  cases pc with
  | done r => exact absurd rfl (hnd r)
  | check rest => cases rest <;> simp only [stepThread] <;> (try split) <;> exact ⟨_, rfl⟩
  | _ => simp only [stepThread] <;> (try split) <;> exact ⟨_, rfl⟩

/-- publish protocol: `table[q]` after `q in table` never fails in any interleaving -/
theorem no_key_error (h : Reach .publish K val lookups s) (i : Nat) :
    (results s)[i]? ≠ some (some .keyError) := by
  intro hr
  obtain ⟨qs, _, hq⟩ := linearizable h i _ hr
  exact seqResult_ne_keyError qs hq.symm

/-! ### the in-place protocol (the code before e1d4cbb) is racy (decided witnesses) -/

/-- in-place build with `clear()` (the identifier table of that code): thread 0 is pre-empted after
its first store, thread 1 looks up the present key `1` and fails; single-threaded it is found -/
theorem race_exists :
    ∃ sched : List Nat,
      (results (run (.inplace true) 2 id (init [[1], [1]]) sched))[1]? = some (some .notFound)
      ∧ seqResult 2 id [1] = .found 1 :=
  ⟨[0, 0, 0, 1, 1, 1], by decide⟩

/-- in-place build without `clear()` (the fingerprint table of that code) -/
theorem race_exists_noclear :
    ∃ sched : List Nat,
      (results (run (.inplace false) 2 id (init [[1], [1]]) sched))[1]? = some (some .notFound)
      ∧ seqResult 2 id [1] = .found 1 :=
  ⟨[0, 0, 1, 1, 1], by decide⟩

/-- in-place build with `clear()`: a third thread clearing the table between `q in table` and
`table[q]` of a reader produces a `KeyError` -/
theorem race_keyerror :
    ∃ sched : List Nat,
      (results (run (.inplace true) 2 id (init [[1], [1], [1]]) sched))[1]? = some (some .keyError) :=
  ⟨[0, 2, 0, 0, 0, 0, 1, 1, 2, 1], by decide⟩

/-- the witnesses are reachable states of the interleaving semantics -/
theorem run_reachable (P : Protocol) (sched : List Nat) :
    Reach P K val lookups (run P K val (init lookups) sched) :=
  reach_run Reach.init sched

/-! ### the code under examination -/

/-- extracted from the current source: both reader functions test emptiness (and build) before
the first `in` / subscript -/
theorem readers_ensure_first : Gen.idReader = .ensureFirst ∧ Gen.hashReader = .ensureFirst := by
  decide

/-- identifier table (`GetSpaceGroup`, `IsSpaceGroupIdentifier`) with the protocol extracted
from the current source -/
theorem id_table_linearizable (h : Reach Gen.idProtocol K val lookups s) (i : Nat) (r : Result)
    (hr : (results s)[i]? = some (some r)) :
    ∃ qs, lookups[i]? = some qs ∧ r = seqResult K val qs :=
  linearizable h i r hr

/-- operation-fingerprint table (`FindSpaceGroup`) with the protocol extracted from the source -/
theorem hash_table_linearizable (h : Reach Gen.hashProtocol K val lookups s) (i : Nat) (r : Result)
    (hr : (results s)[i]? = some (some r)) :
    ∃ qs, lookups[i]? = some qs ∧ r = seqResult K val qs :=
  linearizable h i r hr

/-! ### non-vacuity -/

/-- a reachable state of the publish protocol in which two concurrent first-use lookups and a
lookup of an unknown key have all finished -/
example :
    results (run .publish 3 id (init [[5, 1], [2], [7]]) [0, 1, 0, 1, 0, 0, 1, 1, 0, 1, 2, 0, 1, 0, 2, 2, 2, 0, 1]) =
      [some (.found 1), some (.found 2), some .notFound] := by decide

example : seqResult 3 id [5, 1] = .found 1 ∧ seqResult 3 id [7] = .notFound := by decide

end DS.Props.C19

import DS.Gen.SrcLookup
import DS.Gen.Lookup
import DS.Gen.Protocol
import DS.Lemmas.Lookup
import DS.Props.C19
/-!
# Source tie for the space-group lookup functions (serves C11 and C19)

`DS/Gen/SrcLookup.lean` is regenerated on every run by `translate/src_lookup.py` from the CURRENT
`spacegroups.py` / `spacegroupmod.py`: `GetSpaceGroup`, `IsSpaceGroupIdentifier`, `_buildSGLookupTable`,
`_hashSymOpList`, `_getSGHashLookupTable`, `FindSpaceGroup`, `SpaceGroup.iter_symops`, `SpaceGroup.check_group_name`
statement by statement over the model's `Table`/`Key`/`Op`, `SymOp.__str__` as data, and the ordered events of the
reader/builder functions on the two module-level dictionaries.

The theorems below identify these transliterations with the model of `DS/Model/Lookup.lean` that the C11 theorems
speak about (`getSG`, `buildTable`, `canon`, `findSG`, `sameOrder`) — for ALL tables, identifiers, setting lists and
operation lists — and decide, from the extracted statement skeleton, that both dictionaries are built by the
`publish` protocol of `DS/Model/Sched.lean` that the C19 theorems speak about.  Python primitives are defined in the
generated file (`sliceTo`, `sliceFrom`, `upper`, `lower`, `replaceChar`, `hset`, `zipLongest`); the
equalities with the model's `removeBlanks`, `capitalise`, last-match-wins accumulator and `sameOrder` are proved here.
-/

namespace DS.Props.SrcLookup
open DS DS.Lookup

/-! ## 1. string primitives -/

theorem flatMap_drop_char (c : Char) : ∀ l : List Char,
    (l.flatMap fun x => if x = c then [] else [x]) = l.filter (· ≠ c)
  | [] => rfl
  | x :: xs => by
    rw [List.flatMap_cons, flatMap_drop_char c xs, List.filter_cons]
    by_cases h : x = c <;> simp [h]

/-- `x.replace(" ", "")` is the model's `removeBlanks` -/
theorem replaceChar_blank (s : String) : Src.Lookup.replaceChar s ' ' "" = removeBlanks s := by
  unfold Src.Lookup.replaceChar removeBlanks
  congr 1
  exact flatMap_drop_char ' ' s.toList

/-- `x[:1].upper() + x[1:].lower()` is the model's `capitalise` -/
theorem capFirstLowerRest_eq (s : String) :
    Src.Lookup.upper (Src.Lookup.sliceTo s 1) ++ Src.Lookup.lower (Src.Lookup.sliceFrom s 1)
      = capitalise s := by
  rw [capitalise_eq, ← String.toList_inj]
  simp only [Src.Lookup.upper, Src.Lookup.lower, Src.Lookup.sliceTo, Src.Lookup.sliceFrom,
    String.toList_append, String.toList_ofList]
  cases s.toList <;> simp [capL]

/-- `GetSpaceGroup` as written — exact key, non-string rejection, `strip`, blank removal + capitalisation, lookup,
capitalisation of the stripped identifier, lookup, `ValueError`, in this order — is the model's `getSG` -/
theorem GetSpaceGroup_eq (t : Table) (id : Key) : Src.Lookup.GetSpaceGroup t id = getSG t id := by
  unfold Src.Lookup.GetSpaceGroup getSG normShort normFull
  simp only [replaceChar_blank, capFirstLowerRest_eq]
  cases lookup t id with
  | some i => rfl
  | none =>
    cases id with
    | num n => rfl
    | str s =>
      dsimp only
      cases lookup t (.str (capitalise (removeBlanks (strip s)))) with
      | some i => rfl
      | none => dsimp only; cases lookup t (.str (capitalise (strip s))) <;> rfl

/-- `IsSpaceGroupIdentifier` is "`GetSpaceGroup` does not raise ValueError" -/
theorem IsSpaceGroupIdentifier_eq (t : Table) (id : Key) :
    Src.Lookup.IsSpaceGroupIdentifier t id = (getSG t id).isSome := by
  unfold Src.Lookup.IsSpaceGroupIdentifier
  rw [GetSpaceGroup_eq]
  cases getSG t id <;> rfl

/-! ## 2. `_buildSGLookupTable` -/

/-- the `setdefault` calls of the settings loop, in source order, are the model's `addSG` -/
theorem build_settings_body_eq (t : Table) (g : SG) (i : Nat) :
    Src.Lookup.build_settings_body t g i = addSG t g i := by rfl

theorem build_settings_eq : ∀ (sgs : List SG) (t : Table) (i : Nat),
    Src.Lookup.build_settings t sgs i = addAll t sgs i
  | [], t, i => by rw [Src.Lookup.build_settings, addAll]
  | g :: gs, t, i => by
    rw [Src.Lookup.build_settings, addAll, build_settings_body_eq, build_settings_eq gs]

/-- the alias loop (`hm.replace(" ", "")`, `table[hmbare]` may raise, `setdefault`) is the model's `addAliases` -/
theorem build_aliases_eq : ∀ (al : List (String × String)) (t : Table),
    Src.Lookup.build_aliases t al = addAliases t al
  | [], t => by rw [Src.Lookup.build_aliases, addAliases]
  | (a, hm) :: rest, t => by
    rw [Src.Lookup.build_aliases, addAliases, Src.Lookup.build_alias_body]
    simp only [replaceChar_blank]
    cases lookup t (.str (removeBlanks hm)) with
    | none => rfl
    | some v => exact build_aliases_eq rest _

/-- the alias list of the source is the hand-written copy and the list extracted by translate/lookup.py -/
theorem alias_hmname_eq : Src.Lookup.alias_hmname = stdAliases := by rfl
theorem alias_hmname_eq_gen : Src.Lookup.alias_hmname = Gen.aliases := by rfl

/-- the private dictionary `_buildSGLookupTable` publishes is the model's `buildTable` (the table of the C11 theorems),
for every list of settings -/
theorem buildSGLookupTable_eq (sgl : List SG) :
    Src.Lookup._buildSGLookupTable sgl = buildTable sgl Gen.aliases := by
  unfold Src.Lookup._buildSGLookupTable buildTable
  simp only [build_settings_eq, build_aliases_eq, alias_hmname_eq_gen]

/-! ## 3. fingerprints and `FindSpaceGroup` -/

/-- `hash(tuple(sorted(str(o) for o in symops)))` is the model's fingerprint `canon` -/
theorem hashSymOpList_eq (ops : List Op) : Src.Lookup._hashSymOpList ops = canon ops := by rfl

section
open Src.Lookup

theorem hget_nil (c : List Nat) : hget [] c = none := rfl

theorem hget_cons (e : List Nat × Nat) (t : HTable) (c : List Nat) :
    hget (e :: t) c = if c = e.1 then some e.2 else hget t c := assoc_cons e t c

theorem hget_append (t u : HTable) (c : List Nat) :
    hget (t ++ u) c = (hget t c).or (hget u c) := assoc_append t u c

theorem hget_map_set (t : HTable) (k c : List Nat) (v : Nat) :
    hget (t.map fun e => if e.1 == k then (k, v) else e) c
      = if c = k then (hget t k).map (fun _ => v) else hget t c := by
  induction t with
  | nil => simp [hget_nil]
  | cons e t ih =>
    rw [List.map_cons, hget_cons, ih, hget_cons, hget_cons]
    by_cases h1 : e.1 = k
    · by_cases h2 : c = k <;> simp [h1, h2]
    · -- an entry under another key stays; `c` cannot be both keys
      by_cases h2 : c = k
      · simp [h1, h2, Ne.symm h1]
      · simp [h1, h2]

/-- `table[k] = v`: afterwards `k` maps to `v`, every other key is untouched -/
theorem hget_hset (t : HTable) (k c : List Nat) (v : Nat) :
    hget (hset t k v) c = if c = k then some v else hget t c := by
  unfold hset
  cases h : hget t k with
  | some w => exact (hget_map_set t k c v).trans (by rw [h]; rfl)
  | none =>
    refine (hget_append t _ c).trans ?_
    rw [hget_cons, hget_nil]
    by_cases h2 : c = k
    · rw [h2, h]; rfl
    · rw [if_neg h2, if_neg h2, Option.or_none]

/-- the dictionary built by the loop answers a fingerprint with the LAST position that has it (`table[h] = sg`
overwrites): exactly the accumulator of the model's `findSG` -/
theorem hget_hash_loop (c : List Nat) : ∀ (sgs : List SG) (t : HTable) (i : Nat),
    hget (hash_loop t sgs i) c = findSG.go c sgs i (hget t c)
  | [], t, i => by rw [hash_loop, go_nil]
  | g :: gs, t, i => by
    rw [hash_loop, go_cons, hget_hash_loop c gs]
    refine congrArg _ ((hget_hset t (canon g.ops) c i).trans ?_)
    by_cases h : canon g.ops = c
    · rw [if_pos h.symm, if_pos (beq_iff_eq.2 h)]
    · rw [if_neg (Ne.symm h), if_neg (by simpa using h)]

end

/-- looking a fingerprint up in the dictionary of `_getSGHashLookupTable` is the model's `findSG` -/
theorem hashTable_eq (sgl : List SG) (ops : List Op) :
    Src.Lookup.hget (Src.Lookup._getSGHashLookupTable sgl) (Src.Lookup._hashSymOpList ops)
      = findSG sgl ops := by
  unfold Src.Lookup._getSGHashLookupTable findSG
  simp only [hget_hash_loop, hashSymOpList_eq, hget_nil]

open Src.Lookup in
/-- `all(str(o0) == str(o1) for o0, o1 in zip_longest(a, b, fillvalue=""))` is the model's `sameOrder`:
lists of different lengths differ (the fill value prints as `""`, no operation does) -/
theorem zipLongest_all_eq (a b : List Op) :
    ((zipLongest a b).all fun (o0, o1) => pyStrFill o0 == pyStrFill o1) = sameOrder a b := by
  induction a generalizing b with
  | nil => cases b <;> rfl
  | cons x xs ih =>
    cases b with
    | nil => rfl
    | cons y ys =>
      rw [zipLongest, List.all_cons, ih ys]
      show (some x.key == some y.key && _) = (x.key :: xs.map Op.key == y.key :: ys.map Op.key)
      rw [List.cons_beq_cons, Option.some_beq_some]
      rfl

/-- what the model predicts for `FindSpaceGroup`: the tabulated object when `shuffle` is set or the
operations come in the tabulated order, otherwise a copy carrying the caller's list -/
def expectedFound (sgl : List SG) (ops : List Op) (shuffle : Bool) (i : Nat) : Src.Lookup.Found :=
  if shuffle || sameOrder (Src.Lookup.tabulated sgl i).ops ops then Src.Lookup.tabulated sgl i
  else ⟨i, false, ops⟩

theorem FindSpaceGroup_eq (sgl : List SG) (ops : List Op) (shuffle : Bool) :
    Src.Lookup.FindSpaceGroup sgl ops shuffle = (findSG sgl ops).map (expectedFound sgl ops shuffle) := by
  unfold Src.Lookup.FindSpaceGroup
  simp only [hashTable_eq, zipLongest_all_eq, Src.Lookup.iter_symops]
  cases findSG sgl ops with
  | none => rfl
  | some i =>
    simp only [Option.map_some, expectedFound]
    cases shuffle <;> cases sameOrder (Src.Lookup.tabulated sgl i).ops ops <;> rfl

/-- the setting identified is the model's, whatever the flag -/
theorem FindSpaceGroup_pos (sgl : List SG) (ops : List Op) (shuffle : Bool) :
    (Src.Lookup.FindSpaceGroup sgl ops shuffle).map (·.pos) = findSG sgl ops := by
  rw [FindSpaceGroup_eq]
  cases findSG sgl ops with
  | none => rfl
  | some i =>
    simp only [Option.map_some, expectedFound]
    split <;> rfl

/-- `shuffle=True` always returns the tabulated object -/
theorem FindSpaceGroup_shuffle (sgl : List SG) (ops : List Op) (r : Src.Lookup.Found)
    (h : Src.Lookup.FindSpaceGroup sgl ops true = some r) :
    ∃ i, findSG sgl ops = some i ∧ r = Src.Lookup.tabulated sgl i := by
  rw [FindSpaceGroup_eq] at h
  obtain ⟨i, hf, rfl⟩ := Option.map_eq_some_iff.1 h
  exact ⟨i, hf, rfl⟩

theorem sameOrder_refl (a : List Op) : sameOrder a a = true := beq_self_eq_true _

/-- `shuffle=False`: the object returned carries the operations in the caller's order, and it is the tabulated
object exactly when that is the tabulated order -/
theorem FindSpaceGroup_order (sgl : List SG) (ops : List Op) (r : Src.Lookup.Found)
    (h : Src.Lookup.FindSpaceGroup sgl ops false = some r) :
    sameOrder r.ops ops = true ∧
    (r.isTabulated = sameOrder (Src.Lookup.tabulated sgl r.pos).ops ops) := by
  rw [FindSpaceGroup_eq] at h
  obtain ⟨i, -, rfl⟩ := Option.map_eq_some_iff.1 h
  unfold expectedFound
  split
  · next hs => exact ⟨hs, hs.symm⟩
  · next hs => exact ⟨sameOrder_refl ops, (Bool.eq_false_iff.2 hs).symm⟩

/-! ## 4. `SpaceGroup.check_group_name`, `SymOp.__str__` -/

theorem check_group_name_iff (g : SG) (k : Key) :
    Src.Lookup.check_group_name g k = true ↔
      k = .str g.short ∨ k = .str g.pdb ∨ k = .str g.pgname ∨ k = .num g.number := by
  simp only [Src.Lookup.check_group_name, Bool.if_true_left, Bool.or_eq_true, decide_eq_true_eq,
    beq_iff_eq, Bool.or_false]

/-- every key under which the settings loop registers `g`, except the decimal string of its number, is a
name `check_group_name` accepts -/
theorem check_group_name_of_carries {g : SG} {k : Key} (h : Carries g k)
    (hn : k ≠ .str (toString g.number)) : Src.Lookup.check_group_name g k = true := by
  rw [check_group_name_iff]
  rcases h with h | h | h | h
  · exact Or.inr (Or.inr (Or.inr h))
  · exact absurd h hn
  · exact Or.inl h
  · exact Or.inr (Or.inl h)

/-- the printable form of an operation: three rows, the nine rotation entries and three translations, each as
`%6.3f` in row-major order (a function of these twelve numbers only; `Op.key` packs the same twelve numbers) -/
theorem symop_str_rows_eq : Src.Lookup.symop_str_rows =
    [("[%6.3f %6.3f %6.3f %6.3f]\n", ["self.R[0, 0]", "self.R[0, 1]", "self.R[0, 2]", "self.t[0]"]),
     ("[%6.3f %6.3f %6.3f %6.3f]\n", ["self.R[1, 0]", "self.R[1, 1]", "self.R[1, 2]", "self.t[1]"]),
     ("[%6.3f %6.3f %6.3f %6.3f]\n", ["self.R[2, 0]", "self.R[2, 1]", "self.R[2, 2]", "self.t[2]"])] := by rfl

/-! ## 5. the two lazily built dictionaries: extracted statement skeleton = the `publish` protocol of `DS.Sched` (C19) -/


/-- stage of a build: 0 nothing yet, 1 private dictionary being filled, 2 published; `depth` counts the loops and
branches open at an event (every `loopBegin` / `branch` / test opens one, `loopEnd` / `endIf` closes one), since creating and
publishing must happen at depth 0 -/
def publishScan : List Src.Lookup.Ev → (depth stage : Nat) → Bool
  | [], depth, stage => depth == 0 && stage == 2
  | e :: es, depth, stage =>
    match e with
    | .newPrivate => depth == 0 && stage == 0 && publishScan es depth 1
    | .storePrivate | .readPrivate => stage == 1 && publishScan es depth stage
    | .publish => depth == 0 && stage == 1 && publishScan es depth 2
    | .loopBegin | .branch | .testEmpty _ | .contains _ _ => publishScan es (depth + 1) stage
    | .loopEnd | .endIf => depth != 0 && publishScan es (depth - 1) stage
    | .orElse | .assertion | .raise | .ret | .returnShared | .local | .get _ => publishScan es depth stage
    | .storeShared | .clearShared | .rebindShared | .other | .callBuild | .callAccessor | .getUnchecked => false

/-- the protocol a build function follows, decided from its events: `publish` iff a fresh private dictionary is
created first (outside any loop/branch), every store goes to it, the shared dictionary is touched by exactly one
`update(<private>)` outside any loop/branch, and nothing is stored afterwards -/
def protocolOf (es : List Src.Lookup.Ev) : Sched.Protocol :=
  if publishScan es 0 0 then .publish
  else if es.any (· == .storeShared) then .inplace (es.any (· == .clearShared))
  else .unknown

/-- after the emptiness test: only `k in T` / `T[k]` on keys tested before, and statements that do not touch `T` -/
def lookupsOnly : List Src.Lookup.Ev → (ntests : Nat) → Bool
  | [], _ => true
  | e :: es, n =>
    match e with
    | .contains c _ => c == n && lookupsOnly es (n + 1)
    | .get c => decide (c < n) && lookupsOnly es n
    | .branch | .orElse | .endIf | .raise | .ret | .local | .loopBegin | .loopEnd => lookupsOnly es n
    | _ => false

/-- shape of a reader: `ensureFirst` iff its first event is the emptiness test guarding the build — written in the
reader (`if not T: build()`) or in the accessor it calls first (`if T: return T`, build, publish, `return T`) — and
everything after is `lookupsOnly` -/
def readerOf (reader accessor : List Src.Lookup.Ev) : Sched.Reader :=
  match reader with
  | .testEmpty true :: .callBuild :: .endIf :: rest => if lookupsOnly rest 0 then .ensureFirst else .other
  | .callAccessor :: rest =>
    match accessor with
    | .testEmpty false :: .returnShared :: .endIf :: build =>
      if lookupsOnly rest 0 && publishScan build 0 0 && build.getLast? == some .returnShared then .ensureFirst
      else .other
    | _ => .other
  | _ => .other

/-- number of candidate keys a reader tries -/
def candidates (es : List Src.Lookup.Ev) : Nat := (es.filter fun e => match e with | .contains _ _ => true | _ => false).length

theorem id_protocol : protocolOf Src.Lookup.idBuilder = .publish := by decide
theorem hash_protocol : protocolOf Src.Lookup.hashBuilder = .publish := by decide
theorem id_reader : readerOf Src.Lookup.idReader [] = .ensureFirst := by decide
theorem hash_reader : readerOf Src.Lookup.hashReader Src.Lookup.hashBuilder = .ensureFirst := by decide

/-- `GetSpaceGroup` tries three keys, `FindSpaceGroup` one: the candidate lists of the schedule model -/
theorem reader_candidates :
    candidates Src.Lookup.idReader = 3 ∧ candidates Src.Lookup.hashReader = 1 := by decide

/-- no other function (and no module-level statement besides the initialisation `= {}`) mentions the two dictionaries;
`IsSpaceGroupIdentifier` reaches them only through `GetSpaceGroup` -/
theorem no_other_users : Src.Lookup.otherUsers = ([], []) ∧ Src.Lookup.isIdCalls = ["GetSpaceGroup"] := by decide

/-- the publication steps and the assertions before them, as written (`PRIVATE` is the private dictionary) -/
theorem facts_eq : Src.Lookup.facts =
    [("hash.assert", "assert len(PRIVATE) == len(SpaceGroupList)"), ("hash.publish", "_sg_hash_lookup_table.update(PRIVATE)"),
     ("id.assert", "assert None not in PRIVATE"), ("id.publish", "_sg_lookup_table.update(PRIVATE)")] := by rfl

/-- the statement-level extraction of this file and the module-level classification of translate/protocol.py agree -/
theorem protocol_agrees :
    Gen.idProtocol = protocolOf Src.Lookup.idBuilder ∧ Gen.hashProtocol = protocolOf Src.Lookup.hashBuilder ∧
    Gen.idReader = readerOf Src.Lookup.idReader [] ∧
    Gen.hashReader = readerOf Src.Lookup.hashReader Src.Lookup.hashBuilder :=
  ⟨id_protocol.symm, hash_protocol.symm, id_reader.symm, hash_reader.symm⟩

section
open Sched
variable {K : Nat} {val : Nat → Nat} {lookups : List (List Nat)} {s : State}

/-- C19 for the identifier table, with the protocol decided from the statement skeleton of `_buildSGLookupTable` -/
theorem id_table_linearizable_src (h : Reach (protocolOf Src.Lookup.idBuilder) K val lookups s)
    (i : Nat) (r : Result) (hr : (results s)[i]? = some (some r)) :
    ∃ qs, lookups[i]? = some qs ∧ r = seqResult K val qs := by
  rw [id_protocol] at h
  exact C19.linearizable h i r hr

/-- C19 for the fingerprint table, with the protocol decided from the skeleton of `_getSGHashLookupTable` -/
theorem hash_table_linearizable_src (h : Reach (protocolOf Src.Lookup.hashBuilder) K val lookups s)
    (i : Nat) (r : Result) (hr : (results s)[i]? = some (some r)) :
    ∃ qs, lookups[i]? = some qs ∧ r = seqResult K val qs := by
  rw [hash_protocol] at h
  exact C19.linearizable h i r hr

theorem never_partial_src (h : Reach (protocolOf Src.Lookup.idBuilder) K val lookups s) :
    classOf K val s.shared ≠ .part := by
  rw [id_protocol] at h
  exact C19.never_partial h
end

/-- the keys `GetSpaceGroup` tries, in order (at most `candidates idReader`) -/
def candidateKeys : Key → List Key
  | .num n => [.num n]
  | .str s => [.str s, .str (normShort s), .str (normFull s)]

theorem findSome?_cons_or {α β : Type} (f : α → Option β) (a : α) (l : List α) :
    (a :: l).findSome? f = (f a).or (l.findSome? f) := by
  rw [List.findSome?_cons]
  cases f a <;> rfl

/-- sequential meaning of the reader: the first candidate present in the table (the shape of `Sched.seqResult`) -/
theorem GetSpaceGroup_first_candidate (t : Table) (id : Key) :
    Src.Lookup.GetSpaceGroup t id = (candidateKeys id).findSome? (lookup t) := by
  rw [GetSpaceGroup_eq, getSG_eq]
  cases id <;> simp only [candidateKeys, findSome?_cons_or, List.findSome?_nil, Option.or_none]

theorem candidateKeys_length (id : Key) : (candidateKeys id).length ≤ candidates Src.Lookup.idReader := by
  rw [reader_candidates.1]
  cases id <;> simp [candidateKeys]

/-! ## non-vacuity: the transliterations compute -/

/-- a two-setting table: exact key, blank/case variant through the first normalisation, unknown name -/
theorem nonvacuous_get :
    let sgl : List SG := [⟨1, 1, 1, "P1", "P 1", "1", .triclinic, [Op.one]⟩,
                          ⟨2, 2, 2, "P-1", "P -1", "-1", .triclinic, [Op.one, ⟨-1, 0, 0, 0, -1, 0, 0, 0, -1, 0, 0, 0⟩]⟩]
    let t := (addAll [] sgl 0)
    Src.Lookup.GetSpaceGroup t (.num 2) = some 1 ∧ Src.Lookup.GetSpaceGroup t (.str " p -1 ") = some 1 ∧
    Src.Lookup.GetSpaceGroup t (.str "P 1") = some 0 ∧ Src.Lookup.GetSpaceGroup t (.str "P2") = none ∧
    Src.Lookup.IsSpaceGroupIdentifier t (.num 3) = false := by decide

/-- reversed operations of the second setting: found, as a copy when `shuffle` is off, as the tabulated object when on -/
theorem nonvacuous_find :
    let inv : Op := ⟨-1, 0, 0, 0, -1, 0, 0, 0, -1, 0, 0, 0⟩
    let sgl : List SG := [⟨1, 1, 1, "P1", "P 1", "1", .triclinic, [Op.one]⟩,
                          ⟨2, 2, 2, "P-1", "P -1", "-1", .triclinic, [Op.one, inv]⟩]
    Src.Lookup.FindSpaceGroup sgl [inv, Op.one] false = some ⟨1, false, [inv, Op.one]⟩ ∧
    Src.Lookup.FindSpaceGroup sgl [inv, Op.one] true = some ⟨1, true, [Op.one, inv]⟩ ∧
    Src.Lookup.FindSpaceGroup sgl [inv] false = none := by decide

end DS.Props.SrcLookup

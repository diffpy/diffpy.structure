import DS.Gen.SrcLoad
import DS.Lemmas.Load
/-!
# Source tie for loading, saving, automatic detection and the `transtru` command (serves C16, C12, C20)

`DS/Gen/SrcLoad.lean` is regenerated on every run by `translate/src_load.py` from the current source: each method is
executed symbolically, statement by statement in source order, into a Lean term over the models' own state types.  The
theorems below state that the hand-written models the property theorems speak about ARE those terms, for all inputs:

* `Structure.read / readStr` = `Load.structureRead`, `PDFFitStructure.read / readStr` + method dispatch = `Load.read`;
* `Structure.write` = `Load.write`; `writeStr`; `loadStructure`;
* `parsers.inputFormats / outputFormats` = `Load.inputFormats / outputFormats`;
* `P_auto._getOrderedFormats` = `Load.orderFor` (and never raises `KeyError`), `P_auto._wrapParseMethod` = `Load.auto ∘ orderFor`,
  `P_auto.parse / parseLines / parseFile`;
* `StructureParser.parse / tostring` = `Dec.ofText / toText`;
* `transtru.main` = `Cli.main Gen.cliConfig`.
-/
namespace DS.Props.SrcLoad
open DS DS.Load

/-! ## Structure.read / readStr, PDFFitStructure.read / readStr -/

/-- `Structure.read`: getParser, `parseFile`, then (only after a successful parse) `Structure.__init__(self)`, `__dict__.update`,
slice assignment, the `if not self.title` file-name rule; an exception leaves `self` as it was -/
theorem structure_read_eq (fresh : Nat) (fn : String) (gp : Option (String × String)) (parse : Outcome Parsed)
    (sg : Option String) (o : Obj) :
    Src.Load.structure_read fresh fn gp parse o = structureRead ⟨fresh, some fn, gp, parse, sg⟩ o := by
  unfold Src.Load.structure_read structureRead titleStep replace tailbase
  cases gp <;> cases parse <;> first | rfl | (dsimp only; split <;> rfl)

/-- `Structure.readStr`: the same without the file-name rule -/
theorem structure_readStr_eq (fresh : Nat) (gp : Option (String × String)) (parse : Outcome Parsed)
    (sg : Option String) (o : Obj) :
    Src.Load.structure_readStr fresh gp parse o = structureRead ⟨fresh, none, gp, parse, sg⟩ o := by
  unfold Src.Load.structure_readStr structureRead titleStep replace
  cases gp <;> cases parse <;> rfl

/-- what `obj.read(filename, format)` runs: the method of the object's class -/
def readOf (fresh : Nat) (fn : String) (gp : Option (String × String)) (parse : Outcome Parsed) (sg : Option String)
    (o : Obj) : ReadOut :=
  match o.cls with
  | .base => Src.Load.structure_read fresh fn gp parse o
  | .pdffit => Src.Load.pdffit_read fresh fn gp parse sg o

def readStrOf (fresh : Nat) (gp : Option (String × String)) (parse : Outcome Parsed) (sg : Option String)
    (o : Obj) : ReadOut :=
  match o.cls with
  | .base => Src.Load.structure_readStr fresh gp parse o
  | .pdffit => Src.Load.pdffit_readStr fresh gp parse sg o

/-- the `PDFFitStructure` post-step as written: runs only when `Structure.read` returned, tests `sg`, assigns the item -/
theorem pdffit_post (r : ReadOut) (sg : Option String) :
    (match r.err with
      | some e => (⟨some e, r.obj⟩ : ReadOut)
      | none =>
        match sg with
        | none => ⟨none, r.obj⟩
        | some v =>
          match getattr r.obj "pdffit" with
          | some (.dict kv) => ⟨none, { r.obj with dict := setKey r.obj.dict "pdffit" (.dict (setKey kv "spcgr" v)) }⟩
          | _ => ⟨some ("TypeError", "object does not support item assignment"), r.obj⟩) = postStep .pdffit sg r := by
  obtain ⟨e, ob⟩ := r
  cases e <;> cases sg <;> simp only [postStep]
  cases getattr ob "pdffit" with
  | none => rfl
  | some v => cases v <;> rfl

/-- `T.read` for `T` = `Structure` or `PDFFitStructure` is the model's `read` -/
theorem read_eq (fresh : Nat) (fn : String) (gp : Option (String × String)) (parse : Outcome Parsed) (sg : Option String)
    (o : Obj) : readOf fresh fn gp parse sg o = Load.read ⟨fresh, some fn, gp, parse, sg⟩ o := by
  unfold readOf Load.read
  cases hc : o.cls
  · simp only [postStep_base]; exact structure_read_eq fresh fn gp parse sg o
  · simp only [Src.Load.pdffit_read, structure_read_eq fresh fn gp parse sg o]
    exact pdffit_post _ sg

theorem readStr_eq (fresh : Nat) (gp : Option (String × String)) (parse : Outcome Parsed) (sg : Option String)
    (o : Obj) : readStrOf fresh gp parse sg o = Load.read ⟨fresh, none, gp, parse, sg⟩ o := by
  unfold readStrOf Load.read
  cases hc : o.cls
  · simp only [postStep_base]; exact structure_readStr_eq fresh gp parse sg o
  · simp only [Src.Load.pdffit_readStr, structure_readStr_eq fresh gp parse sg o]
    exact pdffit_post _ sg

/-! ## Structure.write / writeStr, loadStructure -/

/-- `Structure.write`: getParser, `p.tostring(self)` strictly before the file is opened, `open(…, "w")` truncates, then the
text is written -/
theorem write_eq (gp : Option (String × String)) (ser : Except (String × String) String)
    (openErr encodeErr : Option (String × String)) (file : Option String) :
    Src.Load.structure_write gp ser openErr encodeErr file = Load.write ⟨gp, ser, openErr, encodeErr⟩ file := rfl

/-- the file is opened once, by name, truncating, as UTF-8; the only other statement sets an attribute of the parser -/
theorem write_facts : Src.Load.structure_write_open = ["codecs.open(filename, 'w', encoding='UTF-8')"] ∧
    Src.Load.structure_write_ignored = ["p.filename = filename  [statement 3 of the body]"] := ⟨rfl, rfl⟩

/-- `Structure.writeStr`: the text `p.tostring(self)` or the exception of `getParser` / `tostring` -/
theorem writeStr_eq (gp : Option (String × String)) (ser : Except (String × String) String) :
    Src.Load.structure_writeStr gp ser = match gp with | some e => .error e | none => ser := by
  unfold Src.Load.structure_writeStr
  cases gp <;> cases ser <;> rfl

/-- a write that succeeds leaves in the file exactly what `writeStr` returns for the same format -/
theorem write_saves_writeStr (gp : Option (String × String)) (ser : Except (String × String) String)
    (openErr encodeErr : Option (String × String)) (file : Option String)
    (h : (Load.write ⟨gp, ser, openErr, encodeErr⟩ file).1 = none) :
    ∃ s, Src.Load.structure_writeStr gp ser = .ok s ∧ (Load.write ⟨gp, ser, openErr, encodeErr⟩ file).2 = some s := by
  unfold Load.write at h ⊢
  unfold Src.Load.structure_writeStr
  cases gp <;> cases ser <;> cases openErr <;> cases encodeErr <;> simp_all

/-! the transliterated terms compute (non-vacuity) -/

/-- a refused write over an existing file leaves it; a successful one replaces it -/
example : Src.Load.structure_write none (.error ("StructureFormatError", "m")) none none (some "OLD")
    = (some ("StructureFormatError", "m"), some "OLD") := rfl
example : Src.Load.structure_write none (.ok "TEXT") none none (some "OLD") = (none, some "TEXT") := rfl
/-- the hypothesis of `write_saves_writeStr` is satisfiable -/
example : (Load.write ⟨none, .ok "TEXT", none, none⟩ (some "OLD")).1 = none := rfl

/-- the file-name rule of `Structure.read` through the transliterated term -/
example : (observe (readOf 9 "/data/ni.v2.cif" none (.ok ⟨[("_lattice", .lat 2 "L")], [⟨"C", some 2⟩]⟩) none (newObj .base)).obj).title
    = some (.str "ni.v2") := by decide +kernel
/-- a failing parse leaves a non-trivial `PDFFitStructure` untouched -/
example : readOf 9 "f.cif" none (.err "StructureFormatError" "bad") (some "P1") ⟨.pdffit, [("pdffit", .none)], [⟨"H", some 1⟩]⟩
    = ⟨some ("StructureFormatError", "bad"), ⟨.pdffit, [("pdffit", .none)], [⟨"H", some 1⟩]⟩⟩ := by decide +kernel

/-- `loadStructure` returns what `getParser(fmt).parseFile(filename)` returns or raises -/
theorem loadStructure_eq {R : Type} (gp : Option (String × String)) (parse : Outcome R) :
    Src.Load.loadStructure gp parse = match gp with | some e => .err e.1 e.2 | none => parse := by
  unfold Src.Load.loadStructure
  cases gp <;> cases parse <;> rfl

/-! ## the registry functions -/

theorem inputFormats_eq (reg : Registry) : Src.Load.inputFormats reg = Load.inputFormats reg := rfl
theorem outputFormats_eq (reg : Registry) : Src.Load.outputFormats reg = Load.outputFormats reg := rfl

/-- `getParser(format)` rejects exactly the names that are not registered, with the format error (`ReadIn.getParser`) -/
theorem getParser_eq : Src.Load.getParser_guard = "format not in parser_index -> StructureFormatError" ∧
    Src.Load.getParser_rest = "pmod = parser_index[format]['module']; ns = {}; import_cmd = 'from diffpy.structure.parsers import %s as pm' % pmod; exec(import_cmd, ns); return ns['pm'].getParser(**kw)" :=
  ⟨rfl, rfl⟩

/-! ## StructureParser -/

theorem sp_parse_eq (s : Dec.Str) : Src.Load.sp_parse_lines s = Dec.ofText s := rfl
theorem sp_tostring_eq (lines : List Dec.Str) : Src.Load.sp_tostring_text lines = Dec.toText lines := rfl
/-- `parseFile`: records the name, reads the whole file, turns a decoding error into the format error, then `parse` -/
theorem sp_parseFile_eq : Src.Load.sp_parseFile_body =
    "(self, filename) self.filename = filename; try: with open(filename) as fp: s = fp.read() except UnicodeDecodeError as err: emsg = 'cannot decode file content: %s' % err raise StructureFormatError(emsg); stru = self.parse(s); return stru" := rfl

/-! ## P_auto._getOrderedFormats -/

theorem foldlM_ok {α β ε : Type} (f : β → α → Except ε β) (g : β → α → β) :
    ∀ (l : List α) (b : β), (∀ a ∈ l, ∀ b, f b a = .ok (g b a)) → l.foldlM f b = .ok (l.foldl g b) := by
  intro l
  induction l with
  | nil => intro b _; rfl
  | cons a l ih =>
    intro b h
    rw [List.foldlM_cons, h a (by simp) b]
    exact ih (g b a) (fun a' ha' => h a' (by simp [ha']))

theorem anymatch_truthy {α : Type} (l : List α) (p : α → Bool) :
    (!((l.filter p).map (fun _ => (1 : Nat))).isEmpty) = l.any p := by
  induction l with
  | nil => rfl
  | cons a l ih =>
    cases h : p a <;> simp [h] at ih ⊢
    exact ih

/-- one round of the reordering loop is the model's step, for a candidate that is registered -/
theorem order_step (cfg : OrderCfg) (reg : Registry) (base : String) (fmt : String) (acc : List String)
    (h : ∃ e ∈ reg, e.name = fmt) :
    (match reg.find? (fun e => e.name == fmt) with
      | none => (.error ("KeyError", fmt) : Except (String × String) (List String))
      | some e =>
        if cfg.skipPatterns.contains e.pattern then .ok acc
        else if !(((splitChar cfg.sep e.pattern.toList).filter (fun p => globL p base.toList)).map (fun _ => (1 : Nat))).isEmpty
          then .ok (fmt :: acc.erase fmt) else .ok acc)
      = .ok (if matchesFmt cfg reg base fmt then fmt :: acc.erase fmt else acc) := by
  unfold matchesFmt
  cases hf : reg.find? (fun e => e.name == fmt) with
  | none =>
    obtain ⟨e, he, hn⟩ := h
    have := List.find?_eq_none.mp hf e he
    simp [hn] at this
  | some e =>
    dsimp only
    rw [anymatch_truthy]
    by_cases hs : cfg.skipPatterns.contains e.pattern = true
    · simp only [hs, if_true, Bool.not_true, Bool.false_and, Bool.false_eq_true, if_false]
    · rw [Bool.not_eq_true] at hs
      simp only [hs, Bool.false_eq_true, if_false, Bool.not_false, Bool.true_and]
      by_cases ha : ((splitChar cfg.sep e.pattern.toList).any fun p => globL p base.toList) = true
      · simp only [ha, if_true]
      · rw [Bool.not_eq_true] at ha
        simp only [ha, Bool.false_eq_true, if_false]

/-- `_getOrderedFormats` never raises (every candidate is a key of the registry) and returns the model's order -/
theorem getOrderedFormats_eq (cfg : OrderCfg) (reg : Registry) (fn : Option String) :
    Src.Load.getOrderedFormats cfg reg fn = .ok (orderFor cfg reg fn) := by
  unfold Src.Load.getOrderedFormats orderFor
  cases fn with
  | none => rfl
  | some fn =>
    dsimp only
    split
    · rfl
    · unfold reorder
      apply foldlM_ok
      intro f hf acc
      have hm : f ∈ candidates cfg reg := hf
      obtain ⟨⟨e, he, _, hn⟩, _⟩ := (mem_candidates cfg reg f).mp hm
      exact order_step cfg reg (basename fn) f acc ⟨e, he, hn⟩

/-! ## P_auto._wrapParseMethod and the entry points -/

variable {R : Type}

/-- what follows the loop: `if stru is None: raise StructureFormatError(<header + complaints>)`, else `return stru` with
`self.format` -/
def wrapPost (c : AutoCfg) : Src.Load.WrapStep R → AutoResult R
  | .raised k m => .err k m
  | .next st | .brk st =>
    match st.stru with
    | none => .err c.raised (c.joiner.intercalate (c.header ++ st.emsgs))
    | some r => .ok st.format r

/-- the loop `for fmt in ofmts: p = getParser(fmt); try: stru = pmethod(…); self.format = fmt; break except …` followed by
the statements after it is the model's `autoLoop` (refinement: by induction on the candidates still to try) -/
theorem wrapLoop_eq (c : AutoCfg) (parse : String → Outcome R) :
    ∀ (fs : List String) (fmt0 : String) (msgs : List String),
      wrapPost c (Src.Load.forLoop (Src.Load.wrapBody c parse) fs ⟨none, fmt0, msgs⟩) = autoLoop c parse fs msgs := by
  intro fs
  induction fs with
  | nil => intro fmt0 msgs; rfl
  | cons f fs ih =>
    intro fmt0 msgs
    simp only [Src.Load.forLoop, Src.Load.wrapBody, autoLoop]
    cases hp : parse f with
    | ok r => rfl
    | none => rfl
    | err k m =>
      dsimp only
      cases hk : c.handler k with
      | collect => exact ih fmt0 _
      | skip => exact ih fmt0 _
      | escape => rfl

/-- `_wrapParseMethod` = `auto` over the candidates of `_getOrderedFormats`, whatever `self.format` was before -/
theorem wrapParseMethod_eq (cfg : OrderCfg) (reg : Registry) (c : AutoCfg) (parse : String → Outcome R)
    (fn : Option String) (fmt0 : String) :
    Src.Load.wrapParseMethod cfg reg c parse fn fmt0 = auto c parse (orderFor cfg reg fn) := by
  unfold Src.Load.wrapParseMethod auto
  rw [getOrderedFormats_eq]
  dsimp only
  rw [← wrapLoop_eq c parse (orderFor cfg reg fn) fmt0 []]
  unfold wrapPost
  generalize Src.Load.forLoop (Src.Load.wrapBody c parse) (orderFor cfg reg fn) ⟨none, fmt0, []⟩ = w
  cases w <;> rfl

/-- `P_auto.parse` / `parseLines` use the file name left by an earlier `parseFile` (or `None`) -/
theorem auto_parse_eq (cfg : OrderCfg) (reg : Registry) (c : AutoCfg) (parse : String → Outcome R)
    (fn : Option String) (fmt0 : String) :
    Src.Load.auto_parse cfg reg c parse fn fmt0 = auto c parse (orderFor cfg reg fn) ∧
    Src.Load.auto_parseLines cfg reg c parse fn fmt0 = auto c parse (orderFor cfg reg fn) :=
  ⟨wrapParseMethod_eq .., wrapParseMethod_eq ..⟩

/-- `P_auto.parseFile` stores its argument as the file name first: the candidates are ordered by *this* file's name -/
theorem auto_parseFile_eq (cfg : OrderCfg) (reg : Registry) (c : AutoCfg) (parse : String → Outcome R)
    (fn0 : Option String) (filename fmt0 : String) :
    Src.Load.auto_parseFile cfg reg c parse fn0 filename fmt0 = auto c parse (orderFor cfg reg (some filename)) :=
  wrapParseMethod_eq ..

/-- the constants of p_auto.py as this translator reads them are the ones translate/registry.py put into `Gen.Reg` (the
configuration the C12 theorems are instantiated at) -/
theorem auto_constants :
    Src.Load.excluded_src = Gen.Reg.excludedRaw ∧ Src.Load.skipPatterns_src = [Gen.Reg.skipPatternsRaw] ∧
    Src.Load.separator_src = [Gen.Reg.separatorRaw] ∧
    Src.Load.complaint_src = ["%s".intercalate Gen.Reg.complaintPartsRaw] ∧ Src.Load.joiner_src = [Gen.Reg.joinerRaw] ∧
    Src.Load.header_src = [Gen.Reg.headerRaw] ∧ Src.Load.raised_src = [Gen.Reg.raisedRaw] := by decide +kernel

/-- the `except` clauses of the per-candidate `try`, in source order, and their classes in the generated class table -/
theorem auto_clauses :
    Src.Load.wrap_clauses = [(["StructureFormatError"], "collect"), (["NotImplementedError"], "skip")] ∧
    Src.Load.wrap_clauses.all (fun cl => cl.1.all (fun k =>
      genHandler k == (if cl.2 == "collect" then Handler.collect else if cl.2 == "skip" then .skip else .escape))) = true := by
  decide +kernel

/-- after the loop the `auto` parser object copies the attributes of the successful parser (not part of the model); the one
call assumed not to raise is `getParser` for a registered name -/
theorem auto_outside : Src.Load.wrap_after = ["self.__dict__.update(p.__dict__)"] ∧
    Src.Load.wrap_assumed = ["getParser(fmt, **self.pkw) does not raise: every candidate is a key of parser_index"] := ⟨rfl, rfl⟩

/-! the transliterated terms compute on the registry under test -/

def exParse : String → Outcome Nat
  | "cif" => .err "StructureFormatError" "not a CIF"
  | "discus" => .err "NotImplementedError" "generator"
  | "pdb" => .ok 8
  | _ => .err "StructureFormatError" "no"

/-- the transliterated `_wrapParseMethod` on the registry under test: one complaint collected, one candidate skipped,
the third succeeds and is reported; with a `.stru` file name the PDFfit parser is tried first -/
example : Src.Load.wrapParseMethod genOrderCfg genRegistry genAutoCfg exParse none "auto" = .ok "pdb" 8 := by decide +kernel
example : Src.Load.getOrderedFormats genOrderCfg genRegistry (some "/d/x.stru")
    = .ok ["pdffit", "discus", "cif", "pdb", "rawxyz", "xcfg", "xyz"] := by decide +kernel
example : Src.Load.wrapParseMethod genOrderCfg genRegistry genAutoCfg (fun f => if f = "xyz" then .ok 1 else .err "TypeError" "boom")
    (some "a.xyz") "auto" = .ok "xyz" 1 := by decide +kernel

/-! ## transtru.main -/

open DS.Cli in
theorem optLoop_eq (opts : List String) : Src.Load.main_optLoop opts = optionAction Gen.cliConfig opts := by
  induction opts with
  | nil => rfl
  | cons o rest ih =>
    unfold Src.Load.main_optLoop optionAction
    rw [ih]
    rfl

open DS.Cli in
/-- `transtru.main` is the model's `main` at the configuration generated from the same source: getopt and its handler,
the option loop, the argument count, the `..` split and its handler, the two membership tests in this order, the file
argument, `-` for standard input, read then write, every `sys.exit` status -/
theorem main_eq {S : Type} (lib : Lib S) (argv : List String) :
    Src.Load.main lib argv = Cli.main Gen.cliConfig lib argv := by
  -- the constants the transliterated `main` carries are those of the generated configuration
  have hshort : Gen.cliConfig.shortOpts = "hV".toList := rfl
  have hlong : Gen.cliConfig.longOpts = ["help", "version"] := rfl
  have hsep : Gen.cliConfig.sep = "..".toList := rfl
  unfold Src.Load.main Cli.main
  cases hg : getopt "hV".toList ["help", "version"] argv with
  | none => simp only [hshort, hlong, hg]; rfl
  | some p =>
    obtain ⟨opts, args⟩ := p
    simp only [hshort, hlong, hg, optLoop_eq]
    cases optionAction Gen.cliConfig opts with
    | some o => rfl
    | none =>
      cases args with
      | nil => rfl
      | cons spec rest =>
        dsimp only
        cases hs : splitSpec "..".toList spec with
        | none => simp only [hsep, hs]; rfl
        | some io =>
          obtain ⟨i, o⟩ := io
          simp only [hsep, hs]
          split
          · rfl
          · split
            · rfl
            · unfold convert libRead
              cases rest with
              | nil => rfl
              | cons file rest' =>
                dsimp only
                split <;> rfl

open DS.Cli in
/-- the handlers of the conversion `try`, in source order, and the class table of `Gen.cliConfig` that `onException` uses:
every class a clause names is handled as that clause says (`IOError` is `OSError`), and every handled class of the table
gets the status and message of one of the clauses -/
theorem main_handlers :
    Src.Load.main_conv_clauses = [(["IndexError"], 2, .noFile), (["IOError"], 1, .ioStrerror),
      (["StructureFormatError", "NotImplementedError"], 1, .excStr)] ∧
    Src.Load.main_conv_clauses.all (fun cl => cl.1.all (fun k =>
      Gen.cliConfig.handlers.lookup (if k == "IOError" then "OSError" else k) == some (some ⟨cl.2.1, cl.2.2⟩))) = true ∧
    Gen.cliConfig.handlers.all (fun e => match e.2 with
      | none => true
      | some h => Src.Load.main_conv_clauses.any (fun cl => cl.2.1 == h.status && cl.2.2 == h.msg)) = true := by
  decide +kernel

/-- the format lists the command tests membership in are `inputFormats()` / `outputFormats()` of the registry -/
theorem main_formats : Load.inputFormats genRegistry = Gen.cliConfig.inFormats ∧
    Load.outputFormats genRegistry = Gen.cliConfig.outFormats := by decide +kernel

/-- `usage` / `version` print to standard output only -/
theorem usage_version_eq :
    Src.Load.usage_body = "(style=None) import os.path; myname = os.path.basename(sys.argv[0]); msg = __doc__.replace('transtru', myname); if style == 'brief': msg = msg.split('\\n')[1] + '\\n' + \"Try `%s --help' for more information.\" % myname else: from diffpy.structure.parsers import inputFormats, outputFormats msg = msg.replace('inputFormats', ' '.join(inputFormats())) msg = msg.replace('outputFormats', ' '.join(outputFormats())); print(msg); return" ∧
    Src.Load.version_body = "() from diffpy.structure import __version__; print('diffpy.structure', __version__); return" :=
  ⟨rfl, rfl⟩

/-! the transliterated `main` computes -/

section
open DS.Cli
def exLib : Lib Nat := { readFile := fun f _ => if f = "missing" then .error "FileNotFoundError" else .ok 1,
                         readStdin := fun _ => .ok 2, write := fun s _ => .ok (toString s) }

example : Src.Load.main exLib ["xyz..cif", "f.xyz"] = { stdout := .text "1", stderrLines := 0, status := 0, traceback := false, msg := .none } := by
  decide +kernel
example : Src.Load.main exLib ["xyz..cif", "-"] = { stdout := .text "2", stderrLines := 0, status := 0, traceback := false, msg := .none } := by
  decide +kernel
example : (Src.Load.main exLib ["xyz..cif", "missing"]).status = 1 ∧ (Src.Load.main exLib ["xyz..cif"]).status = 2 ∧
    (Src.Load.main exLib ["xyz.cif", "f"]).msg = .noSep ∧ (Src.Load.main exLib ["bogus..cif", "f"]).msg = .badIn ∧
    (Src.Load.main exLib ["xyz..bogus", "f"]).msg = .badOut ∧ (Src.Load.main exLib ["--help", "x"]).stdout = .usageFull ∧
    (Src.Load.main exLib ["-x"]).msg = .getopt ∧ (Src.Load.main exLib []).stdout = .usageBrief := by decide +kernel
end

end DS.Props.SrcLoad

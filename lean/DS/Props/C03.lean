import DS.Lemmas.Group
import DS.Gen.Index
/-!
# C03 — every tabulated setting is a group with consistent metadata

`Gen.allC` is regenerated from the repository's tables on every run; `Gen.allC_ok` is the
conjunction of the per-setting kernel obligations (`decide +kernel` of `fastSG`, the evaluator of
`checkSG` on packed naturals).  Here the group check and the counts are turned into the mathematical
statements (`IsGroup`, `CountsOK`); centring letter and crystal class stay Boolean checks, stated for every setting.
-/
namespace DS.Props.C03
open DS

theorem checkSG_iff (g : SG) (c : Cert) : checkSG g c = true ↔
    checkGroup g.ops c = true ∧ checkCounts g = true ∧ checkCentring g = true ∧ checkClass g = true := by
  simp only [checkSG, Bool.and_eq_true, and_assoc]

theorem allC_checked : ∀ p ∈ Gen.allC, checkSG p.1 p.2 = true :=
  fun p hp => fastSG_sound (Gen.allC_ok p hp)

/-- group axioms, for every tabulated setting and *all* pairs of operations -/
theorem all_groups : ∀ p ∈ Gen.allC, IsGroup p.1.ops :=
  fun p hp => checkGroup_sound ((checkSG_iff p.1 p.2).1 (allC_checked p hp)).1

/-- declared counts: `len(symop_list) = num_sym_equiv` and
`num_sym_equiv = (#centring translations) * num_primitive_sym_equiv` -/
theorem all_counts : ∀ p ∈ Gen.allC, CountsOK p.1 := by
  intro p hp
  have h := ((checkSG_iff p.1 p.2).1 (allC_checked p hp)).2.1
  simp only [checkCounts, Bool.and_eq_true, decide_eq_true_eq] at h
  exact ⟨h.1, h.2⟩

/-- the centring letter of both symbols agrees with the set of pure translations -/
theorem all_centring : ∀ p ∈ Gen.allC, checkCentring p.1 = true :=
  fun p hp => ((checkSG_iff p.1 p.2).1 (allC_checked p hp)).2.2.1

/-- the rotation-type census of the operations is that of the crystal class of
`number % 1000`, and `crystal_system` is the system of that class -/
theorem all_class : ∀ p ∈ Gen.allC, checkClass p.1 = true :=
  fun p hp => ((checkSG_iff p.1 p.2).1 (allC_checked p hp)).2.2.2

/-- closure stated for arbitrary pairs, the form the property uses -/
theorem closure_all_pairs (p : SG × Cert) (hp : p ∈ Gen.allC) (a b : Op)
    (ha : a ∈ p.1.ops) (hb : b ∈ p.1.ops) : a.comp b ∈ p.1.ops :=
  (all_groups p hp).closed a ha b hb

/-- non-vacuity: the generated list has as many entries as `SpaceGroupList` minus the rejected
ones, and contains a concrete setting for which all conclusions hold -/
example : Gen.allC.length + Gen.nBad = Gen.nListed := by
  rw [Gen.allC_length]; decide

example : IsGroup Gen.witness.1.ops ∧ 0 < Gen.witness.1.ops.length :=
  ⟨all_groups _ Gen.witness_mem, by decide +kernel⟩

end DS.Props.C03

import DS.Lemmas.WorldAlias
/-!
# C08 — a Structure stays a consistent list of atoms in one lattice under any edits

Model: `DS.Model.World` (heap of atoms and structures, `World.stepFull` for every public container
operation of `structure.py`, tied to the current source by the per-step differential check of
`harness/c08.py`).  All theorems below quantify over **all** well-formed worlds and **all**
operation histories (induction on the operation list); side conditions are explicit and are
evaluated on the pre-state of the step they constrain.

* `refines_list`, `errors_match`  — the atom sequences (as payload lists) and the exception kinds
  are those of the same history on plain lists (`ListSpec`, CPython `list` semantics).
* `lattice_inv` — every atom of every live structure refers to that structure's lattice after
  every step, provided no step links a *shared* atom to a different lattice (`Safe`, needed only by
  lattice assignment and by insertions that do not copy: `safe_of_copying`);
  `lattice_inv_unrestricted_false` + four concrete counter-example theorems: the unrestricted
  statement is false of the current code.
* `copies_disjoint`, `inserted_copies_fresh` — documented copies share no atom and no lattice with
  anything that existed before.
* `selections_share` — slice / index array / mask / tuple selections hold exactly the selected atom
  objects and the lattice object of their source.
* `no_alias : no_alias_statement` — no atom object in two slots, unless a non-copying insertion or a
  slice assignment listed it twice; **every** operation of `Op` (extended-slice assignment
  `s[i:j:k] = …` and pickle protocols 0/1 included).  `no_alias_partial` is the restricted form (edits of
  `CoreEdit` only) and is subsumed (`dupFreeHistX_of_dupFreeHist`).  The statement with the weaker side condition
  (`no_alias_statement_plainRemain`) is **false**: `no_alias_statement_plainRemain_false`, with the
  concrete history `witnessExtSliceNoCopy` replayed on the implementation — that side condition says
  nothing about the members between the positions of an extended slice (not a defect of the code).
* `copies_disjoint_all`, `inserted_copies_fresh_all`, `selections_share_all`, `docKind` — the same
  guarantees stated over a total classification of `Op` (nothing documented as a copy / selection
  is left out of the enumeration).
-/
namespace DS.Props.C08
open DS.World

/-! ## 1. refinement of the plain-list specification -/

/-- Agreement hypothesis of the three operations that act on object *identity* (`-`, `-=`,
`remove`): among the operands, atoms with equal payload are the same atom.  (`ListSpec` works on
payload values and has no identity.)  Boolean, evaluated on the pre-state. -/
def subAgreeB (w : World) : Op → Bool
  | .sub h it => match w.view.atoms h, w.view.iter it with
    | .ok old, .ok (xs, _) => old.all (fun a => decide (w.pay a ∈ xs.map w.pay → a ∈ xs))
    | _, _ => true
  | .isub h it => match w.view.atoms h, w.view.iter it with
    | .ok old, .ok (xs, _) => old.all (fun a => decide (w.pay a ∈ xs.map w.pay → a ∈ xs))
    | _, _ => true
  | .remove h r => match w.view.atoms h, w.view.aref r with
    | .ok old, .ok x => old.all (fun y => decide (w.pay y = w.pay x → y = x))
    | _, _ => true
  | _ => true

theorem subAgreeB_sound {w : World} {op : Op} (h : subAgreeB w op = true) : SubAgree w.pay w.view op := by
  cases op <;> try trivial
  case sub hh it =>
    intro old xs b h1 h2 a ha hm
    simp only [subAgreeB, h1, h2, List.all_eq_true, decide_eq_true_eq] at h
    exact h a ha hm
  case isub hh it =>
    intro old xs b h1 h2 a ha hm
    simp only [subAgreeB, h1, h2, List.all_eq_true, decide_eq_true_eq] at h
    exact h a ha hm
  case remove hh r =>
    intro old x h1 h2 y hy he
    simp only [subAgreeB, h1, h2, List.all_eq_true, decide_eq_true_eq] at h
    exact h y hy he

/-- one step: the abstraction of the new world is the plain-list step of the abstraction, and the
outcomes (returned payload / new handle / exception kind) correspond -/
theorem step_refines {w : World} (hw : Wf w) {op : Op} (hag : subAgreeB w op = true) :
    (ListSpec.stepFull w.abs op).1 = (w.stepFull op).1.abs ∧
    World.OutRel (w.stepFull op).1 (w.stepFull op).2 (ListSpec.stepFull w.abs op).2 := by
  have R := planG_nat (World.abs_view w) op (subAgreeB_sound hag)
  simp only [ListSpec.stepFull, World.stepFull]
  rcases h1 : planG w.view op with e | act
  · rcases h2 : planG (ListSpec.view w.abs) op with e' | act'
    · simp only [h1, h2, ExRel] at R
      subst R; exact ⟨rfl, World.OutRel.err _⟩
    · simp only [h1, h2, ExRel] at R
  · rcases h2 : planG (ListSpec.view w.abs) op with e' | act'
    · simp only [h1, h2, ExRel] at R
    · simp only [h1, h2, ExRel] at R
      exact World.exec_refines hw (planG_all (World.view_all hw) h1) R

/-- the agreement hypothesis along a history -/
def HistAgree : World → List Op → Prop
  | _, [] => True
  | w, op :: ops => subAgreeB w op = true ∧ HistAgree (w.stepFull op).1 ops

/-- **refines_list**: after any history the payload lists of all live structures are what the same
history gives on plain lists -/
theorem refines_list {w : World} (hw : Wf w) (ops : List Op) (hag : HistAgree w ops) :
    (w.run ops).abs = ListSpec.run w.abs ops := by
  induction ops generalizing w with
  | nil => rfl
  | cons op ops ih =>
    simp only [World.run, ListSpec.run]
    rw [(step_refines hw hag.1).1]
    exact ih (World.stepFull_wf hw op) hag.2

def NoIdentityOp : Op → Prop
  | .sub _ _ => False
  | .isub _ _ => False
  | .remove _ _ => False
  | _ => True

theorem histAgree_of_noIdentity (w : World) (ops : List Op) (h : ∀ op ∈ ops, NoIdentityOp op) : HistAgree w ops := by
  induction ops generalizing w with
  | nil => trivial
  | cons op ops ih =>
    refine ⟨?_, ih _ (fun o ho => h o (List.mem_cons_of_mem _ ho))⟩
    have := h op (by simp)
    cases op <;> first | rfl | exact this.elim

/-- unconditional form for histories without `-`, `-=`, `remove` -/
theorem refines_list_noIdentity {w : World} (hw : Wf w) (ops : List Op) (h : ∀ op ∈ ops, NoIdentityOp op) :
    (w.run ops).abs = ListSpec.run w.abs ops :=
  refines_list hw ops (histAgree_of_noIdentity w ops h)

def errW : Except Err Res → Option Err
  | .ok _ => none
  | .error e => some e

def errS : Except Err SRes → Option Err
  | .ok _ => none
  | .error e => some e

/-- **errors_match** (one step): the step raises exactly when, and the exception kind that, the
plain-list operation raises (IndexError for out-of-range indices and bad / duplicate labels,
ValueError for an extended-slice length mismatch, a zero step, `remove` of an absent atom) -/
theorem errors_match {w : World} (hw : Wf w) {op : Op} (hag : subAgreeB w op = true) :
    errW (w.stepFull op).2 = errS (ListSpec.stepFull w.abs op).2 := by
  obtain ⟨_, h⟩ := step_refines hw hag
  revert h
  generalize (w.stepFull op).2 = a
  generalize (ListSpec.stepFull w.abs op).2 = b
  intro h
  cases h <;> rfl

def World.errTrace : World → List Op → List (Option Err)
  | _, [] => []
  | w, op :: ops => errW (w.stepFull op).2 :: World.errTrace (w.stepFull op).1 ops

def ListSpec.errTrace : SpecState → List Op → List (Option Err)
  | _, [] => []
  | s, op :: ops => errS (ListSpec.stepFull s op).2 :: ListSpec.errTrace (ListSpec.stepFull s op).1 ops

/-- **errors_match** along a whole history -/
theorem errors_match_trace {w : World} (hw : Wf w) (ops : List Op) (hag : HistAgree w ops) :
    World.errTrace w ops = ListSpec.errTrace w.abs ops := by
  induction ops generalizing w with
  | nil => rfl
  | cons op ops ih =>
    simp only [World.errTrace, ListSpec.errTrace]
    rw [errors_match hw hag.1, (step_refines hw hag.1).1]
    rw [ih (World.stepFull_wf hw op) hag.2]

/-- the statement without the agreement hypothesis; it is *not* provable for a specification on
payload values: `s - s.copy()` removes nothing (identity) while the payload lists coincide.  This is a
property of the specification's level of abstraction, not a defect of the code. -/
def refines_list_statement : Prop :=
  ∀ (w : World) (ops : List Op), Wf w → (w.run ops).abs = ListSpec.run w.abs ops

def subCopyHistory : List Op := [.mkStru, .addNew 0 1, .copy 0, .sub 0 (.stru 1)]

theorem refines_list_needs_agreement : ¬ refines_list_statement := by
  intro h
  have := h World.empty subCopyHistory World.empty_wf
  revert this
  decide

/-! ## 2. the lattice invariant -/

/-- **lattice_inv**: if every atom of every live structure refers to its structure's lattice, this
still holds after any history each of whose steps satisfies `Safe` in the state it is executed in -/
theorem lattice_inv {w : World} (hw : Wf w) (hi : w.Inv) (ops : List Op) (hs : World.SafeHist w ops) :
    (w.run ops).Inv :=
  World.run_inv hw hi ops hs

theorem safeHist_take {w : World} {ops : List Op} (hs : World.SafeHist w ops) (k : Nat) :
    World.SafeHist w (ops.take k) := by
  induction ops generalizing w k with
  | nil => simpa using hs
  | cons op ops ih =>
    cases k with
    | zero => trivial
    | succ k => exact ⟨hs.1, ih hs.2 k⟩

/-- … after *every* step of the history -/
theorem lattice_inv_every_step {w : World} (hw : Wf w) (hi : w.Inv) (ops : List Op) (hs : World.SafeHist w ops)
    (k : Nat) : (w.run (ops.take k)).Inv :=
  lattice_inv hw hi _ (safeHist_take hs k)

/-- local form, no side condition: the atoms an operation puts into (or offers to) its target refer
to the target's lattice afterwards — also when the list edit itself raises -/
theorem lattice_local {w : World} {op : Op} {p : Plan Nat} (hp : planG w.view op = .ok (.plan p)) :
    ∀ y ∈ (w.prep p).2.2, (w.stepFull op).1.alat y = World.tgtLat w p := by
  simp only [World.stepFull, hp, World.exec]
  exact World.execPlan_links w p

/-- the side condition is needed only by lattice assignment and by insertions that do not copy:
every other operation (`World.AutoSafe`: all copying forms, indexing, deletion, `+ - *`, in-place
forms, pickling, inherited list methods) satisfies it in every state where the invariant holds -/
theorem safe_of_copying {w : World} (hi : w.Inv) {op : Op} (ha : World.AutoSafe op) : World.Safe w op :=
  World.safe_of_autoSafe hi ha

/-- the side condition restricted to the steps that need it -/
def SafeHistX : World → List Op → Prop
  | _, [] => True
  | w, op :: ops => (World.AutoSafe op ∨ World.Safe w op) ∧ SafeHistX (w.stepFull op).1 ops

/-- **lattice_inv**, explicit form: only lattice assignments, `copy=False` insertions, default-flag
`extend` of a non-Structure iterable and the constructor on such an iterable carry a hypothesis -/
theorem lattice_inv_explicit {w : World} (hw : Wf w) (hi : w.Inv) (ops : List Op) (hs : SafeHistX w ops) :
    (w.run ops).Inv := by
  induction ops generalizing w with
  | nil => exact hi
  | cons op ops ih =>
    have h1 : World.Safe w op := by
      rcases hs.1 with h | h
      · exact safe_of_copying hi h
      · exact h
    exact ih (World.stepFull_wf hw op) (World.stepFull_inv hw hi op h1) hs.2

theorem safeHistX_of_auto (w : World) (ops : List Op) (h : ∀ op ∈ ops, World.AutoSafe op) : SafeHistX w ops := by
  induction ops generalizing w with
  | nil => trivial
  | cons op ops ih => exact ⟨Or.inl (h op (by simp)), ih _ (fun o ho => h o (List.mem_cons_of_mem _ ho))⟩

/-- histories of copying / selecting / deleting operations keep the invariant unconditionally -/
theorem lattice_inv_copying {w : World} (hw : Wf w) (hi : w.Inv) (ops : List Op) (h : ∀ op ∈ ops, World.AutoSafe op) :
    (w.run ops).Inv :=
  lattice_inv_explicit hw hi ops (safeHistX_of_auto w ops h)

/-- the unrestricted statement -/
def lattice_inv_statement : Prop :=
  ∀ (w : World) (ops : List Op), Wf w → w.Inv → (w.run ops).Inv

instance (w : World) : Decidable w.Inv := by unfold World.Inv; infer_instance

theorem empty_inv : World.empty.Inv := by
  intro s hs; simp [World.empty] at hs

/-- `s = Structure(3 atoms); sel = s[1:]; sel.lattice = Lattice()` -/
def witnessSelection : List Op :=
  [.mkStru, .addNew 0 1, .addNew 0 2, .addNew 0 3, .getitem 0 (.slice ⟨some 1, none, none⟩), .setLat 1 .fresh]

/-- counter-example 1 (known finding `shared-selection-lattice`): a lattice assigned to a selection
leaves the owner's atoms referring to a foreign lattice -/
theorem counterexample_shared_selection : ¬ (World.empty.run witnessSelection).Inv := by decide

/-- **the unrestricted lattice statement is false** -/
theorem lattice_inv_unrestricted_false : ¬ lattice_inv_statement :=
  fun h => counterexample_shared_selection (h World.empty witnessSelection World.empty_wf empty_inv)

/-- `s = Structure(); t = Structure(1 atom); s.extend(t.tolist())` (default copy flag) -/
def witnessExtendDefault : List Op :=
  [.mkStru, .mkStru, .addNew 1 12, .extend 0 (.tolist 1) .dflt]

/-- counter-example 2 (finding `extend-default-adopts-foreign-atom`): `extend` with the *default*
copy flag and a plain list takes over another structure's atom objects and re-links them -/
theorem counterexample_extend_default : ¬ (World.empty.run witnessExtendDefault).Inv := by decide

/-- `s.append(t[0], copy=False)` -/
def witnessNoCopy : List Op :=
  [.mkStru, .mkStru, .addNew 1 12, .append 0 (.mem 1 0) .no]

/-- counter-example 3 (finding `shared-nocopy-lattice`) -/
theorem counterexample_nocopy : ¬ (World.empty.run witnessNoCopy).Inv := by decide

/-- `s.__setitem__(9, t[0], copy=False)` raises IndexError … -/
def witnessFailedOp : List Op :=
  [.mkStru, .mkStru, .addNew 1 12, .setitem 0 9 (.mem 1 0) false]

/-- … after it has already re-linked `t[0]` (finding `shared-nocopy-lattice:failed-op`) -/
theorem counterexample_failed_op :
    World.errTrace World.empty witnessFailedOp = [none, none, none, some .index] ∧
    ¬ (World.empty.run witnessFailedOp).Inv := by decide

/-- none of the counter-example histories satisfies the side condition (consequence of `lattice_inv`) -/
theorem witnesses_not_safe :
    ¬ World.SafeHist World.empty witnessSelection ∧ ¬ World.SafeHist World.empty witnessExtendDefault ∧
    ¬ World.SafeHist World.empty witnessNoCopy ∧ ¬ World.SafeHist World.empty witnessFailedOp :=
  ⟨fun h => counterexample_shared_selection (lattice_inv World.empty_wf empty_inv _ h),
   fun h => counterexample_extend_default (lattice_inv World.empty_wf empty_inv _ h),
   fun h => counterexample_nocopy (lattice_inv World.empty_wf empty_inv _ h),
   fun h => counterexample_failed_op.2 (lattice_inv World.empty_wf empty_inv _ h)⟩


/-! ## 3. documented copies share nothing, selections share -/

/-- operations documented to return a new Structure that is a copy -/
inductive IsCopyOp : Op → Prop
  | copy (h : Nat) : IsCopyOp (.copy h)
  | add (h : Nat) (it : Iter) : IsCopyOp (.add h it)
  | sub (h : Nat) (it : Iter) : IsCopyOp (.sub h it)
  | mul (h : Nat) (n : Int) : IsCopyOp (.mul h n)
  | pickle (h : Nat) (k : Nat) : IsCopyOp (.pickle h k)
  | deepcopy (h : Nat) : IsCopyOp (.deepcopy h)

theorem step_newCopy {w : World} {op : Op} {p : Plan Nat} {L : LatSrc} (hp : planG w.view op = .ok (.plan p))
    (ht : p.tgt = .new L) (he : p.edit = .replace) (hf : p.flags = allTrue p.inc) {r : Nat}
    (hok : (w.stepFull op).2 = .ok (.stru r)) :
    r = w.strus.length ∧ (∀ a ∈ (w.stepFull op).1.atomsOf r, w.nextA ≤ a) ∧
    (w.stepFull op).1.latOf r = World.latSrcOf w L := by
  simp only [World.stepFull, hp, World.exec] at hok ⊢
  obtain ⟨h1, h2, h3⟩ := World.execPlan_new_fresh w p L ht he hf
  rw [h1] at hok
  cases hok
  exact ⟨rfl, h2, h3⟩

/-- **copies_disjoint** (core): a successful copy operation returns the next handle; every atom id of
the result and its lattice id are freshly allocated -/
theorem copies_fresh {w : World} {op : Op} (hc : IsCopyOp op) {r : Nat}
    (hok : (w.stepFull op).2 = .ok (.stru r)) :
    r = w.strus.length ∧ (∀ a ∈ (w.stepFull op).1.atomsOf r, w.nextA ≤ a) ∧ (w.stepFull op).1.latOf r = w.nextL := by
  rcases hp : planG w.view op with e | act
  · simp only [World.stepFull, hp] at hok
    cases hok
  -- every copy operation plans a new structure with a fresh lattice, filled with copies only (`step_newCopy`)
  cases hc with
  | copy h | mul h n | deepcopy h | add h it | sub h it =>
    cases planG_ok hp
    exact step_newCopy (L := .fresh) hp rfl rfl rfl hok
  | pickle h k =>
    cases planG_ok hp with
    | pickle _ _ => exact step_newCopy (L := .fresh) hp rfl rfl rfl hok
    | pickleShape _ _ =>
      simp only [World.stepFull, hp] at hok ⊢
      obtain ⟨g1, g2, g3⟩ := World.exec_copyShape_fresh w h _
      rw [g1] at hok
      cases hok
      exact ⟨rfl, g2, g3⟩

/-- **copies_disjoint**: the result of a copy operation shares no atom object with any structure or
free atom that existed before, and its lattice object is none of the earlier lattices -/
theorem copies_disjoint {w : World} (hw : Wf w) {op : Op} (hc : IsCopyOp op) {r : Nat}
    (hok : (w.stepFull op).2 = .ok (.stru r)) :
    (∀ a ∈ (w.stepFull op).1.atomsOf r, (∀ s ∈ w.strus, a ∉ s.atoms) ∧ a ∉ w.pool) ∧
    (∀ s ∈ w.strus, s.lat ≠ (w.stepFull op).1.latOf r) := by
  obtain ⟨_, h2, h3⟩ := copies_fresh hc hok
  constructor
  · intro a ha
    have := h2 a ha
    exact ⟨fun s hs hin => by have := hw.atoms s hs a hin; omega, fun hin => by have := hw.pool a hin; omega⟩
  · intro s hs heq
    have := hw.lats s hs
    omega

/-- the lattice object a constructor call asks for -/
def ctorLat (w : World) : Option LatSrc → Nat
  | some (.ofStru h') => w.latOf h'
  | _ => w.nextL

/-- copy construction `Structure(s)`, `Structure(s, lattice=L)`, `PDFFitStructure(s, lattice=t.lattice)`,
`Structure(s, title=…)`: the result is the next handle, all its atoms are fresh copies, and its lattice
is the one asked for — a new lattice object unless the caller passed the lattice of a live structure -/
theorem ctor_copies_fresh {w : World} {h : Nat} {lat : Option LatSrc} {r : Nat}
    (hok : (w.stepFull (.ctor (some (.stru h)) lat)).2 = .ok (.stru r)) :
    r = w.strus.length ∧ (∀ a ∈ (w.stepFull (.ctor (some (.stru h)) lat)).1.atomsOf r, w.nextA ≤ a) ∧
    (w.stepFull (.ctor (some (.stru h)) lat)).1.latOf r = ctorLat w lat := by
  rcases hp : planG w.view (.ctor (some (.stru h)) lat) with e | act
  · simp only [World.stepFull, hp] at hok
    cases hok
  cases planG_ok hp with
  | ctorFrom h2 h3 =>
    cases (iter_stru h2).2
    obtain ⟨g1, g2, g3⟩ := step_newCopy hp rfl rfl rfl hok
    refine ⟨g1, g2, g3.trans ?_⟩
    rw [checkLat_ok h3]
    rcases lat with _ | _ | h' <;> rfl

/-- operations documented to insert copies of the given atoms into structure `h` -/
inductive CopiesInto : Op → Nat → Prop
  | appendD (h : Nat) (a : ARef) : CopiesInto (.append h a .dflt) h
  | appendY (h : Nat) (a : ARef) : CopiesInto (.append h a .yes) h
  | insertD (h : Nat) (i : Int) (a : ARef) : CopiesInto (.insert h i a .dflt) h
  | insertY (h : Nat) (i : Int) (a : ARef) : CopiesInto (.insert h i a .yes) h
  | extendY (h : Nat) (it : Iter) : CopiesInto (.extend h it .yes) h
  | extendS (h h' : Nat) : CopiesInto (.extend h (.stru h') .dflt) h
  | iadd (h : Nat) (it : Iter) : CopiesInto (.iadd h it) h
  | imul (h : Nat) (n : Int) : CopiesInto (.imul h n) h
  | setitem (h : Nat) (i : Int) (a : ARef) : CopiesInto (.setitem h i a true) h

/-- **copies_disjoint** for in-place insertions: whatever the target holds afterwards was a member
before or is a freshly allocated copy — the caller's atom objects are never inserted -/
theorem inserted_copies_fresh {w : World} {op : Op} {h : Nat} (hc : CopiesInto op h) :
    ∀ a ∈ (w.stepFull op).1.atomsOf h, a ∈ w.atomsOf h ∨ w.nextA ≤ a := by
  rcases hp : planG w.view op with e | act
  · intro a ha
    simp only [World.stepFull, hp] at ha
    exact .inl ha
  -- every such operation plans an edit of `h` that inserts copies only
  have key {p : Plan Nat} (hp : planG w.view op = .ok (.plan p)) (ht : p.tgt = .old h) (hf : p.flags = allTrue p.inc) :
      ∀ a ∈ (w.stepFull op).1.atomsOf h, a ∈ w.atomsOf h ∨ w.nextA ≤ a := by
    simp only [World.stepFull, hp, World.exec]
    exact World.execPlan_old_fresh w p h ht hf
  cases hc with
  | appendD h a | appendY h a | insertD h i a | insertY h i a | setitem h i a | extendY h it | iadd h it =>
    cases planG_ok hp
    exact key hp rfl rfl
  | extendS h h' =>
    cases planG_ok hp with
    | extend _ h2 =>
      cases (iter_stru h2).2
      exact key hp rfl rfl
  | imul h n => cases planG_ok hp <;> exact key hp rfl rfl

/-! ## 4. no atom object in two slots -/

/-! ### 4a. with the side condition of the contiguous case only, the statement is false -/

/-- the weaker side condition: `remain` describes the members that stay in place
for a *contiguous* slice assignment only; for an extended slice `s[i:j:k] = …` it names
`old[:start] ++ old[max stop start:]`, which says nothing about the members *between* the addressed
positions -/
def DupRequestFree (w : World) (op : Op) : Prop :=
  match planG w.view op with
  | .ok (.plan p) =>
    (World.keptOf p.inc p.flags).Nodup ∧ (∀ y ∈ World.keptOf p.inc p.flags, y ∉ remain p.edit (World.oldOf w p))
  | .ok (.copyShape _ xs) => xs.Nodup
  | _ => True

def DupRequestFreeHist : World → List Op → Prop
  | _, [] => True
  | w, op :: ops => DupRequestFree w op ∧ DupRequestFreeHist (w.stepFull op).1 ops

instance (w : World) (op : Op) : Decidable (DupRequestFree w op) := by
  unfold DupRequestFree
  split <;> infer_instance

instance decDupRequestFreeHist : (w : World) → (ops : List Op) → Decidable (DupRequestFreeHist w ops)
  | _, [] => isTrue trivial
  | w, op :: ops => @instDecidableAnd _ _ _ (decDupRequestFreeHist (w.stepFull op).1 ops)

/-- the statement with that side condition -/
def no_alias_statement_plainRemain : Prop :=
  ∀ (w : World) (ops : List Op), Wf w → w.NodupInv → DupRequestFreeHist w ops → (w.run ops).NodupInv

/-- `s = Structure(2 atoms); s.__setitem__(slice(None, None, 2), [s[1]], copy=False)`: the caller hands
over, uncopied, a member that stays in the structure — slot 0 and slot 1 then hold the same atom -/
def witnessExtSliceNoCopy : List Op :=
  [.mkStru, .addNew 0 1, .addNew 0 2, .setslice 0 ⟨none, none, some 2⟩ (.list [.mem 0 1]) false]

/-- the weaker side condition lets this history through … -/
theorem witnessExtSliceNoCopy_passes_old_condition : DupRequestFreeHist World.empty witnessExtSliceNoCopy := by decide

/-- … and the structure ends up as `[a1, a1]` (payloads `[2, 2]`, one atom object) -/
theorem witnessExtSliceNoCopy_result :
    (World.empty.run witnessExtSliceNoCopy).atomsOf 0 = [1, 1] ∧
    (World.empty.run witnessExtSliceNoCopy).abs.lists = [some [2, 2]] := by decide

theorem empty_nodupInv : World.empty.NodupInv := by
  intro s hs; simp [World.empty] at hs

/-- **the statement with the contiguous-slice side condition is false** of the model (and of the code:
the history is replayed on the implementation by `harness/c08.py`, which shows the same `[a1, a1]`).
This is not a defect of the code — the caller passed `copy=False` together with an atom that remains a
member, which the property text exempts — and `DupRequestFree` does not express that exemption for an
extended slice. -/
theorem no_alias_statement_plainRemain_false : ¬ no_alias_statement_plainRemain := by
  intro h
  have h1 := h World.empty witnessExtSliceNoCopy World.empty_wf empty_nodupInv witnessExtSliceNoCopy_passes_old_condition
  have h2 := h1 ⟨[1, 1], 1, true⟩ (by decide) rfl
  revert h2
  decide

/-! ### 4b. the full theorem -/

/-- side condition of one step (`World.DupFreeX`, decidable, on the pre-state): the atoms the operation
takes over **without copying** (explicit `copy=False`; the members a slice assignment keeps; what an
index selection selects; `extend` with the default flag keeps only atoms met for the first time) are
pairwise different, and none of them is a member that stays in the target — for an extended slice
`s[i:j:k] = …` these are exactly the members at the positions the slice does not address
(`remainX`).  No restriction on the kind of operation; pickling (any protocol) needs no condition. -/
abbrev DupFreeX := World.DupFreeX

/-- **the full statement**: every operation of `Op`, extended-slice assignment and pickle protocols
0/1 included -/
def no_alias_statement : Prop :=
  ∀ (w : World) (ops : List Op), Wf w → w.NodupInv → World.DupFreeHistX w ops → (w.run ops).NodupInv

/-- **no_alias**: if no live structure holds an atom object in two slots, this still holds after any
history in which the caller never hands over a duplicate uncopied -/
theorem no_alias : no_alias_statement :=
  fun _ ops hw hn hd => World.run_nodupX hw hn ops hd

theorem dupFreeHistX_take {w : World} {ops : List Op} (hd : World.DupFreeHistX w ops) (k : Nat) :
    World.DupFreeHistX w (ops.take k) := by
  induction ops generalizing w k with
  | nil => simpa using hd
  | cons op ops ih =>
    cases k with
    | zero => trivial
    | succ k => exact ⟨hd.1, ih hd.2 k⟩

/-- … after *every* step of the history -/
theorem no_alias_every_step {w : World} (hw : Wf w) (hn : w.NodupInv) (ops : List Op) (hd : World.DupFreeHistX w ops)
    (k : Nat) : (w.run (ops.take k)).NodupInv :=
  no_alias w _ hw hn (dupFreeHistX_take hd k)

theorem dupFreeHistX_of_dupFreeHist {w : World} {ops : List Op} (hd : World.DupFreeHist w ops) :
    World.DupFreeHistX w ops := by
  induction ops generalizing w with
  | nil => trivial
  | cons op ops ih => exact ⟨World.dupFreeX_of_dupFree hd.1, ih hd.2⟩

/-- **no_alias** (restricted form): if no live structure holds an atom twice, this still holds after any
history whose steps satisfy `World.DupFree` — on the pre-state of each step: the atoms taken over
*without copying* (explicit `copy=False`, the members a slice assignment keeps, the members an
index array / tuple selects) are pairwise different and are not members that stay in the target.
Covered edits: everything except assignment to an extended slice (step ≠ 1) and pickling with
protocol 0/1 — a special case of `no_alias` above, which has no such restriction. -/
theorem no_alias_partial {w : World} (hw : Wf w) (hn : w.NodupInv) (ops : List Op) (hd : World.DupFreeHist w ops) :
    (w.run ops).NodupInv :=
  World.run_nodupX hw hn ops (dupFreeHistX_of_dupFreeHist hd)

theorem witnessExtSliceNoCopy_rejected : ¬ World.DupFreeHistX World.empty witnessExtSliceNoCopy := by decide

/-! ### 4c. which operations need the side condition at all -/

/-- slice assignment (any step) with the default `copy=True`: the side condition reduces to "the value does not
list a member *of the assigned slice* twice" — the second exemption of the property text -/
theorem dupFreeX_setslice_copy {w : World} (hn : w.NodupInv) {h : Nat} {sl : Slice} {it : Iter}
    {old xs : List Nat} {b : Bool} {a : Int × Int × Int}
    (h1 : w.view.atoms h = .ok old) (h2 : w.view.iter it = .ok (xs, b)) (h3 : sliceAdjust old.length sl = .ok a)
    (hk : (xs.filter (fun x => decide (x ∈ pick old (sliceIdx a)))).Nodup) :
    World.DupFreeX w (.setslice h sl it true) := by
  have hp : planG w.view (.setslice h sl it true) =
      .ok (.plan { tgt := .old h, pre := none, inc := xs,
                   flags := xs.map (fun x => decide (x ∉ pick old (sliceIdx a))), edit := .setSlice sl }) := by
    simp only [planG, h1, h2, h3, if_true]
  have hold : ∀ fl : List Bool, World.oldOf w { tgt := .old h, pre := none, inc := xs, flags := fl, edit := Edit.setSlice sl } = old := by
    intro fl; simp only [World.oldOf]; exact (World.view_atoms_ok h1).1
  have holdn : old.Nodup := by rw [← (World.view_atoms_ok h1).1]; exact World.atomsOf_nodup hn h
  simp only [World.DupFreeX, hp, World.DupFreeActX, hold]
  have hkept : World.keptOf xs (xs.map (fun x => decide (x ∉ pick old (sliceIdx a)))) =
      xs.filter (fun x => decide (x ∈ pick old (sliceIdx a))) := by
    rw [World.keptOf_map]
    simp
  rw [hkept]
  refine ⟨hk, ?_⟩
  intro y hy
  simp only [List.mem_filter, decide_eq_true_eq] at hy
  exact pick_sliceIdx_not_remain old sl a h3 holdn y hy.2

def singleUseIndex : Index → Bool
  | .arr _ => false
  | .tuple _ => false
  | .keys _ => false
  | _ => true

/-- the operations for which the side condition of `no_alias` holds in every state that satisfies the invariant:
everything except an explicit `copy=False`, slice assignment (see `dupFreeX_setslice_copy`) and a selection by
index array / tuple / list of keys (which may name one member twice).  In particular `extend` with the default flag,
slice and mask selections, `-=`, every copying form, pickling with any protocol, the constructor. -/
def AutoDupFree : Op → Prop
  | .append _ _ c => c ≠ .no
  | .insert _ _ _ c => c ≠ .no
  | .extend _ _ c => c ≠ .no
  | .setitem _ _ _ c => c = true
  | .setslice _ _ _ _ => False
  | .getitem _ ix => singleUseIndex ix = true
  | _ => True

theorem dupFreeActX_allTrue (w : World) (p : Plan Nat) (h : p.flags = allTrue p.inc) :
    World.DupFreeActX w (.plan p) := by
  simp only [World.DupFreeActX, h, World.keptOf_allTrue]
  exact ⟨List.nodup_nil, nofun⟩

theorem dupFreeActX_replace (w : World) (p : Plan Nat) (he : p.edit = .replace) (h : (World.keptOf p.inc p.flags).Nodup) :
    World.DupFreeActX w (.plan p) := by
  refine ⟨h, ?_⟩
  intro y _ hin
  rw [he] at hin
  simp [remainX, remain] at hin

theorem dupFreeActX_select (w : World) (p : Plan Nat) (he : p.edit = .replace) (hf : p.flags = allFalse p.inc)
    (h : p.inc.Nodup) : World.DupFreeActX w (.plan p) :=
  dupFreeActX_replace w p he (by rw [hf, World.keptOf_allFalse]; exact h)

theorem copyFlags_dflt_kept (isS : Bool) (old xs : List Nat) :
    (World.keptOf xs (copyFlags .dflt isS old xs)).Nodup ∧ ∀ y ∈ World.keptOf xs (copyFlags .dflt isS old xs), y ∉ old := by
  cases isS with
  | true => simp [copyFlags, World.keptOf_allTrue]
  | false => simpa [copyFlags] using keptOf_memoFlags old xs

theorem dupFreeX_auto {w : World} (hn : w.NodupInv) {op : Op} (ha : AutoDupFree op) : World.DupFreeX w op := by
  have nodup {h : Nat} {old : List Nat} (h1 : w.view.atoms h = .ok old) : old.Nodup := by
    rw [← (World.view_atoms_ok h1).1]; exact World.atomsOf_nodup hn h
  unfold World.DupFreeX
  rcases hp : planG w.view op with e | act; · trivial
  show World.DupFreeActX w act
  cases planG_ok hp with
  | setslice _ _ _ => exact ha.elim
  | mkAtom | addNew _ | drop _ | setLatFresh _ | setLatOf _ _ | pickleShape _ _ => trivial
  | mkStru | delitem _ | delslice _ | pop _ | reverse _ | sort _ | clear _ | remove _ _ _ | copy _ | deepcopy _ | pickle _ _
  | mul _ | add _ _ | iadd _ _ | sub _ _ | imulClear _ _ | imulRep _ _ | ctorEmpty _ =>
    exact dupFreeActX_allTrue w _ rfl
  | append _ _ | insert _ _ => exact dupFreeActX_allTrue w _ (congrArg (· :: []) (decide_eq_true ha))
  | setitem _ _ => exact dupFreeActX_allTrue w _ (congrArg (· :: []) ha)
  | @extend h old it xs isS c h1 _ =>
    cases c with
    | no => exact (ha rfl).elim
    | yes => exact dupFreeActX_allTrue w _ rfl
    | dflt =>
      -- what is taken over uncopied is met for the first time and is no member yet
      obtain ⟨k1, k2⟩ := copyFlags_dflt_kept isS old xs
      refine ⟨k1, fun y hy hin => k2 y hy ?_⟩
      rwa [← (World.view_atoms_ok h1).1]
  | isub h1 _ => exact dupFreeActX_select w _ rfl rfl (List.filter_sublist.nodup (nodup h1))
  | ctorFrom _ _ => exact dupFreeActX_replace _ _ rfl (copyFlags_dflt_kept _ [] _).1
  | @getitem h old ix act h1 h2 =>
    revert h2
    cases ix with
    | arr is | tuple ks | keys ks => exact Bool.noConfusion (show false = true from ha)
    | int i =>
      simp only [planIndex]
      rcases normIdx old.length i with _ | k; · nofun
      simp only
      cases old[k]? <;> rintro ⟨⟩
      trivial
    | label p =>
      simp only [planIndex]
      rcases findLabel w.view.lab old p with e | k; · nofun
      simp only
      cases old[k]? <;> rintro ⟨⟩
      trivial
    | slice sl =>
      simp only [planIndex]
      rcases hadj : sliceAdjust old.length sl with e | a; · nofun
      rintro ⟨⟩
      exact dupFreeActX_select w _ rfl rfl (pick_nodup old _ (nodup h1) (sliceIdx_nodup hadj))
    | mask bs =>
      simp only [planIndex]
      split <;> rintro ⟨⟩
      exact dupFreeActX_select w _ rfl rfl (pick_nodup old _ (nodup h1) (trueIdx_nodup bs 0))

/-- one step, pickling with protocol 0 or 1 (the form `no_alias_partial` excludes): no hypothesis beyond
the invariant itself -/
theorem no_alias_pickle01 {w : World} (hw : Wf w) (hn : w.NodupInv) (h proto : Nat) :
    (w.stepFull (.pickle h proto)).1.NodupInv :=
  World.stepFull_nodupX hw hn _ (dupFreeX_auto hn trivial)

/-- the side condition restricted to the steps that need it -/
def DupFreeHistExplicit : World → List Op → Prop
  | _, [] => True
  | w, op :: ops => (AutoDupFree op ∨ World.DupFreeX w op) ∧ DupFreeHistExplicit (w.stepFull op).1 ops

/-- **no_alias**, explicit form: only an explicit `copy=False`, a slice assignment and a selection by index array /
tuple / list carry a hypothesis (and for a slice assignment with the default flag it is
`dupFreeX_setslice_copy`: no member of the slice listed twice) -/
theorem no_alias_explicit {w : World} (hw : Wf w) (hn : w.NodupInv) (ops : List Op) (hd : DupFreeHistExplicit w ops) :
    (w.run ops).NodupInv := by
  induction ops generalizing w with
  | nil => exact hn
  | cons op ops ih =>
    have h1 : World.DupFreeX w op := by
      rcases hd.1 with h | h
      · exact dupFreeX_auto hn h
      · exact h
    exact ih (World.stepFull_wf hw op) (World.stepFull_nodupX hw hn op h1) hd.2

instance (op : Op) : Decidable (AutoDupFree op) := by
  cases op <;> unfold AutoDupFree <;> infer_instance

instance decDupFreeHistExplicit : (w : World) → (ops : List Op) → Decidable (DupFreeHistExplicit w ops)
  | _, [] => isTrue trivial
  | w, op :: ops => @instDecidableAnd _ _ _ (decDupFreeHistExplicit (w.stepFull op).1 ops)

theorem dupFreeHistExplicit_of_auto (w : World) (ops : List Op) (h : ∀ op ∈ ops, AutoDupFree op) :
    DupFreeHistExplicit w ops := by
  induction ops generalizing w with
  | nil => trivial
  | cons op ops ih => exact ⟨Or.inl (h op (by simp)), ih _ (fun o ho => h o (List.mem_cons_of_mem _ ho))⟩

/-- histories without `copy=False`, slice assignment and index-array selections never put an atom into two slots -/
theorem no_alias_auto {w : World} (hw : Wf w) (hn : w.NodupInv) (ops : List Op) (h : ∀ op ∈ ops, AutoDupFree op) :
    (w.run ops).NodupInv :=
  no_alias_explicit hw hn ops (dupFreeHistExplicit_of_auto w ops h)

/-- a duplicate that the caller asked for does end up in two slots: `s.append(s[0], copy=False)` -/
theorem alias_when_asked :
    ¬ (World.empty.run [.mkStru, .addNew 0 1, .append 0 (.mem 0 0) .no]).NodupInv := by
  intro h
  have := h ⟨[0, 0], 1, true⟩ (by decide) rfl
  revert this
  decide

/-! ## 5. the enumeration of copies and selections is complete

`IsCopyOp` and `CopiesInto` list constructors by hand, and the docstring of `selections_share` lists the index forms.  `docKind` classifies
**every** constructor of `Op` by what the docstrings of `structure.py` say about the atoms of the
result; the `…_all` theorems quantify over a whole class, so nothing documented as a copy or as a
selection can be missing from an enumeration (a new constructor of `Op` does not compile until it is
classified). -/

inductive DocKind
  /-- returns a new Structure documented as a copy: `copy()`/`Structure(s)`, `+`, `-`, `*`, pickling, `deepcopy` -/
  | copyNew
  /-- puts *copies* of the given atoms into the target: `append`/`insert` (default or `copy=True`),
  `extend(copy=True)`, `extend(<Structure>)`, `+=`, `*=`, `s[i] = a`, `s[i:j:k] = …` (default flag) -/
  | copyInto
  /-- indexing: a selection that shares atoms and lattice, or the member atom itself -/
  | selection
  /-- puts the given atom objects themselves into the target: `copy=False`, `extend` with the
  default flag and an iterable that is not a Structure, `Structure(<iterable>)` -/
  | shareInto
  /-- only rearranges / removes members: `del`, `pop`, `remove`, `reverse`, `sort`, `clear`, `-=` -/
  | rearrange
  /-- creates a free atom / an empty structure / a new member atom, assigns a lattice, forgets a structure -/
  | other
  deriving DecidableEq, Repr

def docKind : Op → DocKind
  | .mkAtom _ => .other
  | .mkStru => .other
  | .addNew _ _ => .other
  | .append _ _ c => if c = .no then .shareInto else .copyInto
  | .insert _ _ _ c => if c = .no then .shareInto else .copyInto
  | .extend _ it c => match c, it with
    | .yes, _ => .copyInto
    | .no, _ => .shareInto
    | .dflt, .stru _ => .copyInto
    | .dflt, _ => .shareInto
  | .getitem _ _ => .selection
  | .setitem _ _ _ c => if c then .copyInto else .shareInto
  | .setslice _ _ _ c => if c then .copyInto else .shareInto
  | .delitem _ _ => .rearrange
  | .delslice _ _ => .rearrange
  | .add _ _ => .copyNew
  | .iadd _ _ => .copyInto
  | .sub _ _ => .copyNew
  | .isub _ _ => .rearrange
  | .mul _ _ => .copyNew
  | .imul _ _ => .copyInto
  | .copy _ => .copyNew
  | .pickle _ _ => .copyNew
  | .deepcopy _ => .copyNew
  | .setLat _ _ => .other
  | .pop _ _ => .rearrange
  | .remove _ _ => .rearrange
  | .reverse _ => .rearrange
  | .sort _ => .rearrange
  | .clear _ => .rearrange
  | .drop _ => .other
  | .ctor src _ => match src with
    | none => .other
    | some (.stru _) => .copyNew
    | some _ => .shareInto

/-- the structure an in-place operation edits -/
def opTarget : Op → Option Nat
  | .append h _ _ | .insert h _ _ _ | .extend h _ _ | .setitem h _ _ _ | .setslice h _ _ _
  | .iadd h _ | .imul h _ | .isub h _ | .delitem h _ | .delslice h _ | .pop h _ | .remove h _
  | .reverse h | .sort h | .clear h | .addNew h _ => some h
  | _ => none

/-- the hand-written enumeration of copy operations is complete: together with copy construction it is
exactly the class `copyNew` -/
theorem docKind_copyNew_iff (op : Op) :
    docKind op = .copyNew ↔ IsCopyOp op ∨ ∃ h lat, op = .ctor (some (.stru h)) lat := by
  constructor
  · intro h
    cases op <;> simp only [docKind] at h
    case add hh it => exact Or.inl (.add _ _)
    case sub hh it => exact Or.inl (.sub _ _)
    case mul hh n => exact Or.inl (.mul _ _)
    case copy hh => exact Or.inl (.copy _)
    case pickle hh k => exact Or.inl (.pickle _ _)
    case deepcopy hh => exact Or.inl (.deepcopy _)
    case append hh a c => cases c <;> simp at h
    case insert hh i a c => cases c <;> simp at h
    case extend hh it c => cases c <;> cases it <;> simp at h
    case setitem hh i a c => cases c <;> simp at h
    case setslice hh sl it c => cases c <;> simp at h
    case ctor src lat =>
      cases src with
      | none => simp at h
      | some it => cases it <;> first | exact Or.inr ⟨_, _, rfl⟩ | simp at h
    all_goals cases h
  · rintro (h | ⟨h, lat, rfl⟩)
    · cases h <;> rfl
    · rfl

/-- the lattice object a copy operation must return: a new one, unless the constructor was given the
lattice of a live structure -/
def sharesLatticeWith : Op → Option Nat
  | .ctor _ (some (.ofStru h')) => some h'
  | _ => none

/-- **copies_disjoint_all**: *every* operation documented to return a copy (class `copyNew` — `copy`,
`+`, `-`, `*`, pickling with any protocol, `deepcopy`, and copy construction with any `lattice=` /
`title=` argument) returns the next handle; none of its atoms existed before (in any structure, live or
not, or as a free atom), and its lattice object is none of the earlier ones — except that
`Structure(s, lattice=t.lattice)` refers, as asked, to the lattice of `t` -/
theorem copies_disjoint_all {w : World} (hw : Wf w) {op : Op} (hk : docKind op = .copyNew) {r : Nat}
    (hok : (w.stepFull op).2 = .ok (.stru r)) :
    r = w.strus.length ∧
    (∀ a ∈ (w.stepFull op).1.atomsOf r, w.nextA ≤ a ∧ (∀ s ∈ w.strus, a ∉ s.atoms) ∧ a ∉ w.pool) ∧
    (match sharesLatticeWith op with
     | none => (w.stepFull op).1.latOf r = w.nextL ∧ ∀ s ∈ w.strus, s.lat ≠ (w.stepFull op).1.latOf r
     | some h' => (w.stepFull op).1.latOf r = w.latOf h') := by
  have fresh : ∀ a, w.nextA ≤ a → w.nextA ≤ a ∧ (∀ s ∈ w.strus, a ∉ s.atoms) ∧ a ∉ w.pool := by
    intro a ha
    exact ⟨ha, fun s hs hin => by have := hw.atoms s hs a hin; omega, fun hin => by have := hw.pool a hin; omega⟩
  have newlat : ∀ L, L = w.nextL → ∀ s ∈ w.strus, s.lat ≠ L := by
    intro L hL s hs heq
    have := hw.lats s hs
    omega
  rcases (docKind_copyNew_iff op).mp hk with hc | ⟨h, lat, rfl⟩
  · obtain ⟨h1, h2, h3⟩ := copies_fresh hc hok
    have hs : sharesLatticeWith op = none := by cases hc <;> rfl
    rw [hs]
    exact ⟨h1, fun a ha => fresh a (h2 a ha), h3, newlat _ h3⟩
  · obtain ⟨h1, h2, h3⟩ := ctor_copies_fresh hok
    refine ⟨h1, fun a ha => fresh a (h2 a ha), ?_⟩
    cases lat with
    | none => exact ⟨h3, newlat _ h3⟩
    | some l =>
      cases l with
      | fresh => exact ⟨h3, newlat _ h3⟩
      | ofStru h' => exact h3

/-- the hand-written enumeration `CopiesInto` plus slice assignment with the default flag is exactly
the class `copyInto` -/
theorem docKind_copyInto_iff (op : Op) :
    docKind op = .copyInto ↔
      (∃ h, CopiesInto op h) ∨ ∃ h sl it, op = .setslice h sl it true := by
  constructor
  · intro h
    cases op <;> simp only [docKind] at h
    case append hh a c => cases c <;> first | exact Or.inl ⟨_, by constructor⟩ | simp at h
    case insert hh i a c => cases c <;> first | exact Or.inl ⟨_, by constructor⟩ | simp at h
    case extend hh it c =>
      cases c
      · cases it <;> first | exact Or.inl ⟨_, by constructor⟩ | simp at h
      · exact Or.inl ⟨_, .extendY _ _⟩
      · simp at h
    case setitem hh i a c => cases c <;> first | exact Or.inl ⟨_, by constructor⟩ | simp at h
    case setslice hh sl it c => cases c <;> first | exact Or.inr ⟨_, _, _, rfl⟩ | simp at h
    case iadd hh it => exact Or.inl ⟨_, .iadd _ _⟩
    case imul hh n => exact Or.inl ⟨_, .imul _ _⟩
    case ctor src lat =>
      cases src with
      | none => simp at h
      | some it => cases it <;> simp at h
    all_goals cases h
  · rintro (⟨h, hc⟩ | ⟨h, sl, it, rfl⟩)
    · cases hc <;> rfl
    · rfl

theorem copiesInto_target {op : Op} {h : Nat} (hc : CopiesInto op h) : opTarget op = some h := by
  cases hc <;> rfl

/-- **inserted_copies_fresh_all**: after *every* operation documented to insert copies (class
`copyInto`, slice assignment with the default flag included), whatever the target holds was a member
before or is a freshly allocated copy — the caller's atom objects are never inserted.  (A slice
assignment keeps the members of the assigned slice that the value lists; they were members.) -/
theorem inserted_copies_fresh_all {w : World} (hw : Wf w) {op : Op} (hk : docKind op = .copyInto) {h : Nat}
    (ht : opTarget op = some h) :
    ∀ a ∈ (w.stepFull op).1.atomsOf h, a ∈ w.atomsOf h ∨ w.nextA ≤ a := by
  rcases (docKind_copyInto_iff op).mp hk with ⟨h', hc⟩ | ⟨h', sl, it, rfl⟩
  · have := copiesInto_target hc
    rw [ht] at this
    cases this
    exact inserted_copies_fresh hc
  · simp only [opTarget, Option.some.injEq] at ht
    subst ht
    rcases hp : planG w.view (.setslice h' sl it true) with e | act
    · simp only [World.stepFull, hp]
      exact fun a ha => .inl ha
    cases planG_ok hp with
    | setslice h1 _ _ =>
      simp only [World.stepFull, hp, World.exec]
      intro a ha
      rcases World.execPlan_old_mem w _ h' rfl a ha with g | g | g
      · exact .inl g
      · -- an atom taken over uncopied is a member of the assigned slice
        have := (World.mem_keptOf_map g).2
        simp only [decide_eq_false_iff_not, Decidable.not_not] at this
        rw [(World.view_atoms_ok h1).1]
        exact .inl (pick_subset _ _ a this)
      · exact .inr g

/-- the positions an index expression selects: one member (`s[i]`, `s["label"]`) or a list of
positions, in order, repetitions kept (slice, index array, mask, tuple, list of keys) -/
inductive Sel | one (k : Nat) | many (idxs : List Nat)
  deriving DecidableEq, Repr

def selPositions (lab : Nat → Nat) (old : List Nat) : Index → Except Err Sel
  | .int i => match normIdx old.length i with
    | some k => .ok (.one k)
    | none => .error .index
  | .slice sl => match sliceAdjust old.length sl with
    | .error e => .error e
    | .ok a => .ok (.many (sliceIdx a))
  | .arr is => match mapE (normIdxE old.length) is with
    | .error e => .error e
    | .ok idxs => .ok (.many idxs)
  | .mask bs => if bs.length ≠ old.length ∧ bs ≠ [] then .error .index else .ok (.many (trueIdx bs 0))
  | .label p => match findLabel lab old p with
    | .error e => .error e
    | .ok k => .ok (.one k)
  | .tuple ks =>
    if ks = [] then .error .value else
    match mapE (resolveKey lab old) ks with
    | .error e => .error e
    | .ok is => match mapE (normIdxE old.length) is with
      | .error e => .error e
      | .ok idxs => .ok (.many idxs)
  | .keys ks =>
    match mapE (resolveKey lab old) ks with
    | .error e => .error e
    | .ok is => match mapE (normIdxE old.length) is with
      | .error e => .error e
      | .ok idxs => .ok (.many idxs)

theorem planIndex_eq (v : View Nat) (h : Nat) (old : List Nat) (ix : Index) :
    planIndex v h old ix = (match selPositions v.lab old ix with
      | .error e => .error e
      | .ok (.one k) => (match old[k]? with
        | some a => .ok (.retAtom a h)
        | none => .error .index)
      | .ok (.many idxs) => .ok (selPlan h (pick old idxs))) := by
  -- both sides branch on the same tests
  cases ix with
  | int i =>
    simp only [planIndex, selPositions]
    rcases normIdx old.length i with _ | k; · rfl
    simp only
    cases old[k]? <;> rfl
  | slice sl => simp only [planIndex, selPositions]; cases sliceAdjust old.length sl <;> rfl
  | arr is => simp only [planIndex, selPositions]; cases mapE (normIdxE old.length) is <;> rfl
  | mask bs => simp only [planIndex, selPositions]; split <;> rfl
  | label p =>
    simp only [planIndex, selPositions]
    rcases findLabel v.lab old p with e | k; · rfl
    simp only
    cases old[k]? <;> rfl
  | tuple ks =>
    simp only [planIndex, selPositions]
    split; · rfl
    rcases mapE (resolveKey v.lab old) ks with e | is; · rfl
    simp only
    cases mapE (normIdxE old.length) is <;> rfl
  | keys ks =>
    simp only [planIndex, selPositions]
    rcases mapE (resolveKey v.lab old) ks with e | is; · rfl
    simp only
    cases mapE (normIdxE old.length) is <;> rfl

theorem docKind_selection_iff (op : Op) : docKind op = .selection ↔ ∃ h ix, op = .getitem h ix := by
  constructor
  · intro h
    cases op <;> simp only [docKind] at h
    case getitem hh ix => exact ⟨_, _, rfl⟩
    case append hh a c => cases c <;> simp at h
    case insert hh i a c => cases c <;> simp at h
    case extend hh it c => cases c <;> cases it <;> simp at h
    case setitem hh i a c => cases c <;> simp at h
    case setslice hh sl it c => cases c <;> simp at h
    case ctor src lat =>
      cases src with
      | none => simp at h
      | some it => cases it <;> simp at h
    all_goals cases h
  · rintro ⟨h, ix, rfl⟩; rfl

/-- **selections_share_all**: for *every* index form — integer, slice (any step), index array, boolean
mask, label, tuple, list of keys — indexing a live structure either raises without changing anything,
or returns the member atom object itself without changing anything (`s[i]`, `s["label"]`), or returns
the next handle: a structure that refers to the *same* lattice object as its source and whose member
list is **exactly** the selected members, in the order and with the repetitions of the index. -/
theorem selections_share_all (w : World) {h : Nat} {old : List Nat} (h1 : w.view.atoms h = .ok old) (ix : Index) :
    match selPositions w.pay old ix with
    | .error e => w.stepFull (.getitem h ix) = (w, .error e)
    | .ok (.one k) => (match old[k]? with
      | some a => w.stepFull (.getitem h ix) = (w, .ok (.atom a h))
      | none => w.stepFull (.getitem h ix) = (w, .error .index))
    | .ok (.many idxs) =>
      (w.stepFull (.getitem h ix)).2 = .ok (.stru w.strus.length) ∧
      (w.stepFull (.getitem h ix)).1.atomsOf w.strus.length = pick (w.atomsOf h) idxs ∧
      (w.stepFull (.getitem h ix)).1.latOf w.strus.length = w.latOf h := by
  have hp : planG w.view (.getitem h ix) = planIndex w.view h old ix := by simp only [planG, h1]
  have hat := (World.view_atoms_ok h1).1
  have hlab : w.view.lab = w.pay := rfl
  rw [← hlab]
  have hq := planIndex_eq w.view h old ix
  rcases hs : selPositions w.view.lab old ix with e | sel
  · simp only [hs] at hq
    simp only [World.stepFull, hp, hq]
  · cases sel with
    | one k =>
      simp only [hs] at hq
      rcases hk : old[k]? with _ | a
      · simp only [hk] at hq
        simp only [World.stepFull, hp, hq, hk]
      · simp only [hk] at hq
        simp only [World.stepFull, hp, hq, hk, World.exec]
    | many idxs =>
      simp only [hs] at hq
      simp only [World.stepFull, hp, hq, selPlan, World.exec]
      rw [hat]
      exact World.execPlan_new_sel w _ h rfl rfl rfl

/-- **selections_share**: indexing by slice, index array, boolean mask, tuple or list returns the
next handle; the new structure refers to the *same* lattice as its source and holds atom objects of
the source only -/
theorem selections_share {w : World} {h : Nat} {ix : Index} {r : Nat}
    (hok : (w.stepFull (.getitem h ix)).2 = .ok (.stru r)) :
    r = w.strus.length ∧ (w.stepFull (.getitem h ix)).1.latOf r = w.latOf h ∧
    ∃ idxs, (w.stepFull (.getitem h ix)).1.atomsOf r = pick (w.atomsOf h) idxs := by
  rcases h1 : w.view.atoms h with e | old
  · simp only [World.stepFull, planG, h1] at hok
    cases hok
  · have hs := selections_share_all w h1 ix
    generalize selPositions w.pay old ix = s at hs
    rcases s with e | k | idxs <;> simp only at hs
    · rw [hs] at hok; cases hok
    · generalize old[k]? = o at hs
      cases o <;> simp only at hs <;> rw [hs] at hok <;> cases hok
    · rw [hs.1] at hok
      cases hok
      exact ⟨rfl, hs.2.2, idxs, hs.2.1⟩

/-- exact form for slices: the selection is the CPython slice of the member list -/
theorem selections_share_slice {w : World} {h : Nat} {sl : Slice} {old : List Nat} {a : Int × Int × Int}
    (h1 : w.view.atoms h = .ok old) (ha : sliceAdjust old.length sl = .ok a) :
    (w.stepFull (.getitem h (.slice sl))).2 = .ok (.stru w.strus.length) ∧
    (w.stepFull (.getitem h (.slice sl))).1.atomsOf w.strus.length = pick old (sliceIdx a) ∧
    (w.stepFull (.getitem h (.slice sl))).1.latOf w.strus.length = w.latOf h := by
  have hs := selections_share_all w h1 (.slice sl)
  simp only [selPositions, ha, (World.view_atoms_ok h1).1] at hs
  exact hs
/-- every constructor of `Op` falls into exactly one class (`docKind` is a total function); the three
classes the property text speaks about are characterised above -/
theorem docKind_total (op : Op) :
    docKind op = .copyNew ∨ docKind op = .copyInto ∨ docKind op = .selection ∨ docKind op = .shareInto ∨
    docKind op = .rearrange ∨ docKind op = .other := by
  cases hd : docKind op <;> simp

/-! ## non-vacuity: a concrete history that satisfies every hypothesis used above -/

instance decHistAgree : (w : World) → (ops : List Op) → Decidable (HistAgree w ops)
  | _, [] => isTrue trivial
  | w, op :: ops => @instDecidableAnd _ _ _ (decHistAgree (w.stepFull op).1 ops)

/-- `s = Structure(2 atoms); a = Atom(); s.append(a, copy=False); c = s.copy(); c.lattice = Lattice();
sel = s[1:]; d = s - sel; c.extend([a], copy=True); s -= sel.tolist(); s.remove(s[0]); c[::2] = c (ValueError); …` -/
def goodHistory : List Op :=
  [.mkStru, .addNew 0 1, .addNew 0 2, .mkAtom 3, .append 0 (.pool 0) .no, .copy 0, .setLat 1 .fresh,
   .getitem 0 (.slice ⟨some 1, none, none⟩), .sub 0 (.stru 2), .extend 1 (.list [.pool 0]) .yes,
   .isub 0 (.tolist 2), .remove 0 (.mem 0 0), .setslice 1 ⟨none, none, some 2⟩ (.stru 1) true,
   .getitem 1 (.tuple [.label 1, .int (-1)]), .imul 1 2, .pickle 1 2, .pickle 1 0, .setitem 1 9 (.pool 0) true,
   .setLat 3 (.ofStru 0), .mul 3 (-1), .pop 1 none, .sort 1, .delslice 1 ⟨some 0, none, some 3⟩,
   .ctor (some (.stru 1)) (some .fresh), .ctor (some (.stru 1)) (some (.ofStru 0)), .mkAtom 9, .ctor (some (.list [.pool 1])) none,
   .ctor none (some (.ofStru 1)), .append 8 (.mem 1 0) .dflt]

example : Wf World.empty ∧ World.empty.Inv := ⟨World.empty_wf, empty_inv⟩
theorem goodHistory_agree : HistAgree World.empty goodHistory := by decide +kernel
theorem goodHistory_safe : World.SafeHist World.empty goodHistory := by decide +kernel
example : HistAgree World.empty goodHistory := goodHistory_agree
example : World.SafeHist World.empty goodHistory := goodHistory_safe
example : (World.empty.run goodHistory).Inv := lattice_inv World.empty_wf empty_inv _ goodHistory_safe
example : (World.empty.run goodHistory).abs = ListSpec.run World.empty.abs goodHistory :=
  refines_list World.empty_wf _ goodHistory_agree
/-- the history really exercises the error path and the structures are not trivial -/
example : World.errTrace World.empty goodHistory =
    [none, none, none, none, none, none, none, none, none, none, none, none, some .value, none, none, none, none,
     some .index, none, none, none, none, none, none, none, none, none, none, none] := by decide +kernel
set_option maxRecDepth 4000 in
example : (World.empty.run goodHistory).abs.lists.length = 12 := by decide +kernel
/-- for `no_alias_partial`: a plain slice assignment that keeps a member, a `copy=False` append of a
free atom, an index-array selection, protocol-2 pickling -/
def goodHistory2 : List Op :=
  [.mkStru, .addNew 0 1, .addNew 0 2, .mkAtom 3, .append 0 (.pool 0) .no, .copy 0,
   .getitem 0 (.arr [2, 0]), .setslice 0 ⟨some 1, none, none⟩ (.list [.mem 0 2, .mem 1 0]) true,
   .extend 0 (.tolist 1) .dflt, .imul 1 2, .pickle 1 2, .sub 0 (.stru 2), .insert 1 (-1) (.mem 1 0) .dflt,
   .setitem 1 0 (.mem 0 0) true, .sort 0, .reverse 1, .delslice 1 ⟨none, none, some (-2)⟩]
theorem goodHistory2_dupFree : World.DupFreeHist World.empty goodHistory2 := by decide +kernel
example : World.DupFreeHist World.empty goodHistory2 := goodHistory2_dupFree
example : (World.empty.run goodHistory2).NodupInv := no_alias_partial World.empty_wf empty_nodupInv _ goodHistory2_dupFree
example : (World.empty.run goodHistory2).abs.lists =
    [some [1, 1, 1, 2, 3, 3], some [1, 1, 2], some [3, 1], some [1, 2, 3, 1, 2, 3], some [1, 1, 2, 3]] := by decide +kernel
example : IsCopyOp (.sub 0 (.stru 2)) ∧ CopiesInto (.imul 1 2) 1 := ⟨.sub _ _, .imul _ _⟩
/-- for `no_alias`: the two forms `no_alias_partial` excludes, successfully executed —
`s[::2] = [a, s[0]]` with `copy=False` (a free atom and a member *of the slice*), `s[-1::-2] = [s[1], b]` with
the default flag (member of the slice kept, free atom copied), pickling with protocols 0, 1 and 2, an
index-array selection, an extended-slice assignment of the wrong length (ValueError), `sort`, `-=`, an
extended-slice assignment from a generator, `extend(s.tolist())` with the default flag (members copied) -/
def goodHistory3 : List Op :=
  [.mkStru, .addNew 0 1, .addNew 0 2, .addNew 0 3, .addNew 0 4, .mkAtom 5, .mkAtom 6,
   .setslice 0 ⟨none, none, some 2⟩ (.list [.pool 0, .mem 0 0]) false,
   .setslice 0 ⟨some (-1), none, some (-2)⟩ (.list [.mem 0 1, .pool 1]) true,
   .pickle 0 0, .pickle 0 1, .pickle 1 2, .getitem 0 (.arr [3, 0]),
   .setslice 0 ⟨none, none, some 3⟩ (.stru 0) true, .sort 0, .isub 0 (.list [.mem 0 0]),
   .setslice 2 ⟨some 1, none, some 2⟩ (.gen [.mem 2 3, .mem 2 1]) true, .extend 4 (.tolist 4) .dflt]
theorem goodHistory3_dupFreeX : World.DupFreeHistX World.empty goodHistory3 := by decide +kernel
example : World.DupFreeHistX World.empty goodHistory3 := goodHistory3_dupFreeX
/-- … which the restricted side condition of `no_alias_partial` rejects -/
example : ¬ World.DupFreeHist World.empty goodHistory3 := by decide +kernel
example : (World.empty.run goodHistory3).NodupInv := no_alias _ _ World.empty_wf empty_nodupInv goodHistory3_dupFreeX
example : (World.empty.run goodHistory3).abs.lists =
    [some [2, 5, 6], some [5, 6, 1, 2], some [5, 2, 1, 6], some [5, 6, 1, 2], some [2, 5, 2, 5]] ∧
    (World.empty.run goodHistory3).strus.map (·.atoms) =
    [[1, 4, 6], [7, 8, 9, 10], [11, 14, 13, 12], [15, 16, 17, 18], [1, 4, 21, 22]] := by decide +kernel
example : World.errTrace World.empty goodHistory3 =
    [none, none, none, none, none, none, none, none, none, none, none, none, none, some .value, none, none, none, none] := by
  decide +kernel
example : World.DupFreeHistX World.empty goodHistory2 := dupFreeHistX_of_dupFreeHist goodHistory2_dupFree

instance decEqExcept {ε α : Type} [DecidableEq ε] [DecidableEq α] : DecidableEq (Except ε α)
  | .ok a, .ok b => if h : a = b then isTrue (by rw [h]) else isFalse (by intro e; cases e; exact h rfl)
  | .error a, .error b => if h : a = b then isTrue (by rw [h]) else isFalse (by intro e; cases e; exact h rfl)
  | .ok _, .error _ => isFalse (by intro e; cases e)
  | .error _, .ok _ => isFalse (by intro e; cases e)

/-- for the `…_all` theorems: the classes are inhabited by the forms the hand-written enumerations left out, and
the hypotheses are satisfiable on a concrete world -/
example : docKind (.ctor (some (.stru 0)) (some (.ofStru 1))) = .copyNew ∧ docKind (.pickle 0 0) = .copyNew ∧
    docKind (.setslice 0 ⟨none, none, some 2⟩ (.stru 1) true) = .copyInto ∧ docKind (.getitem 0 (.label 3)) = .selection ∧
    docKind (.extend 0 (.tolist 1) .dflt) = .shareInto ∧ docKind (.ctor (some (.gen [])) none) = .shareInto := by decide +kernel
def world3 : World := World.empty.run [.mkStru, .addNew 0 1, .addNew 0 2, .addNew 0 3, .mkStru, .addNew 1 7]
example : Wf world3 := World.run_wf World.empty_wf _
example : (world3.stepFull (.ctor (some (.stru 0)) (some (.ofStru 1)))).2 = .ok (.stru 2) ∧
    (world3.stepFull (.pickle 0 1)).2 = .ok (.stru 2) ∧ world3.view.atoms 0 = .ok [0, 1, 2] := by decide +kernel
example : (world3.stepFull (.ctor (some (.stru 0)) (some (.ofStru 1)))).1.latOf 2 = world3.latOf 1 :=
  (copies_disjoint_all (op := .ctor (some (.stru 0)) (some (.ofStru 1))) (r := 2) (World.run_wf World.empty_wf _)
    (by decide) (by decide)).2.2
example : selPositions world3.pay [0, 1, 2] (.slice ⟨none, none, some (-2)⟩) = .ok (.many [2, 0]) ∧
    selPositions world3.pay [0, 1, 2] (.label 2) = .ok (.one 1) ∧
    selPositions world3.pay [0, 1, 2] (.tuple [.label 3, .int (-3), .int 2]) = .ok (.many [2, 0, 2]) ∧
    selPositions world3.pay [0, 1, 2] (.mask [true, false]) = .error .index := by decide +kernel
example : ((world3.stepFull (.setslice 0 ⟨none, none, some 2⟩ (.list [.mem 1 0, .mem 0 0]) true)).1.atomsOf 0) = [4, 1, 0] := by
  decide +kernel

/-- for `dupFreeX_auto` / `no_alias_explicit` / `dupFreeX_setslice_copy` -/
example : AutoDupFree (.extend 0 (.tolist 1) .dflt) ∧ AutoDupFree (.pickle 0 0) ∧
    AutoDupFree (.getitem 0 (.slice ⟨none, none, some (-2)⟩)) ∧ AutoDupFree (.isub 0 (.stru 1)) ∧
    ¬ AutoDupFree (.append 0 (.pool 0) .no) ∧ ¬ AutoDupFree (.getitem 0 (.arr [0, 0])) := by decide +kernel
theorem goodHistory3_explicit : DupFreeHistExplicit World.empty goodHistory3 := by decide +kernel
example : DupFreeHistExplicit World.empty goodHistory3 := goodHistory3_explicit
example : DupFreeHistExplicit World.empty goodHistory := by decide +kernel
example : (World.empty.run goodHistory3).NodupInv := no_alias_explicit World.empty_wf empty_nodupInv _ goodHistory3_explicit
theorem world3_nodup : world3.NodupInv :=
  no_alias World.empty _ World.empty_wf empty_nodupInv (by decide)
example : World.DupFreeX world3 (.setslice 0 ⟨none, none, some 2⟩ (.list [.mem 1 0, .mem 0 0]) true) :=
  dupFreeX_setslice_copy (w := world3) (h := 0) (sl := ⟨none, none, some 2⟩) (it := .list [.mem 1 0, .mem 0 0])
    (old := [0, 1, 2]) (xs := [3, 0]) (b := false) (a := (0, 3, 2)) world3_nodup
    (by decide : world3.view.atoms 0 = .ok [0, 1, 2])
    (by decide : world3.view.iter (.list [.mem 1 0, .mem 0 0]) = .ok ([3, 0], false))
    (by decide : sliceAdjust ([0, 1, 2] : List Nat).length ⟨none, none, some 2⟩ = .ok (0, 3, 2))
    (by decide)

end DS.Props.C08

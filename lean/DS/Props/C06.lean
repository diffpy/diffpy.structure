import DS.Props.C05

/-!
C06 — symmetry constraints on displacement tensors (`GeneratorSite.Uspace`, `_findUParameters`,
`_findeqUij`, `UFormula`, `Uisotropy`).  `rotT R U = R U Rᵀ`.

An accepted `checkUspace` certificate is a basis of the symmetric tensors invariant under the site
symmetry; the code's Frobenius projection onto an orthogonal basis returns allowed tensors
unchanged and always returns an allowed tensor; equivalent tensors do not depend on the coset
representative; the U formulas evaluate to the rotated tensor; the group average projects onto the
invariant tensors.  Deliberately *not* claimed: that the code's projection is the group average.
-/
namespace DS.Props.C06
open DS DS.Con DS.Con.QSp

/-- allowed tensors: symmetric and invariant under every operation of `H` -/
def Allowed (H : List Op) (U : Mat3 Q) : Prop := InvT H U ∧ U.isSymm

/-! ### certificate ⇒ basis of the allowed tensors -/

/-- the allowed tensors are closed under linear combinations -/
theorem allowed_lincombT {H : List Op} {bs : List (Mat3 Q)} (hbs : ∀ b ∈ bs, Allowed H b)
    (cs : List Q) : Allowed H (lincombT cs bs) := by
  rw [lincombT_eq_lc]
  refine ⟨fun h hh => (rotT_isLin (rotQ h)).fix_lc (fun b hb => (hbs b hb).1 h hh) cs, ?_⟩
  rw [isSymm_iff_transpose]
  exact transpose_isLin.fix_lc (fun b hb => (isSymm_iff_transpose b).1 (hbs b hb).2) cs

/-- `Σ_h R_h U R_hᵀ = |H| U` for an invariant tensor -/
theorem reynoldsT_fix {H : List Op} {U : Mat3 Q} (hU : InvT H U) :
    tsum H U = Mat3.smul (H.length : Q) U :=
  gsum_fix (V := Mat3 Q) (fun h => rotT (rotQ h)) H U hU

theorem reynoldsT_of_inv {H : List Op} {U : Mat3 Q} (hpos : 0 < H.length) (hU : InvT H U) :
    reynoldsT H U = U :=
  (reynoldsT_eq_gavg H U).trans (gavg_of_fix hpos hU)

/-- what an accepted certificate contains -/
theorem checkUspace_parts {H : List Op} {bs dual : List (Mat3 Q)} (h : checkUspace H bs dual = true) :
    0 < H.length ∧ (∀ b ∈ bs, Allowed H b) ∧ DualP bs dual ∧
    ∀ e ∈ unitT, reynoldsT H e = lc (dual.map (fun d => qpair (reynoldsT H e) d)) bs := by
  simp only [checkUspace, Bool.and_eq_true, decide_eq_true_eq, List.all_eq_true] at h
  obtain ⟨⟨⟨hpos, hbs⟩, hdual⟩, hspan⟩ := h
  refine ⟨hpos, fun b hb => ⟨inInvT_iff.1 (hbs b hb).1, symmB_iff.1 (hbs b hb).2⟩,
    isDualT_iff.1 hdual, fun e he => ?_⟩
  rw [← lincombT_eq_lc]
  exact hspan e he

/-- **an accepted certificate is a basis of the allowed tensors**: the symmetric tensors invariant
under `H` are exactly the linear combinations of `bs` (with `bs.length` coefficients), and `bs` is
linearly independent — the number of basis tensors *is* the number of free U parameters. -/
theorem checkUspace_sound {H : List Op} {bs dual : List (Mat3 Q)}
    (h : checkUspace H bs dual = true) :
    (∀ U, (InvT H U ∧ U.isSymm) ↔ ∃ cs : List Q, cs.length = bs.length ∧ U = lincombT cs bs) ∧
    (∀ cs : List Q, cs.length = bs.length → lincombT cs bs = Mat3.zero → ∀ c ∈ cs, c = 0) := by
  obtain ⟨hpos, hbs, hd, hspan⟩ := checkUspace_parts h
  simp only [lincombT_eq_lc]
  exact cert_sound (P := Allowed H) (gavg_isLin tenRep.lin H)
    (fun cs => lincombT_eq_lc cs bs ▸ allowed_lincombT hbs cs)
    (fun _ hU => reynoldsT_of_inv hpos hU.1) (fun U hU => ⟨_, mat3_decomp U hU.2⟩) hd hspan

/-- the coefficients (the U parameter values) of an allowed tensor are unique -/
theorem checkUspace_unique_coeffs {H : List Op} {bs dual : List (Mat3 Q)}
    (h : checkUspace H bs dual = true) (cs ds : List Q) (hc : cs.length = bs.length)
    (hd : ds.length = bs.length) (e : lincombT cs bs = lincombT ds bs) : cs = ds := by
  rw [lincombT_eq_lc, lincombT_eq_lc] at e
  exact (checkUspace_parts h).2.2.1.lc_inj hc hd e

/-! ### the code's projection -/

/-- definitional: the stored tensor is the combination of the basis with the reported parameters -/
theorem proj_in_span (bs : List (Mat3 Q)) (U : Mat3 Q) :
    proj bs U = lincombT (projCoefs bs U) bs := rfl

/-- the normalised basis is a dual family of an orthogonal basis -/
theorem isOrtho_dual {bs : List (Mat3 Q)} (h : isOrtho bs = true) :
    DualP bs (bs.map (fun b => Mat3.smul (1 / frob b b) b)) := by
  simp only [isOrtho, List.all_eq_true, List.mem_range] at h
  refine ⟨by simp, fun i hi j hj => ?_⟩
  have hij := h i hi j hj
  have hjj := h j hj j hj
  simp only [if_true] at hjj
  rw [decide_eq_true_eq] at hjj
  have e : (bs.map (fun b => Mat3.smul (1 / frob b b) b)).getD j qzero =
      Mat3.smul (1 / frob (bs.getD j Mat3.zero) (bs.getD j Mat3.zero)) (bs.getD j Mat3.zero) := by
    rw [List.getD_eq_getElem _ _ (by simpa using hj), List.getD_eq_getElem _ _ hj, List.getElem_map]
  rw [e]
  show frob (bs.getD i Mat3.zero) _ = _
  rw [frob_smul_right]
  by_cases hc : i = j
  · subst hc
    simp only [if_true]
    field_simp
  · simp only [hc, if_false] at hij ⊢
    rw [decide_eq_true_eq] at hij
    rw [hij]; ring

theorem projCoefs_eq_coords (bs : List (Mat3 Q)) (U : Mat3 Q) :
    projCoefs bs U = (bs.map (fun b => Mat3.smul (1 / frob b b) b)).map (fun d => qpair U d) := by
  rw [List.map_map]
  unfold projCoefs
  apply List.map_congr_left
  intro b _
  show frob U b / frob b b = frob U (Mat3.smul (1 / frob b b) b)
  rw [frob_smul_right]; ring

/-- on an orthogonal basis the projection reads the coefficients back … -/
theorem projCoefs_lincombT {bs : List (Mat3 Q)} (h : isOrtho bs = true) (cs : List Q)
    (hl : cs.length = bs.length) : projCoefs bs (lincombT cs bs) = cs := by
  rw [projCoefs_eq_coords, lincombT_eq_lc]
  exact (isOrtho_dual h).coords_lc cs hl

/-- … hence every combination of the basis is returned unchanged -/
theorem proj_spec {bs : List (Mat3 Q)} (h : isOrtho bs = true) (cs : List Q)
    (hl : cs.length = bs.length) : proj bs (lincombT cs bs) = lincombT cs bs := by
  rw [proj_in_span, projCoefs_lincombT h cs hl]

/-- the projection is idempotent -/
theorem proj_idem {bs : List (Mat3 Q)} (h : isOrtho bs = true) (U : Mat3 Q) :
    proj bs (proj bs U) = proj bs U := by
  rw [proj_in_span bs U]
  exact proj_spec h _ (by simp [projCoefs])

/-- the stored tensor is always allowed -/
theorem proj_allowed {H : List Op} {bs dual : List (Mat3 Q)} (h : checkUspace H bs dual = true)
    (U : Mat3 Q) : InvT H (proj bs U) ∧ (proj bs U).isSymm :=
  ((checkUspace_sound h).1 _).2 ⟨projCoefs bs U, by simp [projCoefs], rfl⟩

/-- an already allowed tensor is returned unchanged -/
theorem proj_fix {H : List Op} {bs dual : List (Mat3 Q)} (h : checkUspace H bs dual = true)
    (ho : isOrtho bs = true) {U : Mat3 Q} (hU : InvT H U ∧ U.isSymm) : proj bs U = U := by
  obtain ⟨cs, hl, rfl⟩ := ((checkUspace_sound h).1 U).1 hU
  exact proj_spec ho cs hl

/-! ### equivalent tensors -/

/-- any rotation of the coset `g H` gives the same equivalent tensor -/
theorem eq_tensor_coset_indep (g h : Op) (U : Mat3 Q) (hU : rotT (rotQ h) U = U) :
    rotT ((rotQ g).mul (rotQ h)) U = rotT (rotQ g) U := by
  rw [rotT_mul, hU]

theorem eq_tensor_coset_indep' {H : List Op} {U : Mat3 Q} (hU : InvT H U) (g : Op) :
    ∀ h ∈ H, rotT (rotQ (g.comp h)) U = rotT (rotQ g) U := by
  intro h hh
  rw [rotQ_comp]
  exact eq_tensor_coset_indep g h U (hU h hh)

/-- matrix form: if `Hm` fixes `U` and `A G = 1` then `G Hm A` fixes `G U Gᵀ` -/
theorem equiv_invariant_mat (G Hm A U : Mat3 Q) (hA : A.mul G = Mat3.one) (hU : rotT Hm U = U) :
    rotT ((G.mul Hm).mul A) (rotT G U) = rotT G U := by
  rw [rotT_mul, ← rotT_mul A G, hA, rotT_one, rotT_mul, hU]

/-- the equivalent tensor `R_g U R_gᵀ` is invariant under the conjugated site symmetry `g H g⁻¹` -/
theorem equiv_invariant {H : List Op} {U : Mat3 Q} (hU : InvT H U) (g gi : Op)
    (hgi : gi.comp g = Op.one) :
    InvT (H.map (fun h => (g.comp h).comp gi)) (rotT (rotQ g) U) := by
  intro k hk
  obtain ⟨h, hh, rfl⟩ := List.mem_map.1 hk
  rw [rotQ_comp, rotQ_comp]
  refine equiv_invariant_mat _ _ _ _ ?_ (hU h hh)
  rw [← rotQ_comp, hgi, rotQ_one]

/-- symmetric tensors stay symmetric -/
theorem rotT_symm (R U : Mat3 Q) (hU : U.isSymm) : (rotT R U).isSymm := by
  rw [isSymm_iff_transpose] at hU ⊢
  rw [transpose_rotT, hU]

/-! ### U formulas -/

/-- the U formulas (linear forms in the parameters with coefficient tensors `R B_k Rᵀ`) evaluated
at the parameter values give the rotated tensor -/
theorem Uformula_eval (R : Mat3 Q) (cs : List Q) (bs : List (Mat3 Q)) :
    rotT R (lincombT cs bs) = lincombT cs (bs.map (rotT R)) := by
  rw [lincombT_eq_lc, lincombT_eq_lc]
  exact (rotT_isLin R).map_lc cs bs

/-! ### group average -/

/-- the group average is invariant -/
theorem invT_reynoldsT {H : List Op} (hH : IsGroup H) (W : Mat3 Q) : InvT H (reynoldsT H W) :=
  fun _ ha => gavg_invariant hH tenRep ha W

/-- the average of a symmetric tensor is symmetric (transposition commutes with every `R · Rᵀ`) -/
theorem reynoldsT_symm (H : List Op) (W : Mat3 Q) (hW : W.isSymm) : (reynoldsT H W).isSymm := by
  rw [isSymm_iff_transpose] at hW ⊢
  rw [reynoldsT_eq_gavg, transpose_isLin.comm_gavg (fun h => transpose_rotT (rotQ h)), hW]

/-- the invariant tensors are exactly the fixed points (= the range) of the group average -/
theorem range_reynoldsT {H : List Op} (hH : IsGroup H) (U : Mat3 Q) :
    InvT H U ↔ reynoldsT H U = U :=
  fix_iff_gavg hH tenRep U

theorem range_reynoldsT' {H : List Op} (hH : IsGroup H) (U : Mat3 Q) :
    (InvT H U ∧ U.isSymm) ↔ ∃ W, W.isSymm ∧ U = reynoldsT H W :=
  ⟨fun hU => ⟨U, hU.2, ((range_reynoldsT hH U).1 hU.1).symm⟩,
   fun ⟨W, hW, e⟩ => e ▸ ⟨invT_reynoldsT hH W, reynoldsT_symm H W hW⟩⟩

/-! ### the isotropy flag -/

/-- `Uisotropy` (`len(Uspace) == 1`): under an accepted certificate the allowed tensors form a
one-parameter family `{c B}` with `B ≠ 0` iff the basis has exactly one element -/
theorem iso_flag {H : List Op} {bs dual : List (Mat3 Q)} (h : checkUspace H bs dual = true) :
    bs.length = 1 ↔
      ∃ B : Mat3 Q, B ≠ Mat3.zero ∧ ∀ U, (InvT H U ∧ U.isSymm) ↔ ∃ c : Q, U = Mat3.smul c B := by
  obtain ⟨hpos, hbs, hd, -⟩ := checkUspace_parts h
  have hs := (checkUspace_sound h).1
  have hz : ∀ (c : Q) (b : Mat3 Q), lincombT [c] [b] = Mat3.smul c b := fun c b =>
    show (Mat3.smul c b).add Mat3.zero = Mat3.smul c b from qadd_zero (V := Mat3 Q) _
  constructor
  · intro hl
    obtain ⟨b, rfl⟩ := List.length_eq_one_iff.1 hl
    obtain ⟨d, rfl⟩ := List.length_eq_one_iff.1 (hd.1.symm.trans hl)
    refine ⟨b, ?_, fun U => ?_⟩
    · intro hb0
      have h1 := hd.cons.1
      rw [hb0] at h1
      have h0 : qpair (Mat3.zero : Mat3 Q) d = 0 := qpair_zero (V := Mat3 Q) d
      rw [h0] at h1
      exact zero_ne_one h1
    · rw [hs U]
      constructor
      · rintro ⟨cs, hcl, rfl⟩
        obtain ⟨c, rfl⟩ := List.length_eq_one_iff.1 hcl
        exact ⟨c, hz c b⟩
      · rintro ⟨c, rfl⟩
        exact ⟨[c], rfl, (hz c b).symm⟩
  · rintro ⟨B, hB, hU⟩
    rcases bs with _ | ⟨b1, _ | ⟨b2, rest⟩⟩
    · exfalso
      apply hB
      have hBa : InvT H B ∧ B.isSymm := (hU B).2 ⟨1, (qone_smul (V := Mat3 Q) B).symm⟩
      obtain ⟨cs, _, e⟩ := (hs B).1 hBa
      rw [e]; cases cs <;> rfl
    · rfl
    · exfalso
      rcases dual with _ | ⟨d1, _ | ⟨d2, rest'⟩⟩
      · exact absurd hd.1 (by simp)
      · exact absurd hd.1 (by simp)
      obtain ⟨p11, p1, p2, hd'⟩ := hd.cons
      have p12 := p1 d2 (List.mem_cons_self ..)
      have p22 := hd'.cons.1
      obtain ⟨c1, (e1 : b1 = qsmul c1 B)⟩ := (hU b1).1 (hbs b1 (List.mem_cons_self ..))
      obtain ⟨c2, (e2 : b2 = qsmul c2 B)⟩ :=
        (hU b2).1 (hbs b2 (List.mem_cons_of_mem _ (List.mem_cons_self ..)))
      rw [e1, qpair_smul] at p11 p12
      rw [e2, qpair_smul] at p22
      have : (1 : Q) = 0 := by
        linear_combination -(c2 * qpair B d2) * p11 - p22 + (c2 * qpair B d1) * p12
      exact one_ne_zero this

/-! ### the site symmetry of any site of any tabulated setting -/

/-- for the stabiliser of any site of any tabulated setting (a group by `stab_isGroup` and
`C03.all_groups`) the allowed tensors are exactly the group averages of symmetric tensors -/
theorem tabulated_allowed_iff (p : SG × Cert) (hp : p ∈ Gen.allC) (k : Int) (off x : P3) (U : Mat3 Q) :
    (InvT (p.1.ops.filter (fun g => decide (Orbit.img g k off x = Orbit.red k x))) U ∧ U.isSymm) ↔
      ∃ W, W.isSymm ∧
        U = reynoldsT (p.1.ops.filter (fun g => decide (Orbit.img g k off x = Orbit.red k x))) W :=
  range_reynoldsT' (stab_isGroup (DS.Props.C03.all_groups p hp) k off x) U

/-! ### non-vacuity -/

/-- point group `mm2` -/
def mm2 : List Op :=
  [Op.one, ⟨-1, 0, 0, 0, -1, 0, 0, 0, 1, 0, 0, 0⟩, ⟨-1, 0, 0, 0, 1, 0, 0, 0, 1, 0, 0, 0⟩,
   ⟨1, 0, 0, 0, -1, 0, 0, 0, 1, 0, 0, 0⟩]

theorem mm2_isGroup : IsGroup mm2 := C05.mm2_isGroup

/-- diagonal unit tensors: the allowed tensors of `mm2` are the diagonal ones -/
def diag3 : List (Mat3 Q) := [⟨1,0,0,0,0,0,0,0,0⟩, ⟨0,0,0,0,1,0,0,0,0⟩, ⟨0,0,0,0,0,0,0,0,1⟩]

theorem mm2_cert : checkUspace mm2 diag3 diag3 = true := by decide +kernel
theorem diag3_ortho : isOrtho diag3 = true := by decide +kernel

/-- point group `23` (12 rotations of the tetrahedron): only isotropic tensors are allowed -/
def t23 : List Op :=
  [Op.one, ⟨1,0,0,0,-1,0,0,0,-1,0,0,0⟩, ⟨-1,0,0,0,1,0,0,0,-1,0,0,0⟩, ⟨-1,0,0,0,-1,0,0,0,1,0,0,0⟩,
   ⟨0,0,1,1,0,0,0,1,0,0,0,0⟩, ⟨0,0,1,-1,0,0,0,-1,0,0,0,0⟩, ⟨0,0,-1,1,0,0,0,-1,0,0,0,0⟩,
   ⟨0,0,-1,-1,0,0,0,1,0,0,0,0⟩,
   ⟨0,1,0,0,0,1,1,0,0,0,0,0⟩, ⟨0,1,0,0,0,-1,-1,0,0,0,0,0⟩, ⟨0,-1,0,0,0,1,-1,0,0,0,0,0⟩,
   ⟨0,-1,0,0,0,-1,1,0,0,0,0,0⟩]

theorem t23_cert : checkUspace t23 [Mat3.one] [Mat3.smul (1/3) Mat3.one] = true := by decide +kernel

example : InvT mm2 ⟨2, 0, 0, 0, 3, 0, 0, 0, 5⟩ ∧ (⟨2, 0, 0, 0, 3, 0, 0, 0, 5⟩ : Mat3 Q).isSymm :=
  ((checkUspace_sound mm2_cert).1 _).2 ⟨[2, 3, 5], rfl, by decide +kernel⟩

/-- a certificate that misses a direction is rejected -/
example : checkUspace mm2 [⟨1,0,0,0,0,0,0,0,0⟩] [⟨1,0,0,0,0,0,0,0,0⟩] = false := by decide +kernel

/-- the projection removes the forbidden off-diagonal part and keeps the diagonal -/
example : proj diag3 ⟨2, 7, 1, 7, 3, 4, 1, 4, 5⟩ = ⟨2, 0, 0, 0, 3, 0, 0, 0, 5⟩ := by decide +kernel

example : proj diag3 ⟨2, 0, 0, 0, 3, 0, 0, 0, 5⟩ = ⟨2, 0, 0, 0, 3, 0, 0, 0, 5⟩ :=
  proj_fix mm2_cert diag3_ortho (((checkUspace_sound mm2_cert).1 _).2 ⟨[2, 3, 5], rfl, by decide +kernel⟩)

/-- `iso_flag` both ways on concrete data: `23` is isotropic, `mm2` is not -/
example : ∃ B : Mat3 Q, B ≠ Mat3.zero ∧ ∀ U, (InvT t23 U ∧ U.isSymm) ↔ ∃ c : Q, U = Mat3.smul c B :=
  (iso_flag t23_cert).1 rfl

example : ¬ ∃ B : Mat3 Q, B ≠ Mat3.zero ∧ ∀ U, (InvT mm2 U ∧ U.isSymm) ↔ ∃ c : Q, U = Mat3.smul c B :=
  fun h => absurd ((iso_flag mm2_cert).2 h) (by decide)

example : InvT mm2 (reynoldsT mm2 ⟨2, 7, 1, 7, 3, 4, 1, 4, 5⟩) ∧
    reynoldsT mm2 ⟨2, 7, 1, 7, 3, 4, 1, 4, 5⟩ = ⟨2, 0, 0, 0, 3, 0, 0, 0, 5⟩ :=
  ⟨invT_reynoldsT mm2_isGroup _, by decide +kernel⟩

/-- `equiv_invariant` with `g` = the threefold of `23` and `H = mm2` -/
example : InvT (mm2.map (fun h => ((⟨0,0,1,1,0,0,0,1,0,0,0,0⟩ : Op).comp h).comp ⟨0,1,0,0,0,1,1,0,0,0,0,0⟩))
    (rotT (rotQ ⟨0,0,1,1,0,0,0,1,0,0,0,0⟩) ⟨2, 0, 0, 0, 3, 0, 0, 0, 5⟩) :=
  equiv_invariant (inInvT_iff.1 (by decide +kernel)) _ _ (by decide)

example : proj diag3 (proj diag3 ⟨2, 7, 1, 7, 3, 4, 1, 4, 5⟩) = proj diag3 ⟨2, 7, 1, 7, 3, 4, 1, 4, 5⟩ :=
  proj_idem diag3_ortho _

example : InvT mm2 (proj diag3 ⟨2, 7, 1, 7, 3, 4, 1, 4, 5⟩) ∧ (proj diag3 ⟨2, 7, 1, 7, 3, 4, 1, 4, 5⟩).isSymm :=
  proj_allowed mm2_cert _

example : ([2, 3, 5] : List Q) = [2, 3, 5] :=
  checkUspace_unique_coeffs mm2_cert [2, 3, 5] [2, 3, 5] rfl rfl rfl

/-- `eq_tensor_coset_indep'`: the threefold times any operation of `mm2` rotates an allowed tensor
of `mm2` like the threefold alone -/
example : ∀ h ∈ mm2, rotT (rotQ ((⟨0,0,1,1,0,0,0,1,0,0,0,0⟩ : Op).comp h)) ⟨2, 0, 0, 0, 3, 0, 0, 0, 5⟩ =
    rotT (rotQ ⟨0,0,1,1,0,0,0,1,0,0,0,0⟩) ⟨2, 0, 0, 0, 3, 0, 0, 0, 5⟩ :=
  eq_tensor_coset_indep' (H := mm2) (inInvT_iff.1 (by decide +kernel)) _

example : InvT mm2 ⟨2, 0, 0, 0, 3, 0, 0, 0, 5⟩ ↔
    reynoldsT mm2 ⟨2, 0, 0, 0, 3, 0, 0, 0, 5⟩ = ⟨2, 0, 0, 0, 3, 0, 0, 0, 5⟩ :=
  range_reynoldsT mm2_isGroup _

example : ∀ a ∈ mm2, rotT (rotQ a) (tsum mm2 ⟨2, 7, 1, 7, 3, 4, 1, 4, 5⟩) = tsum mm2 ⟨2, 7, 1, 7, 3, 4, 1, 4, 5⟩ :=
  fun _ ha => gsum_invariant mm2_isGroup tenRep ha _

example (k : Int) (off x : P3) (U : Mat3 Q) :=
  tabulated_allowed_iff _ Gen.witness_mem k off x U

end DS.Props.C06

import DS.Model.Cli
import DS.Gen.Formats
/-!
# C20 — the transtru command converts exactly as the library does and reports failures

Model: `DS/Model/Cli.lean`.  `Gen.cliConfig` is regenerated on every run from
`apps/transtru.py` (`ast`: option strings, exit statuses, handlers of the final try statement) and from
the run-time format registry and exception class hierarchy (`translate/cli.py`).
The generic theorems hold for every configuration; the `…_2` / `…_1` theorems are about the generated
configuration, so every build proves them against what the source says.
-/
namespace DS.Props.C20
open DS DS.Cli

variable {S : Type}

/-- the command line selects a conversion: no option, a specification `i..o` and at least one more argument -/
def Selects (cfg : Config) (argv : List String) (i o file : String) : Prop :=
  ∃ (rest : List String) (spec : String) (opts : List String),
    getopt cfg.shortOpts cfg.longOpts argv = some (opts, spec :: file :: rest) ∧
    optionAction cfg opts = none ∧
    splitSpec cfg.sep spec = some (i, o) ∧
    cfg.inFormats.contains i = true ∧
    cfg.outFormats.contains o = true

theorem main_of_selects {cfg : Config} {lib : Lib S} {argv : List String} {i o file : String}
    (h : Selects cfg argv i o file) :
    main cfg lib argv =
      match libRead lib file i with
      | .error k => onException cfg k
      | .ok s => match lib.write s o with
        | .error k => onException cfg k
        | .ok t => { stdout := .text t, stderrLines := 0, status := 0, traceback := false, msg := .none } := by
  obtain ⟨rest, spec, opts, hg, ho, hs, hi, hout⟩ := h
  simp only [main, hg, ho, hs, hi, hout, convert, not_true_eq_false, if_false]
  rfl

/-- a successful conversion prints exactly the library's `writeStr(read(...))`, nothing on standard
error, status 0 -/
theorem ok_equals_library {cfg : Config} {lib : Lib S} {argv : List String} {i o file : String} {s : S} {t : String}
    (h : Selects cfg argv i o file) (hr : libRead lib file i = .ok s) (hw : lib.write s o = .ok t) :
    main cfg lib argv = { stdout := .text t, stderrLines := 0, status := 0, traceback := false, msg := .none } := by
  rw [main_of_selects h]; simp only [hr, hw]

theorem onException_stdout (cfg : Config) (k : String) : (onException cfg k).stdout = .empty := by
  unfold onException; split <;> rfl

/-- an option that decides prints the usage or the version and nothing else -/
theorem optionAction_some {cfg : Config} {opts : List String} {o : Outcome} (h : optionAction cfg opts = some o) :
    o = { stdout := .usageFull, stderrLines := 0, status := cfg.stHelp, traceback := false, msg := .none } ∨
    o = { stdout := .version, stderrLines := 0, status := cfg.stVersion, traceback := false, msg := .none } := by
  induction opts with
  | nil => cases h
  | cons a rest ih =>
    rw [optionAction] at h
    split at h
    · cases h; exact Or.inl rfl
    · split at h
      · cases h; exact Or.inr rfl
      · exact ih h

/-- every run of `main` ends in one of five ways: a complaint of `main` itself about the command line, an option that
decides, the brief usage, the `IndexError` of the missing file argument inside the last `try`, or a conversion -/
theorem main_cases (cfg : Config) (lib : Lib S) (argv : List String) :
    (∃ st m, main cfg lib argv = failWith st m ∧ st ∈ [cfg.stGetopt, cfg.stNoSep, cfg.stBadIn, cfg.stBadOut]) ∨
    (∃ opts, optionAction cfg opts = some (main cfg lib argv)) ∨
    main cfg lib argv =
      { stdout := .usageBrief, stderrLines := 0, status := cfg.stNoArgs, traceback := false, msg := .none } ∨
    main cfg lib argv = onException cfg "IndexError" ∨
    ∃ i o file, Selects cfg argv i o file := by
  unfold main
  cases hg : getopt cfg.shortOpts cfg.longOpts argv with
  | none => exact .inl ⟨_, _, rfl, by simp⟩
  | some p =>
    obtain ⟨opts, args⟩ := p
    dsimp only
    cases ho : optionAction cfg opts with
    | some o => exact .inr (.inl ⟨opts, ho⟩)
    | none =>
      cases args with
      | nil => exact .inr (.inr (.inl rfl))
      | cons spec rest =>
        dsimp only
        cases hs : splitSpec cfg.sep spec with
        | none => exact .inl ⟨_, _, rfl, by simp⟩
        | some io =>
          obtain ⟨i, o⟩ := io
          dsimp only
          by_cases hi : cfg.inFormats.contains i = true
          · by_cases hout : cfg.outFormats.contains o = true
            · rw [if_neg (not_not_intro hi), if_neg (not_not_intro hout)]
              cases rest with
              | nil => exact .inr (.inr (.inr (.inl rfl)))
              | cons file rest' =>
                exact .inr (.inr (.inr (.inr ⟨i, o, file, rest', spec, opts, hg, ho, hs, hi, hout⟩)))
            · rw [if_neg (not_not_intro hi), if_pos hout]; exact .inl ⟨_, _, rfl, by simp⟩
          · rw [if_pos hi]; exact .inl ⟨_, _, rfl, by simp⟩

/-- conversely: whenever structure text appears on standard output it is the library's result for the
selected formats and source, the status is 0 and nothing else was printed -/
theorem text_only_from_library {cfg : Config} {lib : Lib S} {argv : List String} {t : String}
    (h : (main cfg lib argv).stdout = .text t) :
    ∃ i o file s, Selects cfg argv i o file ∧ libRead lib file i = .ok s ∧ lib.write s o = .ok t ∧
      main cfg lib argv = { stdout := .text t, stderrLines := 0, status := 0, traceback := false, msg := .none } := by
  rcases main_cases cfg lib argv with ⟨st, m, e, _⟩ | ⟨opts, ho⟩ | e | e | ⟨i, o, file, sel⟩
  · rw [e] at h; cases h
  · rcases optionAction_some ho with e | e <;> rw [e] at h <;> cases h
  · rw [e] at h; cases h
  · rw [e, onException_stdout] at h; cases h
  · rw [main_of_selects sel] at h ⊢
    cases hr : libRead lib file i with
    | error k => simp [hr, onException_stdout] at h
    | ok s =>
      cases hw : lib.write s o with
      | error k => simp [hr, hw, onException_stdout] at h
      | ok t' =>
        simp only [hr, hw, Stdout.text.injEq] at h
        subst h
        refine ⟨i, o, file, s, sel, hr, hw, ?_⟩
        simp only [hw]

/-! ### the generated configuration -/

/-- the translator recognised the shape of `main` (otherwise nothing below is about the source) -/
theorem recognised : Gen.cliRecognised = true := by decide +kernel

def Quiet2 (o : Outcome) : Prop := o.status = 2 ∧ o.stdout = .empty ∧ o.stderrLines = 1 ∧ o.traceback = false
def Quiet1 (o : Outcome) : Prop := o.status = 1 ∧ o.stdout = .empty ∧ o.stderrLines = 1 ∧ o.traceback = false
instance (o : Outcome) : Decidable (Quiet2 o) := by unfold Quiet2; infer_instance
instance (o : Outcome) : Decidable (Quiet1 o) := by unfold Quiet1; infer_instance

/-- unknown option / option with a value: status 2, one line, no traceback -/
theorem bad_option_2 (lib : Lib S) (argv : List String)
    (hg : getopt Gen.cliConfig.shortOpts Gen.cliConfig.longOpts argv = none) :
    Quiet2 (main Gen.cliConfig lib argv) := by
  simp only [main, hg]; exact ⟨rfl, rfl, rfl, rfl⟩

/-- malformed or unknown format specification: status 2, one line on standard error, nothing on
standard output, no traceback -/
theorem bad_spec_2 (lib : Lib S) (argv opts rest : List String) (spec : String)
    (hg : getopt Gen.cliConfig.shortOpts Gen.cliConfig.longOpts argv = some (opts, spec :: rest))
    (ho : optionAction Gen.cliConfig opts = none)
    (hbad : match splitSpec Gen.cliConfig.sep spec with
            | none => True
            | some (i, o) => Gen.cliConfig.inFormats.contains i = false ∨ Gen.cliConfig.outFormats.contains o = false) :
    Quiet2 (main Gen.cliConfig lib argv) := by
  simp only [main, hg, ho]
  split at hbad
  · rename_i hs; simp only [hs]; exact ⟨rfl, rfl, rfl, rfl⟩
  · rename_i i o hs
    simp only [hs]
    by_cases hi : Gen.cliConfig.inFormats.contains i = true
    · rcases hbad with h | h
      · rw [hi] at h; cases h
      · simp only [hi, h, not_true_eq_false, if_false, Bool.false_eq_true, not_false_eq_true, if_true]
        exact ⟨rfl, rfl, rfl, rfl⟩
    · simp only [hi]; exact ⟨rfl, rfl, rfl, rfl⟩

/-- An `IndexError` raised INSIDE a reader or writer is caught by the handler meant for the missing
file argument: the command exits with status 2 and claims that the file was not specified.
(No traceback; but the wrong message and status — the property's "status 1 for bad content" relies on
C13: parsers raise `StructureFormatError` only.) -/
theorem index_error_in_reader_2 :
    Quiet2 (onException Gen.cliConfig "IndexError") ∧ (onException Gen.cliConfig "IndexError").msg = .noFile := by
  decide +kernel

/-- valid specification but no file argument: status 2, one line, no traceback -/
theorem missing_file_2 (lib : Lib S) (argv opts : List String) (spec i o : String)
    (hg : getopt Gen.cliConfig.shortOpts Gen.cliConfig.longOpts argv = some (opts, [spec]))
    (ho : optionAction Gen.cliConfig opts = none)
    (hs : splitSpec Gen.cliConfig.sep spec = some (i, o))
    (hi : Gen.cliConfig.inFormats.contains i = true) (hout : Gen.cliConfig.outFormats.contains o = true) :
    Quiet2 (main Gen.cliConfig lib argv) ∧ (main Gen.cliConfig lib argv).msg = .noFile := by
  simp only [main, hg, ho, hs, hi, hout, convert, not_true_eq_false, if_false]
  exact index_error_in_reader_2

theorem read_raises {lib : Lib S} {argv : List String} {i o file k : String}
    (h : Selects Gen.cliConfig argv i o file) (hr : libRead lib file i = .error k) :
    main Gen.cliConfig lib argv = onException Gen.cliConfig k := by
  rw [main_of_selects h]; simp only [hr]

theorem write_raises {lib : Lib S} {argv : List String} {i o file k : String} {s : S}
    (h : Selects Gen.cliConfig argv i o file) (hr : libRead lib file i = .ok s) (hw : lib.write s o = .error k) :
    main Gen.cliConfig lib argv = onException Gen.cliConfig k := by
  rw [main_of_selects h]; simp only [hr, hw]

def ioKinds : List String := ["OSError", "FileNotFoundError", "PermissionError", "IsADirectoryError", "NotADirectoryError"]
def formatKinds : List String := ["StructureFormatError", "NotImplementedError"]

/-- missing / unreadable file, directory: status 1, one line, no traceback -/
theorem io_error_1 (k : String) (hk : k ∈ ioKinds) : Quiet1 (onException Gen.cliConfig k) := by
  revert k
  decide +kernel

/-- content not in the stated format (or a recognised but unsupported record): status 1, one line, no traceback -/
theorem format_error_1 (k : String) (hk : k ∈ formatKinds) : Quiet1 (onException Gen.cliConfig k) := by
  revert k
  decide +kernel

/-- an exception class with no handler escapes: traceback, status 1 (CPython) -/
theorem unhandled_traceback :
    (onException Gen.cliConfig "ValueError").traceback = true ∧ (onException Gen.cliConfig "UnicodeDecodeError").traceback = true
    ∧ (onException Gen.cliConfig "KeyError").traceback = true := by decide +kernel

/-- `k` is caught by one of the handlers of the final try statement -/
def Handled (cfg : Config) (k : String) : Prop := ∃ h, cfg.handlers.lookup k = some (some h)

/-- the library raises only handled exception classes (for readers: the conclusion of C13 plus OSError
from opening the file) -/
structure RaisesOnlyHandled (cfg : Config) (lib : Lib S) : Prop where
  file : ∀ f i k, lib.readFile f i = .error k → Handled cfg k
  stdin : ∀ i k, lib.readStdin i = .error k → Handled cfg k
  write : ∀ s o k, lib.write s o = .error k → Handled cfg k

theorem handlers_status_le_2 :
    ∀ p ∈ Gen.cliConfig.handlers, ∀ h, p.2 = some h → h.status = 1 ∨ h.status = 2 := by decide +kernel

theorem onException_handled {k : String} (h : Handled Gen.cliConfig k) :
    ((onException Gen.cliConfig k).status = 1 ∨ (onException Gen.cliConfig k).status = 2) ∧
      (onException Gen.cliConfig k).traceback = false ∧ (onException Gen.cliConfig k).stderrLines = 1 := by
  obtain ⟨hd, hl⟩ := h
  obtain ⟨l₁, l₂, hsplit, _⟩ := List.lookup_eq_some_iff.mp hl
  have := handlers_status_le_2 (k, some hd) (by rw [hsplit]; simp) hd rfl
  have e : onException Gen.cliConfig k = failWith hd.status hd.msg := by simp only [onException, hl]
  rw [e]
  exact ⟨this, rfl, rfl⟩

/-- for EVERY command line: exit status 0, 1 or 2 and never a traceback — provided the library raises
only exception classes that the final try statement handles -/
theorem total (lib : Lib S) (hlib : RaisesOnlyHandled Gen.cliConfig lib) (argv : List String) :
    ((main Gen.cliConfig lib argv).status = 0 ∨ (main Gen.cliConfig lib argv).status = 1 ∨
      (main Gen.cliConfig lib argv).status = 2) ∧ (main Gen.cliConfig lib argv).traceback = false := by
  have handled : ∀ {k}, Handled Gen.cliConfig k →
      ((onException Gen.cliConfig k).status = 0 ∨ (onException Gen.cliConfig k).status = 1 ∨
        (onException Gen.cliConfig k).status = 2) ∧ (onException Gen.cliConfig k).traceback = false :=
    fun hk => ⟨Or.inr (onException_handled hk).1, (onException_handled hk).2.1⟩
  rcases main_cases Gen.cliConfig lib argv with ⟨st, m, e, hst⟩ | ⟨opts, ho⟩ | e | e | ⟨i, o, file, sel⟩
  · have h2 : ∀ st ∈ [Gen.cliConfig.stGetopt, Gen.cliConfig.stNoSep, Gen.cliConfig.stBadIn, Gen.cliConfig.stBadOut],
        st = 2 := by decide
    rw [e]; exact ⟨Or.inr (Or.inr (h2 st hst)), rfl⟩
  · rcases optionAction_some ho with e | e <;> rw [e] <;> exact ⟨Or.inl rfl, rfl⟩
  · rw [e]; exact ⟨Or.inl rfl, rfl⟩
  · rw [e]; exact ⟨Or.inr (Or.inr index_error_in_reader_2.1.1), index_error_in_reader_2.1.2.2.2⟩
  · rw [main_of_selects sel]
    cases hr : libRead lib file i with
    | error k =>
      refine handled ?_
      unfold libRead at hr
      split at hr
      · exact hlib.stdin _ _ hr
      · exact hlib.file _ _ _ hr
    | ok s =>
      dsimp only
      cases hw : lib.write s o with
      | error k => exact handled (hlib.write _ _ _ hw)
      | ok t => exact ⟨Or.inl rfl, rfl⟩

/-! ### non-vacuity -/

def demoLib : Lib String :=
  { readFile := fun f i => if f = "missing" then .error "FileNotFoundError" else if i = "xyz" then .ok f else .error "StructureFormatError"
    readStdin := fun _ => .ok "stdin"
    write := fun s o => .ok (s ++ ">" ++ o) }

example : Selects Gen.cliConfig ["xyz..cif", "a.xyz"] "xyz" "cif" "a.xyz" :=
  ⟨[], "xyz..cif", [], by decide⟩

example : main Gen.cliConfig demoLib ["xyz..cif", "a.xyz"] = ⟨.text "a.xyz>cif", 0, 0, false, .none⟩ := by decide +kernel
example : main Gen.cliConfig demoLib ["--", "xyz..cif", "-", "ignored"] = ⟨.text "stdin>cif", 0, 0, false, .none⟩ := by decide +kernel
example : Quiet1 (main Gen.cliConfig demoLib ["xyz..cif", "missing"]) := by decide +kernel
example : Quiet1 (main Gen.cliConfig demoLib ["cif..xyz", "a.xyz"]) := by decide +kernel
example : Quiet2 (main Gen.cliConfig demoLib ["xyz...cif", "a.xyz"]) := by decide +kernel
example : Quiet2 (main Gen.cliConfig demoLib ["xyz.cif", "a.xyz"]) := by decide +kernel
example : Quiet2 (main Gen.cliConfig demoLib ["xyz..cif"]) := by decide +kernel
example : Quiet2 (main Gen.cliConfig demoLib ["--he=1"]) := by decide +kernel
example : (main Gen.cliConfig demoLib ["--ver", "-x"]).stdout = .empty := by decide +kernel
example : (main Gen.cliConfig demoLib ["-Vh"]).stdout = .version := by decide +kernel
example : RaisesOnlyHandled Gen.cliConfig demoLib := by
  refine ⟨?_, ?_, ?_⟩
  · intro f i k h
    simp only [demoLib] at h
    split at h
    · cases h; exact ⟨⟨1, .ioStrerror⟩, by decide⟩
    · split at h
      · cases h
      · cases h; exact ⟨⟨1, .excStr⟩, by decide⟩
  · intro i k h; cases h
  · intro s o k h; cases h

end DS.Props.C20

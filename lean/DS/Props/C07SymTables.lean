import DS.Props.C07Sym
import DS.Props.C11
/-!
# C07 — the symmetry source decided on the tabulated settings (C07Sym ∘ C11)

`DS.Props.C07Sym` treats `FindSpaceGroup` as a parameter.  Here it is instantiated with the model `Lookup.findSG` on the table
generated from the current source (`Gen.allSG`, C03/C11), whose specification `DS.Props.C11.tables_find_spec` is proved for all
operation lists: the CIF reader's decision, on the generated tables, for EVERY listed operator list.

* `listed_permutation_tabulated` — an operator list that is a reordering of a tabulated setting's operations is read as that
  setting (position `i` of the table), whatever identifiers the block carries: "the space group is identified as the tabulated
  setting" of C07, for all 514 settings and all orders;
* `listed_untabulated_custom` — a non-empty in-range operator list that is not a reordering of any tabulated list, in a block
  without usable identifier, is read as an ad-hoc group consisting of exactly the listed operators;
* `listed_untabulated_overridden` — the same list in a block WITH an identifier that `isId` / `getSG` (parameters) know is read
  as the identifier's setting (the open finding `symsource:listed-ops-overridden`, with `FindSpaceGroup` on the generated tables).
-/
namespace DS.Props.C07SymTables
open DS DS.Lookup DS.CifSym

/-- the environment of the reader on the generated tables: `FindSpaceGroup` is the model `findSG` (a setting is named by its
position in `SpaceGroupList`); the other library functions stay parameters -/
def tableEnv (getSymOp : String → Except Exn Op) (isId : String → Bool) (getSG : String → Except Exn Nat) (upper : String → String) :
    Env Nat Op :=
  { getSymOp := getSymOp, find := fun l => findSG Gen.allSG l, isId := isId, getSG := getSG, upper := upper }

theorem tableEnv_find (getSymOp : String → Except Exn Op) (isId : String → Bool) (getSG : String → Except Exn Nat) (upper : String → String)
    (l : List Op) : (tableEnv getSymOp isId getSG upper).find l = findSG Gen.allSG l := by
  simp only [tableEnv]

theorem tableEnv_isId (getSymOp : String → Except Exn Op) (isId : String → Bool) (getSG : String → Except Exn Nat) (upper : String → String)
    (s : String) : (tableEnv getSymOp isId getSG upper).isId s = isId s := by
  unfold tableEnv; rfl

theorem tableEnv_getSG (getSymOp : String → Except Exn Op) (isId : String → Bool) (getSG : String → Except Exn Nat) (upper : String → String)
    (s : String) : (tableEnv getSymOp isId getSG upper).getSG s = getSG s := by
  unfold tableEnv; rfl

variable (getSymOp : String → Except Exn Op) (isId : String → Bool) (getSG : String → Except Exn Nat) (upper : String → String)

/-- **any reordering of a tabulated operation list is read as that setting**, whatever else the block says -/
theorem listed_permutation_tabulated (b : Block) {i : Nat} {g : SG} (hi : Gen.allSG[i]? = some g) {l : List Op}
    (hne : l ≠ []) (hp : l.Perm g.ops) :
    choose (tableEnv getSymOp isId getSG upper) b l = .ok (.tab i) :=
by
  have h := C11.tables_find_perm hi hp
  exact C07Sym.listed_tabulated_wins _ b l i hne (by rw [tableEnv_find]; exact h)

/-- **an untabulated list without usable identifier gives an ad-hoc group of exactly the listed operators** -/
theorem listed_untabulated_custom (b : Block) {l : List Op} (hne : l ≠ []) (hl : ∀ a ∈ l, a.inRange = true)
    (hno : ∀ g ∈ Gen.allSG, ¬ l.Perm g.ops) (hid : sgid b = "" ∨ isId (sgid b) = false) :
    choose (tableEnv getSymOp isId getSG upper) b l =
      .ok (.custom ("CIF " ++ pyOr (hall b) "data") (crystalSystem (tableEnv getSymOp isId getSG upper) b) l) :=
by
  have h := (C11.tables_find_spec hl).2.2 hno
  exact C07Sym.custom_when_unidentified _ b l hne (by rw [tableEnv_find]; exact h) (by simpa [tableEnv_isId] using hid)

/-- the finding on the generated tables: an untabulated list is overridden by a known identifier -/
theorem listed_untabulated_overridden (b : Block) {l : List Op} (hne : l ≠ []) (hl : ∀ a ∈ l, a.inRange = true)
    (hno : ∀ g ∈ Gen.allSG, ¬ l.Perm g.ops) (hs : sgid b ≠ "") (hi : isId (sgid b) = true) {j : Nat}
    (hg : getSG (sgid b) = .ok j) :
    choose (tableEnv getSymOp isId getSG upper) b l = .ok (.tab j) :=
by
  have h := (C11.tables_find_spec hl).2.2 hno
  exact C07Sym.listed_ops_overridden _ b l j hne (by rw [tableEnv_find]; exact h) hs (by rw [tableEnv_isId]; exact hi)
    (by rw [tableEnv_getSG]; exact hg)

/-- non-vacuity: the reversed operation list of a generated setting is non-empty and a reordering of it -/
example : ∃ (i : Nat) (g : SG), Gen.allSG[i]? = some g ∧ g.ops.reverse ≠ [] ∧ g.ops.reverse.Perm g.ops :=
  ⟨231, Gen.sg225, rfl, by decide +kernel, List.reverse_perm _⟩

end DS.Props.C07SymTables

import DS.Lemmas.Lookup
import DS.Gen.DIndex
import DS.Gen.Lookup

/-!
# C11 — space-group lookup by identifier and by operation list

Model: `DS/Model/Lookup.lean` (`GetSpaceGroup`, `_buildSGLookupTable`, `FindSpaceGroup`).  Settings
are referred to by their position in `SpaceGroupList`.

* generic part (any list of settings, any alias list): soundness of the table, first
  registration wins, aliases never override, look-up by number, by name in any case/blank variant
  the function normalises, rejection of unknown identifiers, identification from operations in
  any order;
* kernel-decided facts about the generated tables (`Gen.allSG`, the alias list) and the
  instantiation of the generic theorems.
-/
namespace DS.Props.C11
open DS DS.Lookup

/-- the alias list of `_buildSGLookupTable` the table theorems are instantiated with
(generated; the hand-written copy is `Lookup.stdAliases`) -/
abbrev aliases : List (String × String) := Gen.aliases

/-! ## 1. every key of the table maps to a setting that carries it -/

/-- setting `g` at position `i` answers to `k`: it carries `k`, or `k` is an alias whose
blank-free target name resolves to `i` in the alias-free table -/
def Answers (sgs : List SG) (al : List (String × String)) (i : Nat) (g : SG) (k : Key) : Prop :=
  Carries g k ∨ ∃ a hm, (a, hm) ∈ al ∧ k = .str a ∧
    lookup (addAll [] sgs 0) (.str (removeBlanks hm)) = some i

/-- general form (no condition on the alias list): a key resolves directly or through a chain of
aliases -/
theorem lookup_chain {sgs : List SG} {al : List (String × String)} {t : Table} {k : Key} {i : Nat}
    (ht : buildTable sgs al = some t) (h : lookup t k = some i) :
    Resolves (addAll [] sgs 0) al k i := buildTable_resolves ht h

/-- the values of the table are positions of settings -/
theorem lookup_valid {sgs : List SG} {al : List (String × String)} {t : Table} {k : Key} {i : Nat}
    (ht : buildTable sgs al = some t) (h : lookup t k = some i) : i < sgs.length := by
  obtain ⟨g, _, hg, _⟩ := resolves_valid (buildTable_resolves ht h)
  exact (List.getElem?_eq_some_iff.1 hg).1

/-- soundness: the value stored under a key is the position of a setting that carries the key,
or the key is an alias and its target name resolves to that position -/
theorem lookup_sound {sgs : List SG} {al : List (String × String)} (hd : AliasesDirect al)
    {t : Table} {k : Key} {i : Nat}
    (ht : buildTable sgs al = some t) (h : lookup t k = some i) :
    ∃ g, sgs[i]? = some g ∧ Answers sgs al i g k := by
  rcases resolves_direct hd (buildTable_resolves ht h) with h0 | ⟨a, hm, hmem, hk, h0⟩
  · obtain ⟨g, hg, hc, _⟩ := lookup_base_eq_some_iff.1 h0
    exact ⟨g, hg, Or.inl hc⟩
  · obtain ⟨g, hg, _, _⟩ := lookup_base_eq_some_iff.1 h0
    exact ⟨g, hg, Or.inr ⟨a, hm, hmem, hk, h0⟩⟩

/-! ## 2. first registration wins; aliases never override -/

/-- in the alias-free table a key maps to the least position whose setting carries it -/
theorem first_wins {sgs : List SG} {k : Key} {i : Nat}
    (h : lookup (addAll [] sgs 0) k = some i) :
    ∃ g, sgs[i]? = some g ∧ Carries g k ∧ ∀ j g', j < i → sgs[j]? = some g' → ¬ Carries g' k :=
  lookup_base_eq_some_iff.1 h

/-- every identifier some setting carries is registered -/
theorem registered {sgs : List SG} {g : SG} {k : Key} (hg : g ∈ sgs) (hc : Carries g k) :
    ∃ i, lookup (addAll [] sgs 0) k = some i := by
  cases h : lookup (addAll [] sgs 0) k with
  | some i => exact ⟨i, rfl⟩
  | none => exact absurd hc (lookup_base_eq_none_iff.1 h g hg)

/-- `setdefault`: aliases never replace an entry of the settings loop -/
theorem lookup_alias_preserves {sgs : List SG} {al : List (String × String)} {t : Table}
    {k : Key} {i : Nat} (h : lookup (addAll [] sgs 0) k = some i)
    (ht : buildTable sgs al = some t) : lookup t k = some i := buildTable_preserves ht h

/-! ## 3. look-up by number -/

/-- distinct numbers: the integer number of the setting at position `i` returns `i` -/
theorem by_number {sgs : List SG} {al : List (String × String)} {t : Table}
    (hnd : (sgs.map (·.number)).Nodup) (ht : buildTable sgs al = some t)
    {i : Nat} {g : SG} (hi : sgs[i]? = some g) : lookup t (.num g.number) = some i := by
  apply buildTable_preserves ht
  refine lookup_base_eq_some_iff.2 ⟨g, hi, Or.inl rfl, ?_⟩
  intro j g' hj hg' hc
  have := nodup_map_getElem? hnd hg' hi (carries_num_iff.1 hc)
  omega

/-- distinct numbers and no name is a numeral: the decimal string of the number returns `i` -/
theorem by_number_str {sgs : List SG} {al : List (String × String)} {t : Table}
    (hnd : (sgs.map (·.number)).Nodup)
    (hnn : ∀ g ∈ sgs, notNumeral g.short = true ∧ notNumeral g.pdb = true)
    (ht : buildTable sgs al = some t)
    {i : Nat} {g : SG} (hi : sgs[i]? = some g) :
    lookup t (.str (toString g.number)) = some i := by
  apply buildTable_preserves ht
  refine lookup_base_eq_some_iff.2 ⟨g, hi, Or.inr (Or.inl rfl), ?_⟩
  intro j g' hj hg' hc
  have hm : g' ∈ sgs := List.mem_of_getElem? hg'
  have := nodup_map_getElem? hnd hg' hi
    ((carries_numstr_iff (hnn g' hm).1 (hnn g' hm).2).1 hc)
  omega

/-! ## 4. what `getSG` returns; unknown identifiers are rejected -/

/-- the identifier forms `getSG` tries, in order -/
def forms : Key → List Key
  | .num n => [.num n]
  | .str s => [.str s, .str (normShort s), .str (normFull s)]

theorem getSG_forms {t : Table} {id : Key} {i : Nat} (h : getSG t id = some i) :
    ∃ k ∈ forms id, lookup t k = some i := by
  rcases getSG_cases h with h1 | ⟨s, rfl, _, h2 | ⟨_, h2⟩⟩
  · refine ⟨id, ?_, h1⟩
    cases id <;> simp [forms]
  · exact ⟨_, by simp [forms], h2⟩
  · exact ⟨_, by simp [forms], h2⟩

/-- a successful `getSG` returns the position of a setting that answers to the identifier as
given or to one of its two normalised forms -/
theorem getSG_sound {sgs : List SG} {al : List (String × String)} (hd : AliasesDirect al)
    {t : Table} {id : Key} {i : Nat}
    (ht : buildTable sgs al = some t) (h : getSG t id = some i) :
    ∃ g, sgs[i]? = some g ∧ ∃ k ∈ forms id, Answers sgs al i g k := by
  obtain ⟨k, hk, hl⟩ := getSG_forms h
  obtain ⟨g, hg, ha⟩ := lookup_sound hd ht hl
  exact ⟨g, hg, k, hk, ha⟩

/-- a key that no setting carries and that is no alias name is not in the table -/
theorem lookup_none {sgs : List SG} {al : List (String × String)} {t : Table} {k : Key}
    (ht : buildTable sgs al = some t) (hc : ∀ g ∈ sgs, ¬ Carries g k)
    (ha : ∀ p ∈ al, k ≠ .str p.1) : lookup t k = none := by
  cases h : lookup t k with
  | none => rfl
  | some i =>
    rcases resolves_cases (buildTable_resolves ht h) with h0 | ⟨a, hm, hmem, hk⟩
    · obtain ⟨g, hg, hcg, _⟩ := lookup_base_eq_some_iff.1 h0
      exact absurd hcg (hc g (List.mem_of_getElem? hg))
    · exact absurd hk (ha (a, hm) hmem)

/-- unknown identifiers are rejected: if none of the forms tried is carried by a setting or is an
alias name, `getSG` fails (the `ValueError`) -/
theorem getSG_rejects {sgs : List SG} {al : List (String × String)} {t : Table} {id : Key}
    (ht : buildTable sgs al = some t)
    (h : ∀ k ∈ forms id, (∀ g ∈ sgs, ¬ Carries g k) ∧ ∀ p ∈ al, k ≠ .str p.1) :
    getSG t id = none := by
  cases hg : getSG t id with
  | none => rfl
  | some i =>
    obtain ⟨k, hk, hl⟩ := getSG_forms hg
    rw [lookup_none ht (h k hk).1 (h k hk).2] at hl
    cases hl

/-- an integer that is not a key is rejected without any normalisation -/
theorem getSG_num_none {t : Table} {n : Nat} (h : lookup t (.num n) = none) :
    getSG t (.num n) = none := Lookup.getSG_num_none h

/-! ## 5. look-up by name, in every spelling the function normalises -/

/-- every spelling `s` that is, or normalises to, a name of some setting is found, and the
setting returned answers to `s` or to one of its normalised forms -/
theorem by_name {sgs : List SG} {al : List (String × String)} (hd : AliasesDirect al) {t : Table}
    (ht : buildTable sgs al = some t) {g : SG} (hg : g ∈ sgs) {s : String}
    (hs : s = g.short ∨ s = g.pdb ∨ normShort s = g.short ∨ normFull s = g.pdb) :
    ∃ j g', getSG t (.str s) = some j ∧ sgs[j]? = some g' ∧
      ∃ k ∈ forms (.str s), Answers sgs al j g' k := by
  have hex : ∃ j, getSG t (.str s) = some j := by
    rcases hs with h | h | h | h
    · obtain ⟨i, hi⟩ := registered (k := .str s) hg (Or.inr (Or.inr (Or.inl (by rw [h]))))
      exact ⟨i, getSG_of_lookup (buildTable_preserves ht hi)⟩
    · obtain ⟨i, hi⟩ := registered (k := .str s) hg (Or.inr (Or.inr (Or.inr (by rw [h]))))
      exact ⟨i, getSG_of_lookup (buildTable_preserves ht hi)⟩
    · obtain ⟨i, hi⟩ := registered (k := .str (normShort s)) hg
        (Or.inr (Or.inr (Or.inl (by rw [h]))))
      exact getSG_isSome_of_short (buildTable_preserves ht hi)
    · obtain ⟨i, hi⟩ := registered (k := .str (normFull s)) hg
        (Or.inr (Or.inr (Or.inr (by rw [h]))))
      exact getSG_isSome_of_full (buildTable_preserves ht hi)
  obtain ⟨j, hj⟩ := hex
  obtain ⟨g', hg', hk⟩ := getSG_sound hd ht hj
  exact ⟨j, g', hj, hg', hk⟩

/-- exact spelling of a name: the first setting that carries that name is returned -/
theorem by_name_exact {sgs : List SG} {al : List (String × String)} {t : Table}
    (ht : buildTable sgs al = some t) {g : SG} (hg : g ∈ sgs) {s : String}
    (hs : s = g.short ∨ s = g.pdb) :
    ∃ j g', getSG t (.str s) = some j ∧ sgs[j]? = some g' ∧ Carries g' (.str s) ∧
      ∀ j' g'', j' < j → sgs[j']? = some g'' → ¬ Carries g'' (.str s) := by
  have hc : Carries g (.str s) := by
    rcases hs with h | h
    · exact Or.inr (Or.inr (Or.inl (by rw [h])))
    · exact Or.inr (Or.inr (Or.inr (by rw [h])))
  obtain ⟨i, hi⟩ := registered hg hc
  obtain ⟨g', hg', hc', hlt⟩ := first_wins hi
  exact ⟨i, g', getSG_of_lookup (buildTable_preserves ht hi), hg', hc', hlt⟩

/-- a spelling that is not itself a key but whose short-name normalisation is the short name of
a setting returns the first setting carrying that short name -/
theorem by_name_short {sgs : List SG} {al : List (String × String)} {t : Table}
    (ht : buildTable sgs al = some t) {g : SG} (hg : g ∈ sgs) {s : String}
    (hnone : lookup t (.str s) = none) (hs : normShort s = g.short) :
    ∃ j g', getSG t (.str s) = some j ∧ sgs[j]? = some g' ∧ Carries g' (.str g.short) ∧
      ∀ j' g'', j' < j → sgs[j']? = some g'' → ¬ Carries g'' (.str g.short) := by
  obtain ⟨i, hi⟩ := registered (k := .str g.short) hg (Or.inr (Or.inr (Or.inl rfl)))
  obtain ⟨g', hg', hc', hlt⟩ := first_wins hi
  refine ⟨i, g', ?_, hg', hc', hlt⟩
  rw [getSG_str, hnone, hs, buildTable_preserves ht hi]; rfl

/-- every alias is found, and the setting returned answers to it -/
theorem by_alias {sgs : List SG} {al : List (String × String)} (hd : AliasesDirect al) {t : Table}
    (ht : buildTable sgs al = some t) {a hm : String} (ha : (a, hm) ∈ al) :
    ∃ j g, getSG t (.str a) = some j ∧ sgs[j]? = some g ∧ Answers sgs al j g (.str a) := by
  obtain ⟨j, hj⟩ := addAliases_found al _ t a hm ht ha
  obtain ⟨g, hg, hans⟩ := lookup_sound hd ht hj
  exact ⟨j, g, getSG_of_lookup hj, hg, hans⟩

/-! ## 6. sorting and fingerprints -/

theorem sortNat_perm (l : List Nat) : (sortNat l).Perm l := Lookup.sortNat_perm l
theorem sortNat_sorted (l : List Nat) : (sortNat l).Pairwise (· ≤ ·) := Lookup.sortNat_sorted l
theorem canon_perm {l₁ l₂ : List Op} (h : l₁.Perm l₂) : canon l₁ = canon l₂ := Lookup.canon_perm h
theorem canon_eq_iff {l₁ l₂ : List Op} :
    canon l₁ = canon l₂ ↔ (l₁.map Op.key).Perm (l₂.map Op.key) := Lookup.canon_eq_iff
theorem key_inj {a b : Op} (ha : a.inRange = true) (hb : b.inRange = true)
    (h : a.key = b.key) : a = b := Lookup.key_inj ha hb h
theorem canon_eq_iff_perm {l₁ l₂ : List Op} (h₁ : ∀ a ∈ l₁, a.inRange = true)
    (h₂ : ∀ a ∈ l₂, a.inRange = true) : canon l₁ = canon l₂ ↔ l₁.Perm l₂ :=
  Lookup.canon_eq_iff_perm h₁ h₂
theorem sameOrder_iff {a b : List Op} (ha : ∀ x ∈ a, x.inRange = true)
    (hb : ∀ x ∈ b, x.inRange = true) : sameOrder a b = true ↔ a = b := Lookup.sameOrder_iff ha hb

/-! ## 7. identification from operations -/

/-- distinct fingerprints, operations in range: `findSG` returns position `i` exactly when the
list is a permutation of the operations tabulated at `i`; it fails exactly when the list is a
permutation of no tabulated list -/
theorem findSG_spec {sgs : List SG} (hnd : (sgs.map (fun g => canon g.ops)).Nodup)
    (hr : ∀ g ∈ sgs, ∀ a ∈ g.ops, a.inRange = true)
    {l : List Op} (hl : ∀ a ∈ l, a.inRange = true) :
    (∀ i, findSG sgs l = some i ↔ ∃ g, sgs[i]? = some g ∧ l.Perm g.ops) ∧
    (findSG sgs l = none ↔ ∀ g ∈ sgs, ¬ l.Perm g.ops) := by
  constructor
  · intro i
    rw [findSG_canon_iff hnd]
    constructor
    · rintro ⟨g, hg, hc⟩
      exact ⟨g, hg, ((Lookup.canon_eq_iff_perm (hr g (List.mem_of_getElem? hg)) hl).1 hc).symm⟩
    · rintro ⟨g, hg, hp⟩
      exact ⟨g, hg, Lookup.canon_perm hp.symm⟩
  · rw [findSG_none_canon_iff]
    constructor
    · intro h g hg hp
      exact h g hg (Lookup.canon_perm hp.symm)
    · intro h g hg hc
      exact h g hg ((Lookup.canon_eq_iff_perm (hr g hg) hl).1 hc).symm

/-- a list of a different length than the operations of `g` is never identified as `g`
(strict sublists and superlists of a tabulated list are not mistaken for it) -/
theorem findSG_length {sgs : List SG} (hr : ∀ g ∈ sgs, ∀ a ∈ g.ops, a.inRange = true)
    {l : List Op} (hl : ∀ a ∈ l, a.inRange = true) {i : Nat} {g : SG}
    (h : findSG sgs l = some i) (hg : sgs[i]? = some g) : l.length = g.ops.length := by
  obtain ⟨g', hg', hc⟩ := findSG_eq_some_imp h
  rw [hg] at hg'
  cases hg'
  exact ((Lookup.canon_eq_iff_perm (hr g (List.mem_of_getElem? hg)) hl).1 hc).length_eq.symm

/-- a list whose length is the length of no tabulated list is rejected -/
theorem findSG_none_of_length {sgs : List SG} {l : List Op}
    (h : ∀ g ∈ sgs, g.ops.length ≠ l.length) : findSG sgs l = none := by
  rw [findSG_none_canon_iff]
  intro g hg hc
  apply h g hg
  rw [← canon_length, hc, canon_length]

/-! ## kernel-decided facts about the generated tables -/

/-- no element of the list is marked in the bit set `seen` or occurs twice -/
def freshBits : List Nat → Nat → Bool
  | [], _ => true
  | x :: xs, seen => !seen.testBit x && freshBits xs (seen ||| 1 <<< x)

theorem freshBits_sound : ∀ (l : List Nat) (seen : Nat), freshBits l seen = true →
    l.Nodup ∧ ∀ x ∈ l, seen.testBit x = false
  | [], _, _ => ⟨List.nodup_nil, fun _ h => nomatch h⟩
  | x :: xs, seen, h => by
    rw [freshBits, Bool.and_eq_true, Bool.not_eq_true'] at h
    obtain ⟨hnd, hfresh⟩ := freshBits_sound xs _ h.2
    simp only [Nat.testBit_or, Bool.or_eq_false_iff, Nat.one_shiftLeft, Nat.testBit_two_pow,
      decide_eq_false_iff_not] at hfresh
    refine ⟨List.nodup_cons.2 ⟨fun hx => (hfresh x hx).2 rfl, hnd⟩, fun y hy => ?_⟩
    rcases List.mem_cons.1 hy with rfl | hy
    · exact h.1
    · exact (hfresh y hy).1

/-- the `number` fields of the tabulated settings are pairwise distinct -/
theorem numbers_nodup : (Gen.allSG.map (·.number)).Nodup :=
  (freshBits_sound _ 0 (by decide +kernel)).1

/-- every tabulated operation is in range (the packed key is injective there) -/
theorem all_in_range : ∀ g ∈ Gen.allSG, ∀ a ∈ g.ops, a.inRange = true := by
  have h : Gen.allSG.all (fun g => g.ops.all OpCode.inRangeF) = true := by decide +kernel
  simpa only [List.all_eq_true, OpCode.inRangeF_eq] using h

/-- the product of a list of keys modulo a prime -/
def prodMod (keys : List Nat) : Nat := keys.foldl Nat.mul 1 % 1000003

theorem prodMod_canon (ops : List Op) : prodMod (canon ops) = prodMod (ops.map Op.key) :=
  haveI : RightCommutative Nat.mul := ⟨Nat.mul_right_comm⟩
  congrArg (· % 1000003) ((Lookup.sortNat_perm _).foldl_eq 1)

/-- The order-independent fingerprints of the tabulated operation lists are pairwise distinct.
Comparing them pairwise would make the kernel sort every key list and walk all pairs of them.  Equal
fingerprints have equal key products, so it is enough that the products differ, and they do so
already modulo a prime: small numbers, which one pass marks in a bit set. -/
theorem fingerprints_nodup : (Gen.allSG.map (fun g => canon g.ops)).Nodup := by
  have h : freshBits (Gen.allSG.map (fun g => prodMod (g.ops.map OpCode.keyF))) 0 = true := by
    decide +kernel
  have hk : Gen.allSG.map (fun g => prodMod (g.ops.map OpCode.keyF)) =
      (Gen.allSG.map (fun g => canon g.ops)).map prodMod := by
    rw [List.map_map]
    refine List.map_congr_left fun g hg => ?_
    rw [Function.comp_apply, prodMod_canon,
      List.map_congr_left fun a ha => OpCode.keyF_eq (all_in_range g hg a ha)]
  exact List.Nodup.of_map prodMod (hk ▸ (freshBits_sound _ 0 h).1)

/-! ### names that the normalisations leave alone

`String.toList` of a literal makes the kernel encode the string to UTF-8 and decode it again by
well-founded recursion, which is slow.  The names are ASCII, so their characters are their bytes
(`OpCode.toList_of_ascii`), and whether `normShort`/`normFull` fix a name can be read off the
character codes. -/

open DS.OpCode (codes toList_of_ascii)

def upperN (n : Nat) : Bool := Nat.ble 65 n && Nat.ble n 90

theorem ascii_upper : ∀ n < 128, upperN n = true → (Char.ofNat n).isDigit = false ∧
    isBlank (Char.ofNat n) = false ∧ (Char.ofNat n).toUpper = Char.ofNat n := by decide

theorem ascii_not_upper : ∀ n < 128, upperN n = false → (Char.ofNat n).toLower = Char.ofNat n := by
  decide

theorem ascii_not_blank : ∀ n < 128, 32 < n →
    isBlank (Char.ofNat n) = false ∧ Char.ofNat n ≠ ' ' := by decide

theorem stripL_eq_self {l : List Char} (h₁ : ∀ c ∈ l.head?, isBlank c = false)
    (h₂ : ∀ c ∈ l.getLast?, isBlank c = false) : stripL l = l := by
  have hd : ∀ l : List Char, (∀ c ∈ l.head?, isBlank c = false) → l.dropWhile isBlank = l := by
    rintro (_ | ⟨c, l⟩) h
    · rfl
    · exact List.dropWhile_cons_of_neg (by simp [h c rfl])
  rw [stripL, hd l h₁, hd l.reverse (by rwa [List.head?_reverse]), List.reverse_reverse]

/-- an upper-case letter followed by ASCII characters that are not: `capL` changes nothing -/
def capFixed : List Nat → Bool
  | [] => false
  | n :: ns => upperN n && ns.all fun m => Nat.blt m 128 && !upperN m

theorem capFixed_sound : ∀ {ns : List Nat}, capFixed ns = true →
    (∀ n ∈ ns, n < 128) ∧ notNumeralL (ns.map Char.ofNat) = true ∧
    capL (ns.map Char.ofNat) = ns.map Char.ofNat ∧
    ∀ c ∈ (ns.map Char.ofNat).head?, isBlank c = false
  | n :: ns, h => by
    simp only [capFixed, Bool.and_eq_true, List.all_eq_true, Nat.blt_eq, Bool.not_eq_true'] at h
    have hn : n < 128 := by
      have := h.1
      simp only [upperN, Bool.and_eq_true, Nat.ble_eq] at this
      omega
    obtain ⟨hdig, hbl, hup⟩ := ascii_upper n hn h.1
    refine ⟨?_, ?_, ?_, ?_⟩
    · intro m hm
      rcases List.mem_cons.1 hm with rfl | hm
      · exact hn
      · exact (h.2 m hm).1
    · simp [notNumeralL, hdig]
    · rw [List.map_cons, capL, hup, List.map_map]
      congr 1
      exact List.map_congr_left fun m hm => ascii_not_upper m (h.2 m hm).1 (h.2 m hm).2
    · intro c hc
      cases hc
      exact hbl

/-- codes of a name that `normShort` fixes: no blank anywhere -/
def shortFixed (ns : List Nat) : Bool := capFixed ns && ns.all fun n => Nat.blt 32 n

/-- codes of a name that `normFull` fixes: no blank at the end -/
def fullFixed (ns : List Nat) : Bool := capFixed ns && Nat.blt 32 (ns.getLastD 0)

theorem shortFixed_sound {s : String} (h : shortFixed (codes s) = true) :
    notNumeral s = true ∧ normShort s = s := by
  simp only [shortFixed, Bool.and_eq_true, List.all_eq_true, Nat.blt_eq] at h
  obtain ⟨hascii, hnum, hcap, hhead⟩ := capFixed_sound h.1
  have hnb : ∀ c ∈ (codes s).map Char.ofNat, isBlank c = false ∧ c ≠ ' ' := by
    intro c hc
    obtain ⟨n, hn, rfl⟩ := List.mem_map.1 hc
    exact ascii_not_blank n (hascii n hn) (h.2 n hn)
  rw [notNumeral, normShort_fixed_iff, toList_of_ascii hascii, normShortL,
    stripL_eq_self hhead fun c hc => (hnb c (List.mem_of_getLast? hc)).1,
    List.filter_eq_self.2 fun c hc => by simpa using (hnb c hc).2]
  exact ⟨hnum, hcap⟩

theorem fullFixed_sound {s : String} (h : fullFixed (codes s) = true) :
    notNumeral s = true ∧ normFull s = s := by
  simp only [fullFixed, Bool.and_eq_true, Nat.blt_eq] at h
  obtain ⟨hascii, hnum, hcap, hhead⟩ := capFixed_sound h.1
  have hlast : ∀ c ∈ ((codes s).map Char.ofNat).getLast?, isBlank c = false := by
    intro c hc
    rw [List.getLast?_map] at hc
    obtain ⟨n, hn, rfl⟩ := Option.mem_map.1 hc
    rw [List.getLastD_eq_getLast?, Option.mem_def.1 hn] at h
    exact (ascii_not_blank n (hascii n (List.mem_of_getLast? hn)) h.2).1
  rw [notNumeral, normFull_fixed_iff, toList_of_ascii hascii, normFullL, stripL_eq_self hhead hlast]
  exact ⟨hnum, hcap⟩

theorem names_ok : ∀ g ∈ Gen.allSG,
    (notNumeral g.short = true ∧ normShort g.short = g.short) ∧
    (notNumeral g.pdb = true ∧ normFull g.pdb = g.pdb) := by
  have h : Gen.allSG.all (fun g => shortFixed (codes g.short) && fullFixed (codes g.pdb)) = true := by
    decide +kernel
  simp only [List.all_eq_true, Bool.and_eq_true] at h
  exact fun g hg => ⟨shortFixed_sound (h g hg).1, fullFixed_sound (h g hg).2⟩

/-- no name of a setting is a numeral -/
theorem names_not_numerals :
    ∀ g ∈ Gen.allSG, notNumeral g.short = true ∧ notNumeral g.pdb = true :=
  fun g hg => ⟨(names_ok g hg).1.1, (names_ok g hg).2.1⟩

/-- every tabulated name is a fixed point of its normalisation: each setting's names can be
reached through the case-insensitive fall-back of `GetSpaceGroup` (true for all 514 settings) -/
theorem names_normalised :
    ∀ g ∈ Gen.allSG, normShort g.short = g.short ∧ normFull g.pdb = g.pdb :=
  fun g hg => ⟨(names_ok g hg).1.2, (names_ok g hg).2.2⟩

/-- no alias target is an alias name -/
theorem aliases_direct : AliasesDirect aliases :=
  (aliasesDirectB_iff _).1 (by decide +kernel)

theorem codes_inj {s t : String} (h : codes s = codes t) : s = t := by
  rw [← String.toByteArray_inj]
  exact ByteArray.ext (Array.toList_inj.1 (List.map_injective_iff.2 (fun _ _ => UInt8.toNat_inj.1) h))

/-- every alias target (blanks removed) is the short or full name of a tabulated setting; the
names are compared byte by byte, which the kernel does faster than it decides `String` equality -/
theorem alias_targets : ∀ p ∈ aliases, ∃ g ∈ Gen.allSG, Carries g (.str (removeBlanks p.2)) := by
  have h : aliases.all (fun p => Gen.allSG.any fun g =>
      codes g.short == codes (removeBlanks p.2) || codes g.pdb == codes (removeBlanks p.2)) = true := by
    decide +kernel
  simp only [List.all_eq_true, List.any_eq_true, Bool.or_eq_true, beq_iff_eq] at h
  intro p hp
  obtain ⟨g, hg, hc⟩ := h p hp
  refine ⟨g, hg, Or.inr (Or.inr ?_)⟩
  exact hc.imp (fun e => by rw [codes_inj e]) (fun e => by rw [codes_inj e])

/-- `_buildSGLookupTable` does not raise `KeyError`: the table exists.  (Evaluating
`buildTable Gen.allSG aliases` itself in the kernel is not feasible — each insertion is a
linear scan with string comparisons — so existence is derived from
`buildTable_isSome`; the concrete table is compared with the real dictionary by the driver-based
correspondence check.) -/
theorem table_exists : ∃ t, buildTable Gen.allSG aliases = some t :=
  buildTable_isSome alias_targets

theorem table_ne_none : buildTable Gen.allSG aliases ≠ none := by
  obtain ⟨t, ht⟩ := table_exists
  rw [ht]; exact Option.some_ne_none t

/-! ## the generic theorems for the generated tables -/

/-- by number (int or decimal string): the setting registered at that very position -/
theorem tables_by_number {t : Table} (ht : buildTable Gen.allSG aliases = some t)
    {i : Nat} {g : SG} (hi : Gen.allSG[i]? = some g) :
    getSG t (.num g.number) = some i ∧ getSG t (.str (toString g.number)) = some i :=
  ⟨getSG_of_lookup (by_number numbers_nodup ht hi),
   getSG_of_lookup (by_number_str numbers_nodup names_not_numerals ht hi)⟩

/-- an integer or numeral that is the number of no setting is rejected -/
theorem tables_unknown_number {t : Table} (ht : buildTable Gen.allSG aliases = some t) {n : Nat}
    (hn : ∀ g ∈ Gen.allSG, g.number ≠ n) : getSG t (.num n) = none := by
  apply getSG_rejects ht
  intro k hk
  simp only [forms, List.mem_singleton] at hk
  subst hk
  exact ⟨fun g hg hc => hn g hg (carries_num_iff.1 hc), fun p _ h => by cases h⟩

/-- by name: any spelling that is or normalises to a tabulated name is found and the setting
returned answers to one of the forms tried -/
theorem tables_by_name {t : Table} (ht : buildTable Gen.allSG aliases = some t)
    {g : SG} (hg : g ∈ Gen.allSG) {s : String}
    (hs : s = g.short ∨ s = g.pdb ∨ normShort s = g.short ∨ normFull s = g.pdb) :
    ∃ j g', getSG t (.str s) = some j ∧ Gen.allSG[j]? = some g' ∧
      ∃ k ∈ forms (.str s), Answers Gen.allSG aliases j g' k :=
  by_name aliases_direct ht hg hs

/-- any letter case, any blanks: a string whose outer-stripped, blank-free letters agree up to
case with the short name of a setting — or whose outer-stripped letters agree up to case with its
full name — is found -/
theorem tables_by_name_variant {t : Table} (ht : buildTable Gen.allSG aliases = some t)
    {g : SG} (hg : g ∈ Gen.allSG) {s : String}
    (hs : ((stripL s.toList).filter (· ≠ ' ')).map Char.toLower = g.short.toList.map Char.toLower ∨
          (stripL s.toList).map Char.toLower = g.pdb.toList.map Char.toLower) :
    ∃ j g', getSG t (.str s) = some j ∧ Gen.allSG[j]? = some g' ∧
      ∃ k ∈ forms (.str s), Answers Gen.allSG aliases j g' k := by
  apply tables_by_name ht hg
  rcases hs with h | h
  · exact Or.inr (Or.inr (Or.inl (normShort_variant (names_normalised g hg).1 h)))
  · exact Or.inr (Or.inr (Or.inr (normFull_variant (names_normalised g hg).2 h)))

/-- every legacy alias is found -/
theorem tables_by_alias {t : Table} (ht : buildTable Gen.allSG aliases = some t)
    {a hm : String} (ha : (a, hm) ∈ aliases) :
    ∃ j g, getSG t (.str a) = some j ∧ Gen.allSG[j]? = some g ∧
      Answers Gen.allSG aliases j g (.str a) :=
  by_alias aliases_direct ht ha

/-- whatever `getSG` returns answers to the identifier or one of its normalised forms -/
theorem tables_sound {t : Table} (ht : buildTable Gen.allSG aliases = some t)
    {id : Key} {i : Nat} (h : getSG t id = some i) :
    ∃ g, Gen.allSG[i]? = some g ∧ ∃ k ∈ forms id, Answers Gen.allSG aliases i g k :=
  getSG_sound aliases_direct ht h

/-- identification from operations in any order: found exactly for the permutations of a
tabulated list (and then at the position of that list), rejected otherwise -/
theorem tables_find_spec {l : List Op} (hl : ∀ a ∈ l, a.inRange = true) :
    (∀ i, findSG Gen.allSG l = some i ↔ ∃ g, Gen.allSG[i]? = some g ∧ l.Perm g.ops) ∧
    (findSG Gen.allSG l = none ↔ ∀ g ∈ Gen.allSG, ¬ l.Perm g.ops) :=
  findSG_spec fingerprints_nodup all_in_range hl

/-- every reordering of a tabulated operation list is identified as that setting -/
theorem tables_find_perm {i : Nat} {g : SG} (hi : Gen.allSG[i]? = some g) {l : List Op}
    (hp : l.Perm g.ops) : findSG Gen.allSG l = some i := by
  have hl : ∀ a ∈ l, a.inRange = true :=
    fun a ha => all_in_range g (List.mem_of_getElem? hi) a (hp.subset ha)
  exact ((tables_find_spec hl).1 i).2 ⟨g, hi, hp⟩

/-! ## non-vacuity -/

/-- position 231 of `SpaceGroupList` is Fm-3m, number 225 -/
example : Gen.allSG[231]? = some Gen.sg225 := rfl

/-- "225" and 225 -/
example : ∃ t, buildTable Gen.allSG aliases = some t ∧
    getSG t (.num 225) = some 231 ∧ getSG t (.str "225") = some 231 := by
  obtain ⟨t, ht⟩ := table_exists
  exact ⟨t, ht, tables_by_number ht (g := Gen.sg225) rfl⟩

/-- "fm-3M" is no key itself (no setting carries it, no alias is spelled so); its short-name
normalisation is "Fm-3m", and the first setting with that name is at position 231 -/
example : ∃ t, buildTable Gen.allSG aliases = some t ∧ getSG t (.str "fm-3M") = some 231 := by
  obtain ⟨t, ht⟩ := table_exists
  refine ⟨t, ht, ?_⟩
  have hn : normShort "fm-3M" = "Fm-3m" := by decide +kernel
  have hf : normFull "fm-3M" = "Fm-3m" := by decide +kernel
  have hnone : lookup t (.str "fm-3M") = none := by
    apply lookup_none ht
    · -- the names of the settings are fixed by the normalisations, "fm-3M" is not
      intro g hg hc
      obtain ⟨hs, hp⟩ := names_normalised g hg
      rcases hc with h | h | h | h
      · cases h
      · exact notNumeral_ne_toString (by decide +kernel) _ (Key.str.inj h)
      · rw [← Key.str.inj h, hn] at hs
        exact absurd hs (by decide)
      · rw [← Key.str.inj h, hf] at hp
        exact absurd hp (by decide)
    · have h : aliases.all (fun p => decide (Key.str "fm-3M" ≠ .str p.1)) = true := by decide +kernel
      intro p hp
      exact of_decide_eq_true (List.all_eq_true.1 h p hp)
  have hb : lookup (addAll [] Gen.allSG 0) (.str "Fm-3m") = some 231 := by
    -- no earlier setting has that name, and no numeral begins with a letter
    have h : (Gen.allSG.take 231).all
        (fun g => decide (g.short ≠ "Fm-3m") && decide (g.pdb ≠ "Fm-3m")) = true := by decide +kernel
    simp only [List.all_eq_true, Bool.and_eq_true, decide_eq_true_eq] at h
    refine lookup_base_eq_some_iff.2 ⟨Gen.sg225, rfl, Or.inr (Or.inr (Or.inl rfl)), ?_⟩
    intro j g' hj hg' hc
    have hm : g' ∈ Gen.allSG.take 231 :=
      List.mem_of_getElem? ((List.getElem?_take_of_lt hj).trans hg')
    rcases hc with hc | hc | hc | hc
    · cases hc
    · exact notNumeral_ne_toString (by decide +kernel) _ (Key.str.inj hc)
    · exact (h g' hm).1 (Key.str.inj hc).symm
    · exact (h g' hm).2 (Key.str.inj hc).symm
  rw [getSG_str, hnone, hn, buildTable_preserves ht hb]; rfl

/-- " F m -3 m " (blanks inside and outside, full-name spelling of an alias target) is found,
by the variant theorem, through its short-name normalisation "Fm-3m" -/
example : ∃ t j g', buildTable Gen.allSG aliases = some t ∧
    getSG t (.str " F m -3 m ") = some j ∧ Gen.allSG[j]? = some g' ∧
    ∃ k ∈ forms (.str " F m -3 m "), Answers Gen.allSG aliases j g' k := by
  obtain ⟨t, ht⟩ := table_exists
  have hg : Gen.sg225 ∈ Gen.allSG := List.mem_of_getElem? (i := 231) rfl
  obtain ⟨j, g', h1, h2, h3⟩ := tables_by_name_variant ht hg (s := " F m -3 m ")
    (Or.inl (by decide +kernel))
  exact ⟨t, j, g', ht, h1, h2, h3⟩

/-- the alias "Fm3m" -/
example : ∃ t j g, buildTable Gen.allSG aliases = some t ∧ getSG t (.str "Fm3m") = some j ∧
    Gen.allSG[j]? = some g ∧ Answers Gen.allSG aliases j g (.str "Fm3m") := by
  obtain ⟨t, ht⟩ := table_exists
  obtain ⟨j, g, h1, h2, h3⟩ := tables_by_alias ht (a := "Fm3m") (hm := "F m -3 m")
    (by decide +kernel)
  exact ⟨t, j, g, ht, h1, h2, h3⟩

/-- an unknown number is rejected -/
example : ∃ t, buildTable Gen.allSG aliases = some t ∧ getSG t (.num 231) = none := by
  obtain ⟨t, ht⟩ := table_exists
  refine ⟨t, ht, tables_unknown_number ht ?_⟩
  have h : Gen.allSG.all (fun g => decide (g.number ≠ 231)) = true := by decide +kernel
  intro g hg
  exact of_decide_eq_true (List.all_eq_true.1 h g hg)

/-- the reversed operation list of Fm-3m is identified as position 231; the order differs -/
example : findSG Gen.allSG Gen.sg225.ops.reverse = some 231 ∧
    sameOrder Gen.sg225.ops Gen.sg225.ops.reverse = false :=
  ⟨tables_find_perm (g := Gen.sg225) rfl (List.reverse_perm _), by decide +kernel⟩

/-- the empty list and a strict sublist of a tabulated list of a length no setting has -/
example : findSG Gen.allSG [] = none ∧ findSG Gen.allSG (Gen.sg225.ops.take 5) = none := by
  have h : Gen.allSG.all (fun g => decide (g.ops.length ≠ 0) && decide (g.ops.length ≠ 5)) = true := by
    decide +kernel
  simp only [List.all_eq_true, Bool.and_eq_true, decide_eq_true_eq] at h
  have h5 : (Gen.sg225.ops.take 5).length = 5 := by decide +kernel
  exact ⟨findSG_none_of_length (fun g hg => (h g hg).1),
    findSG_none_of_length (fun g hg => by rw [h5]; exact (h g hg).2)⟩

end DS.Props.C11

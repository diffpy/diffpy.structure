import DS.Model.SymSpec
import DS.Lemmas.OpCode
import Mathlib.Tactic.Ring
import Mathlib.Algebra.Group.Int.Units
import Mathlib.Tactic.LinearCombination
import Mathlib.Data.List.GetD
import Mathlib.Data.List.Nodup

/-!
Soundness of the certificate checker: `checkGroup ops c = true → IsGroup ops`.  The second half is the
soundness of its evaluator on codes (`DS.Lemmas.OpCode`): `fastSG g c = true → checkSG g c = true`.
-/
namespace DS
open Op

theorem emod24_of_eq (X Y k : Int) (h : X = Y + 24 * k) : X % 24 = Y % 24 := by
  subst h; exact Int.add_mul_emod_self_left Y 24 k

theorem lemT (p q r u1 u2 u3 w : Int) :
    (p * (u1 % 24) + q * (u2 % 24) + r * (u3 % 24) + w) % 24 = (p * u1 + q * u2 + r * u3 + w) % 24 := by
  apply emod24_of_eq _ _ (-(p * (u1 / 24) + q * (u2 / 24) + r * (u3 / 24)))
  rw [Int.emod_def u1, Int.emod_def u2, Int.emod_def u3]; ring

theorem lemR (X W : Int) : (X + W % 24) % 24 = (X + W) % 24 := by
  apply emod24_of_eq _ _ (-(W / 24))
  rw [Int.emod_def W]; ring

theorem Op.ext' {a b : Op}
    (h1 : a.r11 = b.r11) (h2 : a.r12 = b.r12) (h3 : a.r13 = b.r13)
    (h4 : a.r21 = b.r21) (h5 : a.r22 = b.r22) (h6 : a.r23 = b.r23)
    (h7 : a.r31 = b.r31) (h8 : a.r32 = b.r32) (h9 : a.r33 = b.r33)
    (h10 : a.t1 = b.t1) (h11 : a.t2 = b.t2) (h12 : a.t3 = b.t3) : a = b := by
  cases a; cases b; simp_all

theorem comp_assoc (a b c : Op) : a.comp (b.comp c) = (a.comp b).comp c := by
  apply Op.ext' <;> simp only [Op.comp]
  all_goals first
    | ring1
    | (rw [lemT, lemR]; congr 1; ring1)

/-! ### small facts about `Op.one` and ranges -/

theorem inRange_t {a : Op} (h : a.inRange = true) :
    (0 ≤ a.t1 ∧ a.t1 < 24) ∧ (0 ≤ a.t2 ∧ a.t2 < 24) ∧ (0 ≤ a.t3 ∧ a.t3 < 24) := by
  simp only [Op.inRange, Bool.and_eq_true, decide_eq_true_eq] at h
  omega

theorem inRange_r {a : Op} (h : a.inRange = true) :
    (-1 ≤ a.r11 ∧ a.r11 ≤ 1) ∧ (-1 ≤ a.r12 ∧ a.r12 ≤ 1) ∧ (-1 ≤ a.r13 ∧ a.r13 ≤ 1) ∧
    (-1 ≤ a.r21 ∧ a.r21 ≤ 1) ∧ (-1 ≤ a.r22 ∧ a.r22 ≤ 1) ∧ (-1 ≤ a.r23 ∧ a.r23 ≤ 1) ∧
    (-1 ≤ a.r31 ∧ a.r31 ≤ 1) ∧ (-1 ≤ a.r32 ∧ a.r32 ≤ 1) ∧ (-1 ≤ a.r33 ∧ a.r33 ≤ 1) := by
  simp only [Op.inRange, Bool.and_eq_true, decide_eq_true_eq] at h
  omega

theorem comp_one {a : Op} (h : a.inRange = true) : a.comp Op.one = a := by
  obtain ⟨⟨h1, h1'⟩, ⟨h2, h2'⟩, ⟨h3, h3'⟩⟩ := inRange_t h
  apply Op.ext' <;> simp only [Op.comp, Op.one] <;> try ring1
  · have : (a.r11 * 0 + a.r12 * 0 + a.r13 * 0 + a.t1) = a.t1 := by ring
    rw [this]; exact Int.emod_eq_of_lt h1 h1'
  · have : (a.r21 * 0 + a.r22 * 0 + a.r23 * 0 + a.t2) = a.t2 := by ring
    rw [this]; exact Int.emod_eq_of_lt h2 h2'
  · have : (a.r31 * 0 + a.r32 * 0 + a.r33 * 0 + a.t3) = a.t3 := by ring
    rw [this]; exact Int.emod_eq_of_lt h3 h3'

theorem one_comp {a : Op} (h : a.inRange = true) : Op.one.comp a = a := by
  obtain ⟨⟨h1, h1'⟩, ⟨h2, h2'⟩, ⟨h3, h3'⟩⟩ := inRange_t h
  apply Op.ext' <;> simp only [Op.comp, Op.one] <;> try ring1
  · have : (1 * a.t1 + 0 * a.t2 + 0 * a.t3 + 0) = a.t1 := by ring
    rw [this]; exact Int.emod_eq_of_lt h1 h1'
  · have : (0 * a.t1 + 1 * a.t2 + 0 * a.t3 + 0) = a.t2 := by ring
    rw [this]; exact Int.emod_eq_of_lt h2 h2'
  · have : (0 * a.t1 + 0 * a.t2 + 1 * a.t3 + 0) = a.t3 := by ring
    rw [this]; exact Int.emod_eq_of_lt h3 h3'

theorem nodupNat_iff (l : List Nat) : nodupNat l = true ↔ l.Nodup := by
  induction l with
  | nil => simp [nodupNat]
  | cons x xs ih =>
    simp only [nodupNat, Bool.and_eq_true, Bool.not_eq_true', List.nodup_cons, ih]
    constructor
    · rintro ⟨h1, h2⟩; exact ⟨by simpa [List.elem_eq_mem] using h1, h2⟩
    · rintro ⟨h1, h2⟩; exact ⟨by simpa [List.elem_eq_mem] using h1, h2⟩

theorem getOp_mem {ops : List Op} {i : Nat} (h : i < ops.length) : getOp ops i ∈ ops := by
  unfold getOp
  rw [List.getD_eq_getElem (l := ops) (d := Op.one) h]
  exact List.getElem_mem h

/-! ### (A) Cayley rows -/

theorem checkCayRow_spec {ops : List Op} {s : Op} :
    ∀ (gs : List Op) (is : List Nat), checkCayRow ops s gs is = true → ∀ g ∈ gs, s.comp g ∈ ops
  | [], _, _ => by intro g hg; cases hg
  | g :: gs, [], h => by simp [checkCayRow] at h
  | g :: gs, i :: is, h => by
    simp only [checkCayRow, Bool.and_eq_true, decide_eq_true_eq] at h
    obtain ⟨⟨hi, he⟩, hr⟩ := h
    intro g' hg'
    rcases List.mem_cons.1 hg' with rfl | hg'
    · rw [← he]; exact getOp_mem hi
    · exact checkCayRow_spec gs is hr g' hg'

theorem checkCay_spec {ops gens : List Op} :
    ∀ (ss : List Op) (rows : List (List Nat)), checkCay ops gens ss rows = true →
      ∀ s ∈ ss, ∀ g ∈ gens, s.comp g ∈ ops
  | [], _, _ => by intro s hs; cases hs
  | s :: ss, [], h => by simp [checkCay] at h
  | s :: ss, row :: rows, h => by
    simp only [checkCay, Bool.and_eq_true] at h
    intro s' hs'
    rcases List.mem_cons.1 hs' with rfl | hs'
    · exact checkCayRow_spec gens row h.1
    · exact checkCay_spec ss rows h.2 s' hs'

/-! ### (B) generation -/

/-- words in the generators, multiplied on the right starting from the identity -/
inductive Generated (gens : List Op) : Op → Prop
  | one : Generated gens Op.one
  | step {p g : Op} : Generated gens p → g ∈ gens → Generated gens (p.comp g)

/-- what `checkParAux` establishes for position `i` -/
def ParOK (ops gens : List Op) (rank : List Nat) (i : Nat) (s : Op) : Prop :=
  s = Op.one ∨ ∃ p j, p < ops.length ∧ j < gens.length ∧
    s = (getOp ops p).comp (gens.getD j Op.one) ∧ rank.getD p 0 < rank.getD i 0

theorem checkParAux_spec {ops gens : List Op} {rank : List Nat} :
    ∀ (k : Nat) (ss : List Op) (ps : List (Nat × Nat)), checkParAux ops gens rank k ss ps = true →
      ∀ m (hm : m < ss.length), ParOK ops gens rank (k + m) ss[m]
  | _, [], _, _ => by intro m hm; cases hm
  | _, _ :: _, [], h => by simp [checkParAux] at h
  | k, s :: ss, (p, j) :: ps, h => by
    simp only [checkParAux, Bool.and_eq_true, Bool.or_eq_true, decide_eq_true_eq] at h
    obtain ⟨h1, h2⟩ := h
    intro m hm
    cases m with
    | zero =>
      simp only [List.getElem_cons_zero, Nat.add_zero]
      rcases h1 with h1 | ⟨⟨⟨hp, hj⟩, he⟩, hr⟩
      · exact Or.inl h1
      · exact Or.inr ⟨p, j, hp, hj, he, hr⟩
    | succ m =>
      have := checkParAux_spec (k + 1) ss ps h2 m (by simpa using hm)
      simpa [Nat.add_assoc, Nat.add_comm 1 m] using this

theorem generated_of_par {ops gens : List Op} {rank : List Nat}
    (h : ∀ m (hm : m < ops.length), ParOK ops gens rank m ops[m]) :
    ∀ r m (hm : m < ops.length), rank.getD m 0 = r → Generated gens ops[m] := by
  intro r
  induction r using Nat.strong_induction_on with
  | _ r ih =>
    intro m hm hr
    rcases h m hm with h1 | ⟨p, j, hp, hj, he, hlt⟩
    · rw [h1]; exact Generated.one
    · rw [he]
      have hg : gens.getD j Op.one ∈ gens := by
        rw [List.getD_eq_getElem (l := gens) (d := Op.one) hj]; exact List.getElem_mem hj
      have hp' : getOp ops p = ops[p] := by unfold getOp; rw [List.getD_eq_getElem (l := ops) (d := Op.one) hp]
      rw [hp']
      exact Generated.step (ih _ (hr ▸ hlt) p hp rfl) hg

/-! ### (C) inverses -/

theorem checkInv_spec {ops : List Op} :
    ∀ (ss : List Op) (is : List Nat), checkInv ops ss is = true →
      ∀ s ∈ ss, ∃ b ∈ ops, s.comp b = Op.one
  | [], _, _ => by intro s hs; cases hs
  | s :: ss, [], h => by simp [checkInv] at h
  | s :: ss, i :: is, h => by
    simp only [checkInv, Bool.and_eq_true, decide_eq_true_eq] at h
    obtain ⟨⟨hi, he⟩, hr⟩ := h
    intro s' hs'
    rcases List.mem_cons.1 hs' with rfl | hs'
    · exact ⟨getOp ops i, getOp_mem hi, he⟩
    · exact checkInv_spec ss is hr s' hs'

/-! ### soundness -/

theorem closed_of_generated {ops gens : List Op}
    (hr : ∀ a ∈ ops, a.inRange = true)
    (hc : ∀ s ∈ ops, ∀ g ∈ gens, s.comp g ∈ ops) :
    ∀ o, Generated gens o → ∀ a ∈ ops, a.comp o ∈ ops := by
  intro o ho
  induction ho with
  | one => intro a ha; rw [comp_one (hr a ha)]; exact ha
  | step _ hg ih => intro a ha; rw [comp_assoc]; exact hc _ (ih a ha) _ hg

theorem checkGroup_sound {ops : List Op} {c : Cert} (h : checkGroup ops c = true) : IsGroup ops := by
  simp only [checkGroup, Bool.and_eq_true, decide_eq_true_eq, List.all_eq_true, Bool.or_eq_true] at h
  obtain ⟨⟨⟨⟨⟨⟨h1, hrange⟩, hnd⟩, hdet⟩, hcay⟩, hpar⟩, hinv⟩ := h
  have hc := checkCay_spec ops c.cay hcay
  have hgen : ∀ a ∈ ops, Generated c.gens a := by
    intro a ha
    obtain ⟨m, hm, rfl⟩ := List.getElem_of_mem ha
    have hp := checkParAux_spec 0 ops c.par hpar
    simp only [Nat.zero_add] at hp
    exact generated_of_par hp _ m hm rfl
  have hclosed : ∀ a ∈ ops, ∀ b ∈ ops, a.comp b ∈ ops :=
    fun a ha b hb => closed_of_generated hrange hc b (hgen b hb) a ha
  have hone : Op.one ∈ ops := by
    cases ops with
    | nil => simp at h1
    | cons x xs => simp only [List.head?_cons, Option.some.injEq] at h1; rw [h1]; exact List.mem_cons_self
  have hinv' := checkInv_spec ops c.inv hinv
  refine ⟨h1, ?_, hclosed, ?_, hdet, hrange⟩
  · exact List.Nodup.of_map _ ((nodupNat_iff _).1 hnd)
  · intro a ha
    obtain ⟨b, hb, hab⟩ := hinv' a ha
    refine ⟨b, hb, hab, ?_⟩
    -- a right inverse in a monoid where every element has a right inverse is two-sided
    obtain ⟨c', hc', hbc⟩ := hinv' b hb
    have hb1 : b.comp Op.one = b := comp_one (hrange b hb)
    have hc1 : Op.one.comp c' = c' := one_comp (hrange c' hc')
    have ha1 : a.comp Op.one = a := comp_one (hrange a ha)
    -- a = a (b c') = (a b) c' = c'
    have hac : a = c' := by
      calc a = a.comp Op.one := ha1.symm
        _ = a.comp (b.comp c') := by rw [hbc]
        _ = (a.comp b).comp c' := comp_assoc _ _ _
        _ = Op.one.comp c' := by rw [hab]
        _ = c' := hc1
    rw [hac]; exact hbc

/-! ### the evaluator on codes (`DS.Lemmas.OpCode`) implies `checkGroup` -/

namespace OpCode

theorem withVal_eq (x : Nat) (f : Nat → Bool) : withVal x f = f x := by cases x <;> rfl

theorem pack_lt {M : Nat} : ∀ {ds : List Nat}, (∀ d ∈ ds, d < M) → pack M ds < M ^ ds.length
  | [], _ => by simp [pack]
  | d :: ds, h => by
    have hd := h d List.mem_cons_self
    have ih := pack_lt fun e he => h e (List.mem_cons_of_mem _ he)
    show d + M * pack M ds < M ^ (ds.length + 1)
    calc d + M * pack M ds < M * (pack M ds + 1) := by rw [Nat.mul_add]; omega
      _ ≤ M * M ^ ds.length := Nat.mul_le_mul_left _ ih
      _ = M ^ (ds.length + 1) := by rw [Nat.pow_succ, Nat.mul_comm]

theorem digit_pack {M : Nat} : ∀ {ds : List Nat} (i : Nat), (∀ d ∈ ds, d < M) →
    digit M (pack M ds) i = ds.getD i 0
  | [], i, _ => by show 0 / M ^ i % M = _; simp
  | d :: ds, i, h => by
    have hd := h d List.mem_cons_self
    have hM : 0 < M := by omega
    show (d + M * pack M ds) / M ^ i % M = _
    cases i with
    | zero => simp [Nat.add_mul_mod_self_left, Nat.mod_eq_of_lt hd]
    | succ i =>
      rw [Nat.pow_succ, Nat.mul_comm (M ^ i), ← Nat.div_div_eq_div_mul, Nat.add_mul_div_left _ _ hM,
        Nat.div_eq_of_lt hd, Nat.zero_add]
      exact digit_pack i fun e he => h e (List.mem_cons_of_mem _ he)

theorem encR_lt_iff : ∀ r : Int, encR r < 3 ↔ -1 ≤ r ∧ r ≤ 1
  | .ofNat k => by show k + 1 < 3 ↔ _; rw [Int.ofNat_eq_natCast]; omega
  | .negSucc 0 => by decide
  | .negSucc (k + 1) => by show 3 < 3 ↔ _; rw [Int.negSucc_eq]; omega

theorem encT_lt_iff : ∀ t : Int, encT t < 24 ↔ 0 ≤ t ∧ t < 24
  | .ofNat k => by show k < 24 ↔ _; rw [Int.ofNat_eq_natCast]; omega
  | .negSucc k => by show 24 < 24 ↔ _; rw [Int.negSucc_eq]; omega

theorem encR_cast : ∀ {r : Int}, -1 ≤ r → (encR r : Int) = r + 1
  | .ofNat k, _ => by show ((k + 1 : Nat) : Int) = _; rw [Int.ofNat_eq_natCast]; omega
  | .negSucc 0, _ => rfl
  | .negSucc (k + 1), h => by rw [Int.negSucc_eq] at h; omega

theorem encT_cast : ∀ {t : Int}, 0 ≤ t → (encT t : Int) = t
  | .ofNat k, _ => rfl
  | .negSucc k, h => by rw [Int.negSucc_eq] at h; omega

theorem inRangeF_eq (a : Op) : inRangeF a = a.inRange := by
  rw [Bool.eq_iff_iff]
  simp only [inRangeF, Op.inRange, Bool.and_eq_true, Nat.blt_eq, decide_eq_true_eq, encR_lt_iff,
    encT_lt_iff]

theorem entry_sound {c a1 a2 a3 b1 b2 b3 : Int} (hc : -1 ≤ c)
    (h1 : -1 ≤ a1) (h2 : -1 ≤ a2) (h3 : -1 ≤ a3)
    (k1 : -1 ≤ b1) (k2 : -1 ≤ b2) (k3 : -1 ≤ b3)
    (h : entryOK (encR c) (encR a1) (encR a2) (encR a3) (encR b1) (encR b2) (encR b3) = true) :
    c = a1 * b1 + a2 * b2 + a3 * b3 := by
  have e : encR c + (encR a1 + encR a2 + encR a3) + (encR b1 + encR b2 + encR b3) =
      encR a1 * encR b1 + encR a2 * encR b2 + encR a3 * encR b3 + 4 := Nat.eq_of_beq_eq_true h
  have e := congrArg (Nat.cast : Nat → Int) e
  push_cast at e
  rw [encR_cast hc, encR_cast h1, encR_cast h2, encR_cast h3, encR_cast k1, encR_cast k2,
    encR_cast k3] at e
  linear_combination e

theorem trans_sound {c a1 a2 a3 t1 t2 t3 u : Int} (hc : 0 ≤ c ∧ c < 24)
    (h1 : -1 ≤ a1) (h2 : -1 ≤ a2) (h3 : -1 ≤ a3)
    (k1 : 0 ≤ t1) (k2 : 0 ≤ t2) (k3 : 0 ≤ t3)
    (hu : 0 ≤ u)
    (h : transOK (encT c) (encR a1) (encR a2) (encR a3) (encT t1) (encT t2) (encT t3) (encT u) = true) :
    c = (a1 * t1 + a2 * t2 + a3 * t3 + u) % 24 := by
  have e : (encT c + (encT t1 + encT t2 + encT t3)) % 24 =
      (encR a1 * encT t1 + encR a2 * encT t2 + encR a3 * encT t3 + encT u) % 24 :=
    Nat.eq_of_beq_eq_true h
  have e := congrArg (Nat.cast : Nat → Int) e
  push_cast at e
  rw [encT_cast hc.1, encR_cast h1, encR_cast h2, encR_cast h3, encT_cast k1, encT_cast k2,
    encT_cast k3, encT_cast hu] at e
  have e' : (c + (t1 + t2 + t3)) % 24 = (a1 * t1 + a2 * t2 + a3 * t3 + u + (t1 + t2 + t3)) % 24 := by
    rw [e]; congr 1; ring
  omega

theorem code_lt {a : Op} (h : a.inRange = true) : ∀ d ∈ fields a, d < 32 := by
  rw [← inRangeF_eq] at h
  simp only [inRangeF, Bool.and_eq_true, Nat.blt_eq] at h
  intro d hd
  simp only [fields, List.mem_cons, List.mem_nil_iff, or_false] at hd
  omega

theorem code_eq (a : Op) : code a = pack 32 (fields a) := rfl

theorem digit_code {a : Op} (h : a.inRange = true) (k : Nat) :
    digit 32 (code a) k = (fields a).getD k 0 :=
  code_eq a ▸ digit_pack k (code_lt h)

theorem compOK_sound {a b c : Op} (ha : a.inRange = true) (hb : b.inRange = true)
    (hc : c.inRange = true) (h : compOK (code a) (code b) (code c) = true) : c = a.comp b := by
  simp only [compOK, digit_code ha, digit_code hb, digit_code hc, Bool.and_eq_true] at h
  simp only [fields, List.getD_cons_zero, List.getD_cons_succ] at h
  obtain ⟨⟨⟨⟨⟨⟨⟨⟨⟨⟨⟨e1, e2⟩, e3⟩, e4⟩, e5⟩, e6⟩, e7⟩, e8⟩, e9⟩, e10⟩, e11⟩, e12⟩ := h
  obtain ⟨a1, a2, a3, a4, a5, a6, a7, a8, a9⟩ := inRange_r ha
  obtain ⟨b1, b2, b3, b4, b5, b6, b7, b8, b9⟩ := inRange_r hb
  obtain ⟨c1, c2, c3, c4, c5, c6, c7, c8, c9⟩ := inRange_r hc
  obtain ⟨s1, s2, s3⟩ := inRange_t ha
  obtain ⟨t1, t2, t3⟩ := inRange_t hb
  obtain ⟨u1, u2, u3⟩ := inRange_t hc
  apply Op.ext' <;> simp only [Op.comp]
  · exact entry_sound c1.1 a1.1 a2.1 a3.1 b1.1 b4.1 b7.1 e1
  · exact entry_sound c2.1 a1.1 a2.1 a3.1 b2.1 b5.1 b8.1 e2
  · exact entry_sound c3.1 a1.1 a2.1 a3.1 b3.1 b6.1 b9.1 e3
  · exact entry_sound c4.1 a4.1 a5.1 a6.1 b1.1 b4.1 b7.1 e4
  · exact entry_sound c5.1 a4.1 a5.1 a6.1 b2.1 b5.1 b8.1 e5
  · exact entry_sound c6.1 a4.1 a5.1 a6.1 b3.1 b6.1 b9.1 e6
  · exact entry_sound c7.1 a7.1 a8.1 a9.1 b1.1 b4.1 b7.1 e7
  · exact entry_sound c8.1 a7.1 a8.1 a9.1 b2.1 b5.1 b8.1 e8
  · exact entry_sound c9.1 a7.1 a8.1 a9.1 b3.1 b6.1 b9.1 e9
  · exact trans_sound u1 a1.1 a2.1 a3.1 t1.1 t2.1 t3.1 s1.1 e10
  · exact trans_sound u2 a4.1 a5.1 a6.1 t1.1 t2.1 t3.1 s2.1 e11
  · exact trans_sound u3 a7.1 a8.1 a9.1 t1.1 t2.1 t3.1 s3.1 e12

theorem code_lt_wide {a : Op} (h : a.inRange = true) : code a < wide :=
  code_eq a ▸ pack_lt (ds := fields a) (code_lt h)

theorem digit_table {ops : List Op} (hr : ∀ a ∈ ops, a.inRange = true) {i : Nat}
    (hi : i < ops.length) : digit wide (table ops) i = code ops[i] := by
  rw [table, digit_pack i, List.getD_eq_getElem _ _ (by simpa using hi), List.getElem_map]
  intro d hd
  obtain ⟨a, ha, rfl⟩ := List.mem_map.1 hd
  exact code_lt_wide (hr a ha)

theorem getOp_eq {ops : List Op} {i : Nat} (hi : i < ops.length) : getOp ops i = ops[i] :=
  List.getD_eq_getElem _ _ hi

theorem drop_cons {α : Type} {l : List α} {j : Nat} {x : α} {xs : List α} (h : l.drop j = x :: xs) :
    ∃ hj : j < l.length, l[j] = x ∧ l.drop (j + 1) = xs := by
  have hj : j < l.length := by
    by_contra hn
    rw [List.drop_eq_nil_of_le (by omega)] at h
    cases h
  rw [List.drop_eq_getElem_cons hj] at h
  injection h with h1 h2
  exact ⟨hj, h1, h2⟩

section Loops
variable {ops gens : List Op} (hr : ∀ a ∈ ops, a.inRange = true) (hg : ∀ g ∈ gens, g.inRange = true)
include hr hg

theorem cayRow_sound {s : Op} (hs : s.inRange = true) : ∀ (j : Nat) (gs : List Op) (is : List Nat),
    gens.drop j = gs → cayRow (table ops) (table gens) ops.length (code s) j gs is = true →
    checkCayRow ops s gs is = true
  | _, [], _, _, _ => rfl
  | _, _ :: _, [], _, h => by simp [cayRow] at h
  | j, g :: gs, i :: is, hd, h => by
    obtain ⟨hj, rfl, hd'⟩ := drop_cons hd
    simp only [cayRow, Bool.and_eq_true, Nat.blt_eq] at h
    obtain ⟨⟨hi, hc⟩, hrest⟩ := h
    rw [digit_table hg hj, digit_table hr hi] at hc
    have e := compOK_sound hs (hg _ (List.getElem_mem hj)) (hr _ (List.getElem_mem hi)) hc
    simp only [checkCayRow, Bool.and_eq_true, decide_eq_true_eq]
    exact ⟨⟨hi, (getOp_eq hi).trans e⟩, cayRow_sound hs (j + 1) gs is hd' hrest⟩

theorem cay_sound : ∀ (i : Nat) (ss : List Op) (rows : List (List Nat)),
    ops.drop i = ss → cay (table ops) (table gens) ops.length gens i ss rows = true →
    checkCay ops gens ss rows = true
  | _, [], _, _, _ => rfl
  | _, _ :: _, [], _, h => by simp [cay] at h
  | i, s :: ss, row :: rows, hd, h => by
    obtain ⟨hi, rfl, hd'⟩ := drop_cons hd
    simp only [cay, Bool.and_eq_true] at h
    rw [digit_table hr hi] at h
    simp only [checkCay, Bool.and_eq_true]
    exact ⟨cayRow_sound hr hg (hr _ (List.getElem_mem hi)) 0 gens row rfl h.1,
      cay_sound (i + 1) ss rows hd' h.2⟩

theorem par_sound {rank : List Nat} (hk : ∀ r ∈ rank, r < 1024) :
    ∀ (i : Nat) (ss : List Op) (ps : List (Nat × Nat)),
    ops.drop i = ss → par (table ops) (table gens) ops.length gens.length (pack 1024 rank) i ss ps = true →
    checkParAux ops gens rank i ss ps = true
  | _, [], _, _, _ => rfl
  | _, _ :: _, [], _, h => by simp [par] at h
  | i, s :: ss, (p, j) :: ps, hd, h => by
    obtain ⟨hi, rfl, hd'⟩ := drop_cons hd
    simp only [par, Bool.and_eq_true, Bool.or_eq_true, decide_eq_true_eq, Nat.blt_eq, digit_pack _ hk] at h
    simp only [checkParAux, Bool.and_eq_true, Bool.or_eq_true, decide_eq_true_eq]
    refine ⟨h.1.imp id ?_, par_sound hk (i + 1) ss ps hd' h.2⟩
    rintro ⟨⟨⟨hp, hj⟩, hc⟩, hk⟩
    rw [digit_table hr hp, digit_table hg hj, digit_table hr hi] at hc
    have e := compOK_sound (hr _ (List.getElem_mem hp)) (hg _ (List.getElem_mem hj))
      (hr _ (List.getElem_mem hi)) hc
    rw [getOp_eq hp, List.getD_eq_getElem _ _ hj]
    exact ⟨⟨⟨hp, hj⟩, e⟩, hk⟩

omit hg in
theorem inv_sound : ∀ (i : Nat) (ss : List Op) (ks : List Nat),
    ops.drop i = ss → inv (table ops) ops.length (code Op.one) i ss ks = true →
    checkInv ops ss ks = true
  | _, [], _, _, _ => rfl
  | _, _ :: _, [], _, h => by simp [inv] at h
  | i, s :: ss, k :: ks, hd, h => by
    obtain ⟨hi, rfl, hd'⟩ := drop_cons hd
    simp only [inv, Bool.and_eq_true, Nat.blt_eq] at h
    obtain ⟨⟨hk, hc⟩, hrest⟩ := h
    rw [digit_table hr hi, digit_table hr hk] at hc
    have e := compOK_sound (hr _ (List.getElem_mem hi)) (hr _ (List.getElem_mem hk)) (by decide) hc
    simp only [checkInv, Bool.and_eq_true, decide_eq_true_eq]
    exact ⟨⟨hk, by rw [getOp_eq hk]; exact e.symm⟩, inv_sound (i + 1) ss ks hd' hrest⟩

end Loops

/-! counting with `tally` -/

theorem tally_eq {α : Type} (B : Nat) (f : α → Nat) : ∀ l : List α,
    tally B f l = l.countP (f · == 0) + B * tally B (fun a => f a - 1) (l.filter (f · != 0))
  | [] => rfl
  | a :: as => by
    show B ^ f a + tally B f as = _
    rw [tally_eq B f as, List.countP_cons, List.filter_cons]
    cases h : f a with
    | zero => simp; omega
    | succ j =>
      simp only [bne_iff_ne, ne_eq, Nat.add_one_ne_zero, not_false_eq_true, ↓reduceIte]
      show _ = _ + B * (B ^ (f a - 1) + _)
      rw [h, Nat.add_sub_cancel, Nat.pow_succ, Nat.mul_add, Nat.mul_comm B (B ^ j)]
      simp; omega

/-- peel off digit `0`, the `a` with `f a = 0`; the rest is `B` times the tally of `f - 1` over the others -/
theorem digit_tally {α : Type} {B : Nat} : ∀ (k : Nat) (f : α → Nat) (l : List α), l.length < B →
    digit B (tally B f l) k = l.countP (f · == k)
  | k, f, l, hl => by
    have hc : l.countP (f · == 0) < B := Nat.lt_of_le_of_lt List.countP_le_length hl
    have hB : 0 < B := by omega
    rw [tally_eq]
    cases k with
    | zero =>
      show (_ + B * _) / B ^ 0 % B = _
      rw [Nat.pow_zero, Nat.div_one, Nat.add_mul_mod_self_left, Nat.mod_eq_of_lt hc]
    | succ k =>
      show (_ + B * _) / B ^ (k + 1) % B = _
      rw [Nat.pow_succ, Nat.mul_comm (B ^ k), ← Nat.div_div_eq_div_mul, Nat.add_mul_div_left _ _ hB,
        Nat.div_eq_of_lt hc, Nat.zero_add]
      show digit B _ k = _
      rw [digit_tally k _ _ (Nat.lt_of_le_of_lt (List.length_filter_le _ _) hl), List.countP_filter]
      refine List.countP_congr fun a _ => ?_
      simp only [Bool.and_eq_true, beq_iff_eq, bne_iff_ne]
      omega

theorem keyF_def (a : Op) : keyF a = encR a.r11 + 3 * (encR a.r12 + 3 * (encR a.r13 + 3 * (encR a.r21 +
    3 * (encR a.r22 + 3 * (encR a.r23 + 3 * (encR a.r31 + 3 * (encR a.r32 + 3 * (encR a.r33 + 3 * (encT a.t1 +
    24 * (encT a.t2 + 24 * encT a.t3)))))))))) := by
  unfold keyF
  rfl

theorem keyF_eq {a : Op} (h : a.inRange = true) : keyF a = a.key := by
  obtain ⟨⟨h1, _⟩, ⟨h2, _⟩, ⟨h3, _⟩, ⟨h4, _⟩, ⟨h5, _⟩, ⟨h6, _⟩, ⟨h7, _⟩, ⟨h8, _⟩, ⟨h9, _⟩⟩ := inRange_r h
  obtain ⟨⟨k1, _⟩, ⟨k2, _⟩, ⟨k3, _⟩⟩ := inRange_t h
  rw [keyF_def, Op.key]
  apply Int.ofNat_inj.1
  rw [Int.toNat_of_nonneg (by omega)]
  push_cast
  rw [encR_cast h1, encR_cast h2, encR_cast h3, encR_cast h4, encR_cast h5, encR_cast h6, encR_cast h7,
    encR_cast h8, encR_cast h9, encT_cast k1, encT_cast k2, encT_cast k3]

theorem slot_eq (a : Op) : slot a = keyF a % 65521 := rfl

theorem fastNodup_sound {ops : List Op} (hr : ∀ a ∈ ops, a.inRange = true) (h : fastNodup ops = true) :
    nodupNat (ops.map Op.key) = true := by
  simp only [fastNodup, withVal_eq, Bool.or_eq_true, Bool.and_eq_true, Nat.blt_eq, List.all_eq_true] at h
  refine h.elim (fun ⟨hl, h1⟩ => ?_) id
  -- every residue is met once, so the residues are distinct, and the keys with them
  have hs : (ops.map slot).Nodup := by
    refine List.nodup_iff_count_eq_one.2 fun k hk => ?_
    obtain ⟨a, ha, rfl⟩ := List.mem_map.1 hk
    rw [List.count_eq_countP, List.countP_map, ← Nat.eq_of_beq_eq_true (h1 a ha), digit_tally _ _ _ hl]
    rfl
  have hk : ops.map slot = (ops.map Op.key).map (· % 65521) := by
    rw [List.map_map]
    exact List.map_congr_left fun a ha => by rw [slot_eq, keyF_eq (hr a ha)]; rfl
  exact (nodupNat_iff _).2 (List.Nodup.of_map _ (hk ▸ hs))

theorem rotType_def (a : Op) : rotType a = rotSel
    (encR a.r11 * (encR a.r22 * encR a.r33) + encR a.r12 * (encR a.r23 * encR a.r31) +
      encR a.r13 * (encR a.r21 * encR a.r32) +
      ((encR a.r11 * (encR a.r23 + encR a.r32) + encR a.r23 * encR a.r32) +
       (encR a.r12 * (encR a.r21 + encR a.r33) + encR a.r21 * encR a.r33) +
       (encR a.r13 * (encR a.r22 + encR a.r31) + encR a.r22 * encR a.r31)))
    (encR a.r11 * (encR a.r23 * encR a.r32) + encR a.r12 * (encR a.r21 * encR a.r33) +
      encR a.r13 * (encR a.r22 * encR a.r31) +
      ((encR a.r11 * (encR a.r22 + encR a.r33) + encR a.r22 * encR a.r33) +
       (encR a.r12 * (encR a.r23 + encR a.r31) + encR a.r23 * encR a.r31) +
       (encR a.r13 * (encR a.r21 + encR a.r32) + encR a.r21 * encR a.r32)))
    (encR a.r11 + encR a.r22 + encR a.r33) := by
  unfold rotType pairs
  rfl

theorem rotSel_eq {E O s : Nat} {d t : Int} (hd : (E : Int) - O = d) (hs : (s : Int) = t + 3) :
    (rotSel E O s : Int) = if d = 1 then t + 3 else if d = -1 then t + 11 else 16 := by
  have e : rotSel E O s = if E = O + 1 then s else if E + 1 = O then s + 8 else 16 := by
    simp only [rotSel, cond_eq_ite, Nat.beq_eq, Nat.succ_eq_add_one, Nat.add_eq]
  rw [e]
  split_ifs <;> omega

theorem rotType_eq {a : Op} (h : a.inRange = true) : (rotType a : Int) =
    if a.det = 1 then a.trace + 3 else if a.det = -1 then a.trace + 11 else 16 := by
  obtain ⟨⟨h1, _⟩, ⟨h2, _⟩, ⟨h3, _⟩, ⟨h4, _⟩, ⟨h5, _⟩, ⟨h6, _⟩, ⟨h7, _⟩, ⟨h8, _⟩, ⟨h9, _⟩⟩ := inRange_r h
  rw [rotType_def]
  apply rotSel_eq
  · push_cast
    rw [encR_cast h1, encR_cast h2, encR_cast h3, encR_cast h4, encR_cast h5, encR_cast h6, encR_cast h7,
      encR_cast h8, encR_cast h9, Op.det]
    ring
  · push_cast
    rw [encR_cast h1, encR_cast h5, encR_cast h9, Op.trace]
    ring

theorem trace_bound {a : Op} (h : a.inRange = true) : -3 ≤ a.trace ∧ a.trace ≤ 3 := by
  obtain ⟨h1, -, -, -, h5, -, -, -, h9⟩ := inRange_r h
  rw [Op.trace]
  omega

/-- the entry of `census` for determinant `d = ±1` and trace `t` is a digit of the tally -/
theorem count_rotType {ops : List Op} (hr : ∀ a ∈ ops, a.inRange = true) (hl : ops.length < 1024)
    {d t : Int} {k : Nat} (hk : (k : Int) = if d = 1 then t + 3 else t + 11)
    (hd : d = 1 ∨ d = -1) (ht : -3 ≤ t ∧ t ≤ 3) :
    (ops.filter fun a => a.det == d && a.trace == t).length = digit 1024 (tally 1024 rotType ops) k := by
  rw [digit_tally _ _ _ hl, ← List.countP_eq_length_filter]
  refine List.countP_congr fun a ha => ?_
  have hb := trace_bound (hr a ha)
  have e := rotType_eq (hr a ha)
  simp only [Bool.and_eq_true, beq_iff_eq]
  split_ifs at e hk <;> omega

theorem census_eq {ops : List Op} (hr : ∀ a ∈ ops, a.inRange = true) (hl : ops.length < 1024) :
    census ops = [6, 2, 3, 4, 5, 8, 12, 11, 10, 9].map (digit 1024 (tally 1024 rotType ops)) := by
  simp only [census, List.map_cons, List.map_nil]
  rw [count_rotType hr hl (k := 6) (by decide) (by decide) (by decide),
    count_rotType hr hl (k := 2) (by decide) (by decide) (by decide),
    count_rotType hr hl (k := 3) (by decide) (by decide) (by decide),
    count_rotType hr hl (k := 4) (by decide) (by decide) (by decide),
    count_rotType hr hl (k := 5) (by decide) (by decide) (by decide),
    count_rotType hr hl (k := 8) (by decide) (by decide) (by decide),
    count_rotType hr hl (k := 12) (by decide) (by decide) (by decide),
    count_rotType hr hl (k := 11) (by decide) (by decide) (by decide),
    count_rotType hr hl (k := 10) (by decide) (by decide) (by decide),
    count_rotType hr hl (k := 9) (by decide) (by decide) (by decide)]

theorem fastClass_sound {g : SG} (hr : ∀ a ∈ g.ops, a.inRange = true) (h : fastClass g = true) :
    checkClass g = true := by
  unfold fastClass at h
  unfold checkClass
  split at h
  · next cen sys _ _ _ hc =>
    simp only [withVal_eq, Bool.and_eq_true, Nat.blt_eq, decide_eq_true_eq] at h
    simp only [hc, Bool.and_eq_true, decide_eq_true_eq]
    exact ⟨h.1.1, (census_eq hr h.1.2).trans h.2⟩
  · cases h

theorem encode_ascii : ∀ n < 128, String.utf8EncodeChar (Char.ofNat n) = [UInt8.ofNat n] := by
  decide

theorem flatMap_encode_ascii : ∀ bs : List UInt8, (∀ b ∈ bs, b.toNat < 128) →
    ((bs.map UInt8.toNat).map Char.ofNat).flatMap String.utf8EncodeChar = bs
  | [], _ => rfl
  | b :: bs, h => by
    rw [List.map_cons, List.map_cons, List.flatMap_cons, encode_ascii _ (h b List.mem_cons_self),
      UInt8.ofNat_toNat, flatMap_encode_ascii bs fun b hb => h b (List.mem_cons_of_mem _ hb)]
    rfl

theorem toList_of_ascii {s : String} (h : ∀ n ∈ codes s, n < 128) :
    s.toList = (codes s).map Char.ofNat := by
  have hs : String.ofList ((codes s).map Char.ofNat) = s := by
    rw [← String.toByteArray_inj, String.toByteArray_ofList, List.utf8Encode, codes,
      flatMap_encode_ascii _ fun b hb => h _ (List.mem_map_of_mem hb)]
    exact ByteArray.ext (by rw [List.data_toByteArray, Array.toArray_toList])
  rw [← String.toList_ofList (l := (codes s).map Char.ofNat), hs]

theorem fastCentring_sound {g : SG} (h : fastCentring g = true) : checkCentring g = true := by
  simp only [fastCentring, Bool.and_eq_true, List.all_eq_true, Nat.blt_eq] at h
  obtain ⟨⟨hs, hp⟩, h⟩ := h
  rw [checkCentring, toList_of_ascii hs, toList_of_ascii hp, List.head?_map, List.head?_map]
  revert h
  cases (codes g.short).head? <;> cases (codes g.pdb).head? <;> intro h <;> first | exact h | simp at h

end OpCode

theorem det_comp (a b : Op) : (a.comp b).det = a.det * b.det := by
  simp only [Op.det, Op.comp]; ring

open OpCode in
theorem fastGroup_sound {ops : List Op} {c : Cert} (h : fastGroup ops c = true) :
    checkGroup ops c = true := by
  simp only [fastGroup, withVal_eq, Bool.and_eq_true, List.all_eq_true, inRangeF_eq] at h
  obtain ⟨⟨⟨⟨h1, hr⟩, hg⟩, hnd⟩, ⟨⟨hcay, hrk⟩, hpar⟩, hinv⟩ := h
  have hinv := inv_sound hr 0 ops c.inv rfl hinv
  -- an operation with a right inverse in the list has determinant ±1, the determinant being multiplicative
  have hdet : ∀ a ∈ ops, (decide (a.det = 1) || decide (a.det = -1)) = true := fun a ha => by
    obtain ⟨b, _, hab⟩ := checkInv_spec ops c.inv hinv a ha
    have := det_comp a b
    rw [hab] at this
    simpa using Int.eq_one_or_neg_one_of_mul_eq_one this.symm
  simp only [checkGroup, Bool.and_eq_true, List.all_eq_true]
  exact ⟨⟨⟨⟨⟨⟨h1, hr⟩, fastNodup_sound hr hnd⟩, hdet⟩, cay_sound hr hg 0 ops c.cay rfl hcay⟩,
    par_sound hr hg (by simpa using hrk) 0 ops c.par rfl hpar⟩, hinv⟩

theorem fastSG_sound {g : SG} {c : Cert} (h : fastSG g c = true) : checkSG g c = true := by
  simp only [fastSG, Bool.and_eq_true] at h
  simp only [checkSG, Bool.and_eq_true]
  have hg := fastGroup_sound h.1.1.1
  exact ⟨⟨⟨hg, h.1.1.2⟩, OpCode.fastCentring_sound h.1.2⟩,
    OpCode.fastClass_sound (checkGroup_sound hg).range h.2⟩

end DS

import DS.Model.World
/-!
Lemmas about the object-graph model `DS.Model.World` (property C08).

1. naturality of the CPython list primitives and of `Edit.apply` under `List.map`;
2. naturality of the planner `planG` under a map of the element type (the bridge between the heap
   model and the plain-list specification);
3. the successful runs of the planner as a relation (`Plans`, `planG_ok`): whoever needs to know what an
   operation plans splits on its rows instead of unfolding `planG`;
4. frame lemmas of the heap primitives (`copySome`, `setLats`, `setAtoms`, …);
5. on top of these, the invariants of the heap under `stepFull`: well-formedness `Wf`, the refinement of the
   plain-list specification (`exec_refines`), the lattice invariant `Inv` with its side condition `Safe` /
   `AutoSafe`, what copies and selections share, and duplicate-freedom `NodupInv` under `DupFree`
   (continued for every edit in `DS.Lemmas.WorldAlias`).
-/
namespace DS.World

section Natural
variable {α β : Type} (f : α → β)

theorem pick_map (l : List α) (idxs : List Nat) : pick (l.map f) idxs = (pick l idxs).map f := by
  unfold pick
  rw [List.map_filterMap]
  congr 1
  funext i
  simp

theorem dropIdx_map (idxs : List Nat) (l : List α) (k : Nat) :
    dropIdx idxs (l.map f) k = (dropIdx idxs l k).map f := by
  induction l generalizing k with
  | nil => rfl
  | cons a l ih =>
    simp only [List.map_cons, dropIdx]
    split <;> simp [ih]

theorem setMany_map (l : List α) (is : List Nat) (ys : List α) :
    setMany (l.map f) is (ys.map f) = (setMany l is ys).map f := by
  induction is generalizing l ys with
  | nil => cases ys <;> simp [setMany]
  | cons i is ih =>
    cases ys with
    | nil => simp [setMany]
    | cons y ys => simp only [List.map_cons, setMany, ← List.map_set, ih]

theorem eraseIdx_map (l : List α) (k : Nat) : (l.map f).eraseIdx k = (l.eraseIdx k).map f := by
  induction l generalizing k with
  | nil => rfl
  | cons a l ih => cases k <;> simp [List.eraseIdx, ih]

theorem rep_map (n : Nat) (l : List α) : rep n (l.map f) = (rep n l).map f := by
  induction n with
  | zero => rfl
  | succ n ih => simp [rep, ih]

def mapRes (r : Except Err (List α × Option α)) : Except Err (List β × Option β) :=
  match r with
  | .ok (l, o) => .ok (l.map f, o.map f)
  | .error e => .error e

theorem Edit.apply_map (e : Edit) (old ys : List α) :
    e.apply (old.map f) (ys.map f) = mapRes f (e.apply old ys) := by
  cases e with
  | append => simp only [Edit.apply, mapRes, List.map_append, Option.map_none]
  | insert i =>
    simp only [Edit.apply, mapRes, List.map_append, List.map_take, List.map_drop, List.length_map, Option.map_none]
  | setInt i =>
    simp only [Edit.apply, List.length_map]
    cases normIdx old.length i with
    | none => simp [mapRes]
    | some k =>
      cases ys with
      | nil => simp [mapRes]
      | cons y ys =>
        cases ys with
        | nil => simp [mapRes, List.map_set]
        | cons z zs => simp [mapRes]
  | setSlice sl =>
    simp only [Edit.apply, List.length_map]
    cases sliceAdjust old.length sl with
    | error e => simp [mapRes]
    | ok a =>
      simp only
      split
      · simp [mapRes, List.map_take, List.map_drop]
      · split
        · simp [mapRes]
        · simp [mapRes, setMany_map]
  | replace => rfl
  | delInt i =>
    simp only [Edit.apply, List.length_map]
    cases normIdx old.length i <;> simp [mapRes, eraseIdx_map]
  | delSlice sl =>
    simp only [Edit.apply, List.length_map]
    cases sliceAdjust old.length sl <;> simp [mapRes, dropIdx_map]
  | pop i =>
    simp only [Edit.apply, List.length_map]
    cases normIdx old.length (i.getD (-1)) <;> simp [mapRes, eraseIdx_map]
  | delAt k => simp only [Edit.apply, mapRes, eraseIdx_map, Option.map_none]
  | reverse => simp only [Edit.apply, mapRes, List.map_reverse, Option.map_none]
  | permute idxs => simp only [Edit.apply, mapRes, pick_map, Option.map_none]
  | clear => rfl


/-! ### naturality of the planner -/

def emap {γ δ : Type} (g : γ → δ) : Except Err γ → Except Err δ
  | .ok a => .ok (g a)
  | .error e => .error e

@[simp] theorem emap_ok {γ δ : Type} (g : γ → δ) (a : γ) : emap g (.ok a) = .ok (g a) := rfl
@[simp] theorem emap_error {γ δ : Type} (g : γ → δ) (e : Err) : emap g (.error e : Except Err γ) = .error e := rfl

structure ViewRel (v : View α) (v' : View β) : Prop where
  strus : v'.strus = v.strus.map (Option.map (List.map f))
  pool : v'.pool = v.pool.map f
  lab : ∀ a, v'.lab (f a) = v.lab a

/-- `pre` and `flags` are left free: the plain-list specification reads neither -/
def ActRel : Act α → Act β → Prop
  | .plan p, .plan q => q.tgt = p.tgt ∧ q.inc = p.inc.map f ∧ q.edit = p.edit
  | .retAtom a h, .retAtom b h' => b = f a ∧ h' = h
  | .mkAtom p, .mkAtom p' => p' = p
  | .addNew h p, .addNew h' p' => h' = h ∧ p' = p
  | .setLat h s, .setLat h' s' => h' = h ∧ s' = s
  | .drop h, .drop h' => h' = h
  | .copyShape h xs, .copyShape h' ys => h' = h ∧ ys = xs.map f
  | _, _ => False

def ExRel : Except Err (Act α) → Except Err (Act β) → Prop
  | .ok a, .ok b => ActRel f a b
  | .error e, .error e' => e' = e
  | _, _ => False

variable {f}

theorem atoms_nat {v : View α} {v' : View β} (R : ViewRel f v v') (h : Nat) :
    v'.atoms h = emap (List.map f) (v.atoms h) := by
  simp only [View.atoms, R.strus, List.getElem?_map]
  cases v.strus[h]? with
  | none => rfl
  | some o => cases o <;> rfl

theorem aref_nat {v : View α} {v' : View β} (R : ViewRel f v v') (a : ARef) :
    v'.aref a = emap f (v.aref a) := by
  cases a with
  | pool k =>
    simp only [View.aref, R.pool, List.getElem?_map]
    cases v.pool[k]? <;> rfl
  | mem h i =>
    simp only [View.aref, atoms_nat R]
    cases v.atoms h with
    | error e => rfl
    | ok l =>
      simp only [emap_ok, List.length_map, List.getElem?_map]
      cases normIdx l.length i with
      | none => rfl
      | some k => cases hk : l[k]? <;> simp [hk]

theorem mapE_nat {γ : Type} {g : γ → Except Err α} {g' : γ → Except Err β}
    (hg : ∀ b, g' b = emap f (g b)) (xs : List γ) :
    mapE g' xs = emap (List.map f) (mapE g xs) := by
  induction xs with
  | nil => rfl
  | cons b bs ih =>
    simp only [mapE, hg, ih]
    cases g b with
    | error e => rfl
    | ok a => cases mapE g bs <;> rfl

theorem iter_nat {v : View α} {v' : View β} (R : ViewRel f v v') (it : Iter) :
    v'.iter it = emap (fun p => (p.1.map f, p.2)) (v.iter it) := by
  cases it with
  | list xs => simp only [View.iter, mapE_nat (aref_nat R)]; cases mapE v.aref xs <;> rfl
  | gen xs => simp only [View.iter, mapE_nat (aref_nat R)]; cases mapE v.aref xs <;> rfl
  | stru h => simp only [View.iter, atoms_nat R]; cases v.atoms h <;> rfl
  | tolist h => simp only [View.iter, atoms_nat R]; cases v.atoms h <;> rfl
  | genOf h => simp only [View.iter, atoms_nat R]; cases v.atoms h <;> rfl

theorem findLabel_nat {v : View α} {v' : View β} (R : ViewRel f v v') (l : List α) (p : Nat) :
    findLabel v'.lab (l.map f) p = findLabel v.lab l p := by
  simp only [findLabel, List.map_map]
  have : ((fun a => v'.lab a == p) ∘ f) = (fun a => v.lab a == p) := by
    funext a; simp [R.lab]
  rw [this]

theorem resolveKey_nat {v : View α} {v' : View β} (R : ViewRel f v v') (l : List α) (k : Key) :
    resolveKey v'.lab (l.map f) k = resolveKey v.lab l k := by
  cases k with
  | int i => rfl
  | label p => simp only [resolveKey, findLabel_nat R]

theorem planIndex_nat {v : View α} {v' : View β} (R : ViewRel f v v') (h : Nat) (old : List α) (ix : Index) :
    ExRel f (planIndex v h old ix) (planIndex v' h (old.map f) ix) := by
  -- a selection of the images is the image of the selection
  have sel (idxs : List Nat) :
      ExRel f (.ok (selPlan h (pick old idxs))) (.ok (selPlan h (pick (old.map f) idxs))) :=
    ⟨rfl, pick_map f old idxs, rfl⟩
  have keys (ks : List Key) : mapE (resolveKey v'.lab (old.map f)) ks = mapE (resolveKey v.lab old) ks :=
    congrArg (mapE · ks) (funext (resolveKey_nat R old))
  cases ix with
  | int i =>
    simp only [planIndex, List.length_map, List.getElem?_map]
    rcases normIdx old.length i with _ | k; · exact rfl
    simp only
    cases old[k]?
    · exact rfl
    · exact And.intro rfl rfl
  | label p =>
    simp only [planIndex, findLabel_nat R, List.getElem?_map]
    rcases findLabel v.lab old p with e | k; · exact rfl
    simp only
    cases old[k]?
    · exact rfl
    · exact And.intro rfl rfl
  | slice sl =>
    simp only [planIndex, List.length_map]
    cases sliceAdjust old.length sl; · exact rfl
    exact sel _
  | arr is =>
    simp only [planIndex, List.length_map]
    cases mapE (normIdxE old.length) is; · exact rfl
    exact sel _
  | mask bs =>
    simp only [planIndex, List.length_map]
    split; · exact rfl
    exact sel _
  | tuple ks =>
    simp only [planIndex, List.length_map, keys]
    split; · exact rfl
    cases mapE (resolveKey v.lab old) ks; · exact rfl
    simp only
    cases mapE (normIdxE old.length) _; · exact rfl
    exact sel _
  | keys ks =>
    simp only [planIndex, List.length_map, keys]
    cases mapE (resolveKey v.lab old) ks; · exact rfl
    simp only
    cases mapE (normIdxE old.length) _; · exact rfl
    exact sel _


/-- the hypothesis under which removal by identity (`-`, `-=`, `remove`) is the same as removal by
payload: within the operands, equal images under `f` come from equal elements -/
def SubAgree (f : α → β) (v : View α) : Op → Prop
  | .sub h it => ∀ old xs b, v.atoms h = .ok old → v.iter it = .ok (xs, b) → ∀ a ∈ old, f a ∈ xs.map f → a ∈ xs
  | .isub h it => ∀ old xs b, v.atoms h = .ok old → v.iter it = .ok (xs, b) → ∀ a ∈ old, f a ∈ xs.map f → a ∈ xs
  | .remove h r => ∀ old x, v.atoms h = .ok old → v.aref r = .ok x → ∀ y ∈ old, f y = f x → y = x
  | _ => True

theorem filter_notin_map [DecidableEq α] [DecidableEq β] (old xs : List α)
    (hag : ∀ a ∈ old, f a ∈ xs.map f → a ∈ xs) :
    (old.map f).filter (fun b => decide (b ∉ xs.map f)) = (old.filter (fun a => decide (a ∉ xs))).map f := by
  rw [List.filter_map]
  congr 1
  apply List.filter_congr
  intro a ha
  simp only [Function.comp, decide_eq_decide]
  constructor
  · intro h1 h2; exact h1 (List.mem_map_of_mem h2)
  · intro h1 h2; exact h1 (hag a ha h2)

theorem idxOfE_map [DecidableEq α] [DecidableEq β] (x : α) (old : List α) (k : Nat)
    (hinj : ∀ y ∈ old, f y = f x → y = x) :
    idxOfE (f x) (old.map f) k = idxOfE x old k := by
  induction old generalizing k with
  | nil => rfl
  | cons a l ih =>
    simp only [List.map_cons, idxOfE]
    by_cases h : a = x
    · simp [h]
    · have h' : f a ≠ f x := fun e => h (hinj a (by simp) e)
      simp only [h, h', if_false]
      exact ih _ (fun y hy => hinj y (List.mem_cons_of_mem _ hy))

theorem checkLat_nat {v : View α} {v' : View β} (R : ViewRel f v v') (lat : Option LatSrc) :
    checkLat v' lat = checkLat v lat := by
  cases lat with
  | none => rfl
  | some l =>
    cases l with
    | fresh => rfl
    | ofStru h' =>
      simp only [checkLat, atoms_nat R]
      cases v.atoms h' <;> rfl

theorem planG_nat [DecidableEq α] [DecidableEq β] {v : View α} {v' : View β} (R : ViewRel f v v')
    (op : Op) (hag : SubAgree f v op) : ExRel f (planG v op) (planG v' op) := by
  -- in every arm: resolve the arguments on the `α` side; on the `β` side they are the images
  cases op with
  | mkAtom p => exact rfl
  | mkStru => exact ⟨rfl, rfl, rfl⟩
  | addNew h p =>
    simp only [planG, atoms_nat R]
    cases v.atoms h; · exact rfl
    exact ⟨rfl, rfl⟩
  | drop h =>
    simp only [planG, atoms_nat R]
    cases v.atoms h <;> exact rfl
  | delitem h i | delslice h sl | copy h | deepcopy h | pop h i | reverse h | clear h =>
    simp only [planG, atoms_nat R]
    cases v.atoms h; · exact rfl
    exact ⟨rfl, rfl, rfl⟩
  | append h a c | insert h i a c | setitem h i a c =>
    simp only [planG, atoms_nat R, aref_nat R]
    cases v.atoms h; · exact rfl
    cases v.aref a; · exact rfl
    exact ⟨rfl, rfl, rfl⟩
  | extend h it c | iadd h it =>
    simp only [planG, atoms_nat R, iter_nat R]
    cases v.atoms h; · exact rfl
    cases v.iter it; · exact rfl
    exact ⟨rfl, rfl, rfl⟩
  | add h it =>
    simp only [planG, atoms_nat R, iter_nat R]
    cases v.atoms h; · exact rfl
    cases v.iter it; · exact rfl
    exact ⟨rfl, (List.map_append ..).symm, rfl⟩
  | getitem h ix =>
    simp only [planG, atoms_nat R]
    cases v.atoms h; · exact rfl
    exact planIndex_nat R h _ ix
  | setslice h sl it c =>
    simp only [planG, atoms_nat R, iter_nat R]
    cases v.atoms h; · exact rfl
    cases v.iter it; · exact rfl
    simp only [emap_ok, List.length_map]
    cases sliceAdjust _ sl; · exact rfl
    exact ⟨rfl, rfl, rfl⟩
  | sub h it | isub h it =>
    simp only [planG, atoms_nat R, iter_nat R]
    rcases h1 : v.atoms h with e | old; · exact rfl
    rcases h2 : v.iter it with e | ⟨xs, b⟩; · exact rfl
    exact ⟨rfl, filter_notin_map old xs (hag old xs b h1 h2), rfl⟩
  | mul h n =>
    simp only [planG, atoms_nat R]
    cases v.atoms h; · exact rfl
    exact ⟨rfl, rep_map .., rfl⟩
  | imul h n =>
    simp only [planG, atoms_nat R]
    cases v.atoms h; · exact rfl
    simp only [emap_ok]
    split
    · exact ⟨rfl, rfl, rfl⟩
    · exact ⟨rfl, rep_map .., rfl⟩
  | pickle h proto =>
    simp only [planG, atoms_nat R]
    cases v.atoms h; · exact rfl
    simp only [emap_ok]
    split
    · exact ⟨rfl, rfl, rfl⟩
    · exact ⟨rfl, rfl⟩
  | setLat h src =>
    simp only [planG, atoms_nat R]
    cases v.atoms h; · exact rfl
    cases src with
    | fresh => exact ⟨rfl, rfl⟩
    | ofStru h' =>
      simp only [emap_ok]
      cases v.atoms h'
      · exact rfl
      · exact ⟨rfl, rfl⟩
  | remove h a =>
    simp only [planG, atoms_nat R, aref_nat R]
    rcases h1 : v.atoms h with e | old; · exact rfl
    rcases h2 : v.aref a with e | x; · exact rfl
    simp only [emap_ok, idxOfE_map x old 0 (hag old x h1 h2)]
    cases idxOfE x old 0
    · exact rfl
    · exact ⟨rfl, rfl, rfl⟩
  | sort h =>
    simp only [planG, atoms_nat R]
    cases v.atoms h; · exact rfl
    simp only [emap_ok, List.map_map]
    rw [show v'.lab ∘ f = v.lab from funext R.lab]
    exact ⟨rfl, rfl, rfl⟩
  | ctor src lat =>
    cases src with
    | none =>
      simp only [planG, checkLat_nat R]
      cases checkLat v lat
      · exact rfl
      · exact ⟨rfl, rfl, rfl⟩
    | some it =>
      simp only [planG, iter_nat R, checkLat_nat R]
      cases v.iter it; · exact rfl
      cases checkLat v lat
      · exact rfl
      · exact ⟨rfl, rfl, rfl⟩

end Natural

/-! ### what the planner returns -/

section Planned
variable {α : Type}

theorem planIndex_ok {v : View α} {h : Nat} {old : List α} {ix : Index} {act : Act α}
    (hp : planIndex v h old ix = .ok act) :
    (∃ (k : Nat) (a : α), old[k]? = some a ∧ act = .retAtom a h) ∨ ∃ idxs, act = selPlan h (pick old idxs) := by
  cases ix with
  | int i =>
    simp only [planIndex] at hp
    split at hp
    · split at hp
      · cases hp; exact .inl ⟨_, _, ‹_›, rfl⟩
      · cases hp
    · cases hp
  | label p =>
    simp only [planIndex] at hp
    split at hp
    · cases hp
    · split at hp
      · cases hp; exact .inl ⟨_, _, ‹_›, rfl⟩
      · cases hp
  | slice sl =>
    simp only [planIndex] at hp
    split at hp <;> cases hp
    exact .inr ⟨_, rfl⟩
  | arr is =>
    simp only [planIndex] at hp
    split at hp <;> cases hp
    exact .inr ⟨_, rfl⟩
  | mask bs =>
    simp only [planIndex] at hp
    split at hp <;> cases hp
    exact .inr ⟨_, rfl⟩
  | tuple ks =>
    simp only [planIndex] at hp
    split at hp
    · cases hp
    · split at hp
      · cases hp
      · split at hp <;> cases hp
        exact .inr ⟨_, rfl⟩
  | keys ks =>
    simp only [planIndex] at hp
    split at hp
    · cases hp
    · split at hp <;> cases hp
      exact .inr ⟨_, rfl⟩

theorem iter_stru {v : View α} {h : Nat} {xs : List α} {b : Bool} (hi : v.iter (.stru h) = .ok (xs, b)) :
    v.atoms h = .ok xs ∧ b = true := by
  simp only [View.iter] at hi
  rcases h1 : v.atoms h with e | l <;> simp only [h1] at hi <;> cases hi
  exact ⟨rfl, rfl⟩

theorem checkLat_ok {v : View α} {lat : Option LatSrc} {L : LatSrc} (h : checkLat v lat = .ok L) :
    L = lat.getD .fresh := by
  rcases lat with _ | _ | h'
  · cases h; rfl
  · cases h; rfl
  · simp only [checkLat] at h
    split at h <;> cases h
    rfl

/-- The successful runs of the planner: one row for each arm of `planG` (two where the arm branches), with the
lookups that succeeded and the action returned.  The fields of a plan are `⟨tgt, pre, inc, flags, edit⟩`. -/
inductive Plans [DecidableEq α] (v : View α) : Op → Act α → Prop
  | mkAtom : Plans v (.mkAtom p) (.mkAtom p)
  | mkStru : Plans v .mkStru (.plan ⟨.new .fresh, none, [], [], .replace⟩)
  | addNew (h1 : v.atoms h = .ok old) : Plans v (.addNew h p) (.addNew h p)
  | append (h1 : v.atoms h = .ok old) (h2 : v.aref a = .ok x) :
      Plans v (.append h a c) (.plan ⟨.old h, none, [x], [decide (c ≠ .no)], .append⟩)
  | insert (h1 : v.atoms h = .ok old) (h2 : v.aref a = .ok x) :
      Plans v (.insert h i a c) (.plan ⟨.old h, none, [x], [decide (c ≠ .no)], .insert i⟩)
  | extend (h1 : v.atoms h = .ok old) (h2 : v.iter it = .ok (xs, isS)) :
      Plans v (.extend h it c) (.plan ⟨.old h, none, xs, copyFlags c isS old xs, .append⟩)
  | getitem (h1 : v.atoms h = .ok old) (h2 : planIndex v h old ix = .ok act) : Plans v (.getitem h ix) act
  | setitem (h1 : v.atoms h = .ok old) (h2 : v.aref a = .ok x) :
      Plans v (.setitem h i a c) (.plan ⟨.old h, none, [x], [c], .setInt i⟩)
  | setslice (h1 : v.atoms h = .ok old) (h2 : v.iter it = .ok (xs, isS))
      (h3 : sliceAdjust old.length sl = .ok a) :
      Plans v (.setslice h sl it c) (.plan ⟨.old h, none, xs,
        if c then xs.map (fun x => decide (x ∉ pick old (sliceIdx a))) else allFalse xs, .setSlice sl⟩)
  | delitem (h1 : v.atoms h = .ok old) : Plans v (.delitem h i) (.plan ⟨.old h, none, [], [], .delInt i⟩)
  | delslice (h1 : v.atoms h = .ok old) : Plans v (.delslice h sl) (.plan ⟨.old h, none, [], [], .delSlice sl⟩)
  | add (h1 : v.atoms h = .ok old) (h2 : v.iter it = .ok (xs, isS)) :
      Plans v (.add h it) (.plan ⟨.new .fresh, none, old ++ xs, allTrue (old ++ xs), .replace⟩)
  | iadd (h1 : v.atoms h = .ok old) (h2 : v.iter it = .ok (xs, isS)) :
      Plans v (.iadd h it) (.plan ⟨.old h, none, xs, allTrue xs, .append⟩)
  | sub (h1 : v.atoms h = .ok old) (h2 : v.iter it = .ok (xs, isS)) :
      Plans v (.sub h it) (.plan ⟨.new .fresh, some (h, old.filter (fun a => decide (a ∉ xs))),
        old.filter (fun a => decide (a ∉ xs)), allTrue (old.filter (fun a => decide (a ∉ xs))), .replace⟩)
  | isub (h1 : v.atoms h = .ok old) (h2 : v.iter it = .ok (xs, isS)) :
      Plans v (.isub h it) (.plan ⟨.old h, none, old.filter (fun a => decide (a ∉ xs)),
        allFalse (old.filter (fun a => decide (a ∉ xs))), .replace⟩)
  | mul (h1 : v.atoms h = .ok old) :
      Plans v (.mul h n) (.plan ⟨.new .fresh, some (h, []), rep n.toNat old, allTrue (rep n.toNat old), .replace⟩)
  | imulClear (h1 : v.atoms h = .ok old) (hn : n ≤ 0) : Plans v (.imul h n) (.plan ⟨.old h, none, [], [], .replace⟩)
  | imulRep (h1 : v.atoms h = .ok old) (hn : ¬ n ≤ 0) :
      Plans v (.imul h n) (.plan ⟨.old h, none, rep (n - 1).toNat old, allTrue (rep (n - 1).toNat old), .append⟩)
  | copy (h1 : v.atoms h = .ok old) : Plans v (.copy h) (.plan ⟨.new .fresh, none, old, allTrue old, .replace⟩)
  | pickle (h1 : v.atoms h = .ok old) (hk : 2 ≤ proto) :
      Plans v (.pickle h proto) (.plan ⟨.new .fresh, none, old, allTrue old, .replace⟩)
  | pickleShape (h1 : v.atoms h = .ok old) (hk : ¬ 2 ≤ proto) : Plans v (.pickle h proto) (.copyShape h old)
  | deepcopy (h1 : v.atoms h = .ok old) : Plans v (.deepcopy h) (.plan ⟨.new .fresh, none, old, allTrue old, .replace⟩)
  | setLatFresh (h1 : v.atoms h = .ok old) : Plans v (.setLat h .fresh) (.setLat h .fresh)
  | setLatOf (h1 : v.atoms h = .ok old) (h2 : v.atoms h' = .ok old') :
      Plans v (.setLat h (.ofStru h')) (.setLat h (.ofStru h'))
  | pop (h1 : v.atoms h = .ok old) : Plans v (.pop h i) (.plan ⟨.old h, none, [], [], .pop i⟩)
  | remove (h1 : v.atoms h = .ok old) (h2 : v.aref a = .ok x) (h3 : idxOfE x old 0 = .ok k) :
      Plans v (.remove h a) (.plan ⟨.old h, none, [], [], .delAt k⟩)
  | reverse (h1 : v.atoms h = .ok old) : Plans v (.reverse h) (.plan ⟨.old h, none, [], [], .reverse⟩)
  | sort (h1 : v.atoms h = .ok old) :
      Plans v (.sort h) (.plan ⟨.old h, none, [], [], .permute (sortIdx (old.map v.lab))⟩)
  | clear (h1 : v.atoms h = .ok old) : Plans v (.clear h) (.plan ⟨.old h, none, [], [], .clear⟩)
  | drop (h1 : v.atoms h = .ok old) : Plans v (.drop h) (.drop h)
  | ctorEmpty (h3 : checkLat v lat = .ok L) : Plans v (.ctor none lat) (.plan ⟨.new L, none, [], [], .replace⟩)
  | ctorFrom (h2 : v.iter it = .ok (xs, isS)) (h3 : checkLat v lat = .ok L) :
      Plans v (.ctor (some it) lat) (.plan ⟨.new L, none, xs, copyFlags .dflt isS [] xs, .replace⟩)

theorem planG_ok [DecidableEq α] {v : View α} {op : Op} {act : Act α} (hp : planG v op = .ok act) : Plans v op act := by
  -- arm by arm: an error in a lookup contradicts `hp`; otherwise the arm returns what its row says
  revert hp
  cases op with
  | mkAtom p | mkStru => rintro ⟨⟩; constructor
  | addNew h _ | delitem h _ | delslice h _ | mul h _ | copy h | deepcopy h | pop h _ | reverse h | sort h | clear h | drop h =>
    simp only [planG]
    rcases h1 : v.atoms h with e | old; · nofun
    rintro ⟨⟩
    constructor <;> assumption
  | append h a _ | insert h _ a _ | setitem h _ a _ =>
    simp only [planG]
    rcases h1 : v.atoms h with e | old; · nofun
    rcases h2 : v.aref a with e | x; · nofun
    rintro ⟨⟩
    constructor <;> assumption
  | extend h it _ | add h it | iadd h it | sub h it | isub h it =>
    simp only [planG]
    rcases h1 : v.atoms h with e | old; · nofun
    rcases h2 : v.iter it with e | ⟨xs, isS⟩; · nofun
    rintro ⟨⟩
    constructor <;> assumption
  | getitem h ix =>
    simp only [planG]
    rcases h1 : v.atoms h with e | old; · nofun
    exact .getitem h1
  | setslice h sl it c =>
    simp only [planG]
    rcases h1 : v.atoms h with e | old; · nofun
    rcases h2 : v.iter it with e | ⟨xs, isS⟩; · nofun
    simp only
    rcases h3 : sliceAdjust old.length sl with e | a; · nofun
    rintro ⟨⟩
    exact .setslice h1 h2 h3
  | imul h n =>
    simp only [planG]
    rcases h1 : v.atoms h with e | old; · nofun
    simp only
    split <;> rintro ⟨⟩
    · exact .imulClear h1 ‹_›
    · exact .imulRep h1 ‹_›
  | pickle h proto =>
    simp only [planG]
    rcases h1 : v.atoms h with e | old; · nofun
    simp only
    split <;> rintro ⟨⟩
    · exact .pickle h1 ‹_›
    · exact .pickleShape h1 ‹_›
  | setLat h src =>
    simp only [planG]
    rcases h1 : v.atoms h with e | old; · nofun
    cases src with
    | fresh => rintro ⟨⟩; exact .setLatFresh h1
    | ofStru h' =>
      simp only
      rcases h2 : v.atoms h' with e | old'; · nofun
      rintro ⟨⟩; exact .setLatOf h1 h2
  | remove h a =>
    simp only [planG]
    rcases h1 : v.atoms h with e | old; · nofun
    rcases h2 : v.aref a with e | x; · nofun
    simp only
    rcases h3 : idxOfE x old 0 with e | k; · nofun
    rintro ⟨⟩
    exact .remove h1 h2 h3
  | ctor src lat =>
    cases src with
    | none =>
      simp only [planG]
      rcases h3 : checkLat v lat with e | L; · nofun
      rintro ⟨⟩; exact .ctorEmpty h3
    | some it =>
      simp only [planG]
      rcases h2 : v.iter it with e | ⟨xs, isS⟩; · nofun
      simp only
      rcases h3 : checkLat v lat with e | L; · nofun
      rintro ⟨⟩; exact .ctorFrom h2 h3

end Planned

/-! ### the elements of a plan come from the view -/

section Origin
variable {α : Type} (P : α → Prop)

/-- the incoming elements of an action (`inc` of a plan, the list of a `copyShape`) all satisfy `P` -/
def ActAll : Act α → Prop
  | .plan p => ∀ x ∈ p.inc, P x
  | .copyShape _ xs => ∀ x ∈ xs, P x
  | _ => True

def ViewAll (v : View α) : Prop :=
  (∀ l, some l ∈ v.strus → ∀ a ∈ l, P a) ∧ (∀ a ∈ v.pool, P a)

variable {P}

theorem pick_subset (l : List α) (idxs : List Nat) : ∀ a ∈ pick l idxs, a ∈ l := by
  intro a ha
  obtain ⟨i, _, hi⟩ := List.mem_filterMap.mp ha
  exact List.mem_of_getElem? hi

theorem rep_subset (n : Nat) (l : List α) : ∀ a ∈ rep n l, a ∈ l := by
  induction n with
  | zero => nofun
  | succ n ih => exact fun a ha => (List.mem_append.mp ha).elim id (ih a)

theorem atoms_all {v : View α} (hv : ViewAll P v) {h : Nat} {l : List α} (hl : v.atoms h = .ok l) :
    ∀ a ∈ l, P a := by
  simp only [View.atoms] at hl
  split at hl
  · rename_i l' heq
    cases hl
    exact hv.1 l (List.mem_of_getElem? heq)
  · cases hl

theorem aref_all {v : View α} (hv : ViewAll P v) {r : ARef} {x : α} (hx : v.aref r = .ok x) : P x := by
  cases r with
  | pool k =>
    simp only [View.aref] at hx
    split at hx
    · rename_i a heq; cases hx; exact hv.2 _ (List.mem_of_getElem? heq)
    · cases hx
  | mem h i =>
    simp only [View.aref] at hx
    rcases hl : v.atoms h with e | l <;> simp only [hl] at hx
    · cases hx
    · split at hx
      · cases hx
      · split at hx
        · rename_i a heq; cases hx; exact atoms_all hv hl _ (List.mem_of_getElem? heq)
        · cases hx

theorem mapE_all {γ : Type} {g : γ → Except Err α} (hg : ∀ b x, g b = .ok x → P x) {bs : List γ} {xs : List α}
    (h : mapE g bs = .ok xs) : ∀ x ∈ xs, P x := by
  induction bs generalizing xs with
  | nil => cases h; nofun
  | cons b bs ih =>
    simp only [mapE] at h
    rcases ha : g b with e | a <;> simp only [ha] at h
    · cases h
    · rcases has : mapE g bs with e | as <;> simp only [has] at h <;> cases h
      exact List.forall_mem_cons.mpr ⟨hg b a ha, ih has⟩

theorem iter_all {v : View α} (hv : ViewAll P v) {it : Iter} {xs : List α} {b : Bool}
    (h : v.iter it = .ok (xs, b)) : ∀ x ∈ xs, P x := by
  cases it with
  | list rs | gen rs =>
    simp only [View.iter] at h
    rcases hl : mapE v.aref rs with e | l <;> simp only [hl] at h <;> cases h
    exact mapE_all (fun _ _ => aref_all hv) hl
  | stru h' | tolist h' | genOf h' =>
    simp only [View.iter] at h
    rcases hl : v.atoms h' with e | l <;> simp only [hl] at h <;> cases h
    exact atoms_all hv hl

theorem planG_all [DecidableEq α] {v : View α} (hv : ViewAll P v) {op : Op} {act : Act α}
    (hp : planG v op = .ok act) : ActAll P act := by
  cases planG_ok hp with
  | mkAtom | addNew _ | setLatFresh _ | setLatOf _ _ | drop _ => trivial
  | mkStru | delitem _ | delslice _ | imulClear _ _ | pop _ | remove _ _ _ | reverse _ | sort _ | clear _ | ctorEmpty _ => nofun
  | append _ h2 | insert _ h2 | setitem _ h2 => exact List.forall_mem_singleton.mpr (aref_all hv h2)
  | extend _ h2 | setslice _ h2 _ | iadd _ h2 | ctorFrom h2 _ => exact iter_all hv h2
  | add h1 h2 => exact fun x hx => (List.mem_append.mp hx).elim (atoms_all hv h1 x) (iter_all hv h2 x)
  | sub h1 _ | isub h1 _ => exact fun x hx => atoms_all hv h1 x (List.mem_filter.mp hx).1
  | mul h1 | imulRep h1 _ => exact fun x hx => atoms_all hv h1 x (rep_subset _ _ x hx)
  | copy h1 | pickle h1 _ | pickleShape h1 _ | deepcopy h1 => exact atoms_all hv h1
  | getitem h1 h2 =>
    rcases planIndex_ok h2 with ⟨k, a, _, rfl⟩ | ⟨idxs, rfl⟩
    · trivial
    · exact fun x hx => atoms_all hv h1 x (pick_subset _ _ x hx)
end Origin

/-! ### an edit only rearranges the old members and the incoming elements -/

section Subset
variable {α : Type}

theorem dropIdx_sublist (idxs : List Nat) (l : List α) (k : Nat) : (dropIdx idxs l k).Sublist l := by
  induction l generalizing k with
  | nil => simp [dropIdx]
  | cons b l ih =>
    simp only [dropIdx]
    split
    · exact List.Sublist.cons _ (ih _)
    · exact List.Sublist.cons_cons _ (ih _)

theorem take_drop_sublist (l : List α) (a b : Nat) (hab : a ≤ b) : (l.take a ++ l.drop b).Sublist l := by
  have h1 : l = l.take a ++ l.drop a := (List.take_append_drop a l).symm
  have h2 : (l.drop b).Sublist (l.drop a) := by
    have : l.drop b = (l.drop a).drop (b - a) := by rw [List.drop_drop]; congr 1; omega
    rw [this]; exact List.drop_sublist _ _
  calc (l.take a ++ l.drop b).Sublist (l.take a ++ l.drop a) := List.Sublist.append_left h2 _
    _ = l := h1.symm

theorem setMany_subset (l : List α) (is : List Nat) (ys : List α) :
    ∀ a ∈ setMany l is ys, a ∈ l ∨ a ∈ ys := by
  induction is generalizing l ys with
  | nil => intro a ha; cases ys <;> simp_all [setMany]
  | cons i is ih =>
    cases ys with
    | nil => intro a ha; simp_all [setMany]
    | cons y ys =>
      intro a ha
      simp only [setMany] at ha
      rcases ih _ _ a ha with h | h
      · rcases List.mem_or_eq_of_mem_set h with h' | h'
        · exact Or.inl h'
        · exact Or.inr (by simp [h'])
      · exact Or.inr (by simp [h])

/-- the old members that stay in place when an edit inserts new elements -/
def remain : Edit → List α → List α
  | .append, old => old
  | .insert _, old => old
  | .setInt i, old => match normIdx old.length i with
    | some k => old.eraseIdx k
    | none => old
  | .setSlice sl, old => match sliceAdjust old.length sl with
    | .ok a => old.take a.1.toNat ++ old.drop (max a.2.1 a.1).toNat
    | .error _ => old
  | .replace, _ => []
  | _, old => old

/-- … **exact** also for an extended slice (`remain` describes the contiguous case only): the members
at the positions that `s[i:j:k] = …` does not address -/
def remainX : Edit → List α → List α
  | .setSlice sl, old => match sliceAdjust old.length sl with
    | .ok a => if a.2.2 = 1 then old.take a.1.toNat ++ old.drop (max a.2.1 a.1).toNat
               else dropIdx (sliceIdx a) old 0
    | .error _ => old
  | e, old => remain e old

theorem normIdx_lt {n : Nat} {i : Int} {k : Nat} (h : normIdx n i = some k) : k < n := by
  unfold normIdx at h
  split at h
  · split at h
    · cases h; omega
    · cases h
  · split at h
    · cases h; omega
    · cases h

/-- what a successful edit does to the list: it puts the incoming elements between two parts of the
old list (together the members that stay, `remainX`), or keeps a sublist, or reverses, or picks by
position, or assigns to the positions of an extended slice.  Only `pop` returns something, a member. -/
theorem Edit.apply_shape {e : Edit} {old ys new : List α} {ret : Option α}
    (h : e.apply old ys = .ok (new, ret)) :
    (∀ x, ret = some x → x ∈ old) ∧
    ((∃ a c, new = a ++ ys ++ c ∧ remainX e old = a ++ c ∧ (a ++ c).Sublist old) ∨
     new.Sublist old ∨ new = old.reverse ∨ (∃ idxs, e = .permute idxs ∧ new = pick old idxs) ∨
     (∃ sl a, e = .setSlice sl ∧ a.2.2 ≠ 1 ∧ (sliceIdx a).length = ys.length ∧
        new = setMany old (sliceIdx a) ys ∧ remainX e old = dropIdx (sliceIdx a) old 0)) := by
  cases e with
  | append =>
    cases h
    exact ⟨nofun, .inl ⟨old, [], (List.append_nil _).symm, (List.append_nil _).symm,
      by rw [List.append_nil]; exact List.Sublist.refl _⟩⟩
  | insert i =>
    cases h
    exact ⟨nofun, .inl ⟨_, _, rfl, (List.take_append_drop _ old).symm,
      by rw [List.take_append_drop]; exact List.Sublist.refl _⟩⟩
  | setInt i =>
    simp only [Edit.apply] at h
    rcases hk : normIdx old.length i with _ | k
    · simp [hk] at h
    · rcases ys with _ | ⟨y, _ | ⟨z, zs⟩⟩
      · simp [hk] at h
      · simp only [hk, Except.ok.injEq, Prod.mk.injEq] at h
        obtain ⟨rfl, rfl⟩ := h
        refine ⟨nofun, .inl ⟨old.take k, old.drop (k + 1), ?_, ?_, take_drop_sublist old k (k + 1) (Nat.le_succ k)⟩⟩
        · rw [List.set_eq_take_append_cons_drop, if_pos (normIdx_lt hk)]; simp
        · simp only [remainX, remain, hk, List.eraseIdx_eq_take_drop_succ]
      · simp [hk] at h
  | setSlice sl =>
    simp only [Edit.apply] at h
    rcases ha : sliceAdjust old.length sl with e | a
    · simp [ha] at h
    · simp only [ha] at h
      by_cases h1 : a.2.2 = 1
      · simp only [h1, if_true, Except.ok.injEq, Prod.mk.injEq] at h
        obtain ⟨rfl, rfl⟩ := h
        refine ⟨nofun, .inl ⟨_, _, rfl, by simp only [remainX, ha, h1, if_true], take_drop_sublist old _ _ ?_⟩⟩
        have : a.1 ≤ max a.2.1 a.1 := Int.le_max_right _ _
        omega
      · simp only [h1, if_false] at h
        split at h
        · cases h
        · rename_i hl
          cases h
          exact ⟨nofun, .inr (.inr (.inr (.inr ⟨sl, a, rfl, h1, by simpa using hl, rfl,
            by simp only [remainX, ha, h1, if_false]⟩)))⟩
  | replace =>
    cases h
    exact ⟨nofun, .inl ⟨[], [], (List.append_nil _).symm, rfl, List.nil_sublist _⟩⟩
  | delInt i =>
    simp only [Edit.apply] at h
    split at h
    · cases h; exact ⟨nofun, .inr (.inl (List.eraseIdx_sublist _ _))⟩
    · cases h
  | delSlice sl =>
    simp only [Edit.apply] at h
    split at h
    · cases h
    · cases h; exact ⟨nofun, .inr (.inl (dropIdx_sublist _ _ _))⟩
  | pop i =>
    simp only [Edit.apply] at h
    split at h
    · cases h; exact ⟨fun x hx => List.mem_of_getElem? hx, .inr (.inl (List.eraseIdx_sublist _ _))⟩
    · cases h
  | delAt k => cases h; exact ⟨nofun, .inr (.inl (List.eraseIdx_sublist _ _))⟩
  | reverse => cases h; exact ⟨nofun, .inr (.inr (.inl rfl))⟩
  | permute idxs => cases h; exact ⟨nofun, .inr (.inr (.inr (.inl ⟨idxs, rfl, rfl⟩)))⟩
  | clear => cases h; exact ⟨nofun, .inr (.inl (List.nil_sublist _))⟩

theorem Edit.apply_subset {e : Edit} {old ys new : List α} {ret : Option α}
    (h : e.apply old ys = .ok (new, ret)) :
    (∀ a ∈ new, a ∈ old ∨ a ∈ ys) ∧ (∀ a, ret = some a → a ∈ old) := by
  obtain ⟨hret, hs⟩ := Edit.apply_shape h
  refine ⟨fun x hx => ?_, hret⟩
  rcases hs with ⟨a, c, rfl, _, hsub⟩ | hsub | rfl | ⟨idxs, _, rfl⟩ | ⟨sl, a, _, _, _, rfl, _⟩
  · simp only [List.mem_append] at hx
    rcases hx with (hx | hx) | hx
    · exact .inl (hsub.subset (List.mem_append_left _ hx))
    · exact .inr hx
    · exact .inl (hsub.subset (List.mem_append_right _ hx))
  · exact .inl (hsub.subset hx)
  · exact .inl (List.mem_reverse.mp hx)
  · exact .inl (pick_subset _ _ x hx)
  · exact setMany_subset _ _ _ x hx

end Subset

/-! ### the heap primitives -/

theorem updAt_map {γ δ : Type} (F : γ → δ) (g : γ → γ) (G : δ → δ) (hFG : ∀ s, F (g s) = G (F s))
    (l : List γ) (k : Nat) : (updAt l k g).map F = updAt (l.map F) k G := by
  induction l generalizing k with
  | nil => rfl
  | cons a l ih => cases k <;> simp [updAt, hFG, ih]

theorem updAt_length {γ : Type} (l : List γ) (k : Nat) (g : γ → γ) : (updAt l k g).length = l.length := by
  induction l generalizing k with
  | nil => rfl
  | cons a l ih => cases k <;> simp [updAt, ih]

theorem updAt_id {γ : Type} (l : List γ) (k : Nat) : updAt l k (fun x => x) = l := by
  induction l generalizing k with
  | nil => rfl
  | cons a l ih => cases k <;> simp [updAt, ih]

theorem updAt_append_length {γ : Type} (l : List γ) (a : γ) (g : γ → γ) :
    updAt (l ++ [a]) l.length g = l ++ [g a] := by
  induction l with
  | nil => rfl
  | cons b l ih => simp [updAt, ih]

theorem getElem?_updAt {γ : Type} (l : List γ) (k j : Nat) (g : γ → γ) :
    (updAt l k g)[j]? = if j = k then l[j]?.map g else l[j]? := by
  induction l generalizing k j with
  | nil => simp [updAt]
  | cons a l ih =>
    cases k with
    | zero => cases j <;> simp [updAt]
    | succ k => cases j <;> simp [updAt, ih]

theorem mem_updAt_ne {γ : Type} {l : List γ} {k : Nat} {g : γ → γ} {s : γ} (h : s ∈ updAt l k g) :
    (∃ j, j ≠ k ∧ l[j]? = some s) ∨ ∃ t, l[k]? = some t ∧ s = g t := by
  obtain ⟨j, hj⟩ := List.getElem?_of_mem h
  rw [getElem?_updAt] at hj
  split at hj
  · rename_i hjk
    subst hjk
    cases hlj : l[j]? with
    | none => simp [hlj] at hj
    | some t => simp [hlj] at hj; exact Or.inr ⟨t, rfl, hj.symm⟩
  · rename_i hjk
    exact Or.inl ⟨j, hjk, hj⟩

theorem mem_updAt_idx {γ : Type} {l : List γ} {k : Nat} {g : γ → γ} {s : γ} (h : s ∈ updAt l k g) :
    s ∈ l ∨ ∃ t, l[k]? = some t ∧ s = g t :=
  (mem_updAt_ne h).imp_left fun ⟨_, _, hj⟩ => List.mem_of_getElem? hj

/-- well-formed heap: every id reachable from a structure or the pool has been allocated -/
structure Wf (w : World) : Prop where
  atoms : ∀ s ∈ w.strus, ∀ a ∈ s.atoms, a < w.nextA
  pool : ∀ a ∈ w.pool, a < w.nextA
  lats : ∀ s ∈ w.strus, s.lat < w.nextL
  lpos : 0 < w.nextL

/-- `Wf` only asks that ids are below the counters: it survives any change that keeps or raises the
counters and adds only structures and free atoms that are themselves in range -/
theorem Wf.mono {w w' : World} (hw : Wf w) (hA : w.nextA ≤ w'.nextA) (hL : w.nextL ≤ w'.nextL)
    (hs : ∀ s ∈ w'.strus, s ∈ w.strus ∨ (∀ a ∈ s.atoms, a < w'.nextA) ∧ s.lat < w'.nextL)
    (hp : ∀ a ∈ w'.pool, a ∈ w.pool ∨ a < w'.nextA) : Wf w' where
  atoms s hs' a ha := (hs s hs').elim (fun h => Nat.lt_of_lt_of_le (hw.atoms s h a ha) hA) (·.1 a ha)
  pool a ha := (hp a ha).elim (fun h => Nat.lt_of_lt_of_le (hw.pool a h) hA) id
  lats s hs' := (hs s hs').elim (fun h => Nat.lt_of_lt_of_le (hw.lats s h) hL) (·.2)
  lpos := Nat.lt_of_lt_of_le hw.lpos hL

theorem Wf.frame {w w' : World} (hw : Wf w) (hs : w'.strus = w.strus) (hp : w'.pool = w.pool)
    (hA : w.nextA ≤ w'.nextA) (hL : w.nextL ≤ w'.nextL) : Wf w' :=
  hw.mono hA hL (fun _ h => .inl (hs ▸ h)) (fun _ h => .inl (hp ▸ h))

theorem Wf.push {w : World} (hw : Wf w) {L n : Nat} (hL : L < n) (hn : w.nextL ≤ n) :
    Wf { w with strus := w.strus ++ [⟨[], L, true⟩], nextL := n } :=
  hw.mono (Nat.le_refl _) hn
    (fun _ hs => (List.mem_append.mp hs).imp_right fun h => by cases List.mem_singleton.mp h; exact ⟨nofun, hL⟩)
    (fun _ ha => .inl ha)

theorem Wf.updAt {w : World} (hw : Wf w) (k : Nat) (g : Stru → Stru)
    (hg : ∀ t ∈ w.strus, (∀ a ∈ (g t).atoms, a < w.nextA) ∧ (g t).lat < w.nextL) :
    Wf { w with strus := updAt w.strus k g } :=
  hw.mono (Nat.le_refl _) (Nat.le_refl _)
    (fun _ hs => (mem_updAt_idx hs).imp_right fun ⟨t, ht, e⟩ => e ▸ hg t (List.mem_of_getElem? ht)) (fun _ ha => .inl ha)

namespace World

/-- the atoms `copySome` takes over as they are -/
def keptOf : List Nat → List Bool → List Nat
  | [], _ => []
  | _ :: r, true :: fr => keptOf r fr
  | a :: r, _ :: fr => a :: keptOf r fr
  | a :: r, [] => a :: keptOf r []

@[simp] theorem allocAtom_nextA (w : World) (p L : Nat) : (w.allocAtom p L).nextA = w.nextA + 1 := rfl
@[simp] theorem allocAtom_nextL (w : World) (p L : Nat) : (w.allocAtom p L).nextL = w.nextL := rfl
@[simp] theorem allocAtom_strus (w : World) (p L : Nat) : (w.allocAtom p L).strus = w.strus := rfl
@[simp] theorem allocAtom_pool (w : World) (p L : Nat) : (w.allocAtom p L).pool = w.pool := rfl
theorem allocAtom_pay (w : World) (p L i : Nat) : (w.allocAtom p L).pay i = if i = w.nextA then p else w.pay i := rfl
theorem allocAtom_alat (w : World) (p L i : Nat) : (w.allocAtom p L).alat i = if i = w.nextA then L else w.alat i := rfl

theorem copySome_frame (w : World) (xs : List Nat) (fl : List Bool) :
    (w.copySome xs fl).1.strus = w.strus ∧ (w.copySome xs fl).1.pool = w.pool ∧
    (w.copySome xs fl).1.nextL = w.nextL ∧ w.nextA ≤ (w.copySome xs fl).1.nextA ∧
    (∀ i, i < w.nextA → (w.copySome xs fl).1.pay i = w.pay i ∧ (w.copySome xs fl).1.alat i = w.alat i) := by
  induction xs generalizing w fl with
  | nil => simp [copySome]
  | cons a r ih =>
    cases fl with
    | nil => simpa [copySome] using ih w []
    | cons b fr =>
      cases b with
      | false => simpa [copySome] using ih w fr
      | true =>
        simp only [copySome]
        obtain ⟨h1, h2, h3, h4, h5⟩ := ih (w.allocAtom (w.pay a) (w.alat a)) fr
        refine ⟨h1, h2, h3, ?_, ?_⟩
        · simp only [allocAtom_nextA] at h4; omega
        · intro i hi
          have := h5 i (by simp only [allocAtom_nextA]; omega)
          have hne : i ≠ w.nextA := by omega
          simpa [allocAtom_pay, allocAtom_alat, hne] using this

theorem copySome_length (w : World) (xs : List Nat) (fl : List Bool) : (w.copySome xs fl).2.length = xs.length := by
  induction xs generalizing w fl with
  | nil => simp [copySome]
  | cons a r ih =>
    cases fl with
    | nil => simp [copySome, ih]
    | cons b fr => cases b <;> simp [copySome, ih]

theorem copySome_pay (w : World) (xs : List Nat) (fl : List Bool) (hx : ∀ x ∈ xs, x < w.nextA) :
    (w.copySome xs fl).2.map (w.copySome xs fl).1.pay = xs.map w.pay := by
  induction xs generalizing w fl with
  | nil => simp [copySome]
  | cons a r ih =>
    have ha : a < w.nextA := hx a (by simp)
    have hr : ∀ x ∈ r, x < w.nextA := fun x h => hx x (by simp [h])
    cases fl with
    | nil =>
      simp only [copySome, List.map_cons, ih w [] hr]
      rw [((copySome_frame w r []).2.2.2.2 a ha).1]
    | cons b fr =>
      cases b with
      | false =>
        simp only [copySome, List.map_cons, ih w fr hr]
        rw [((copySome_frame w r fr).2.2.2.2 a ha).1]
      | true =>
        simp only [copySome, List.map_cons]
        have hr' : ∀ x ∈ r, x < (w.allocAtom (w.pay a) (w.alat a)).nextA := by
          intro x h; have := hr x h; simp only [allocAtom_nextA]; omega
        rw [ih _ fr hr']
        have h1 := ((copySome_frame (w.allocAtom (w.pay a) (w.alat a)) r fr).2.2.2.2 w.nextA (by simp)).1
        rw [h1]
        simp only [allocAtom_pay, if_true, List.cons.injEq, true_and]
        apply List.map_congr_left
        intro x h
        have : x ≠ w.nextA := by have := hr x h; omega
        rw [allocAtom_pay]; simp [this]

theorem copySome_mem (w : World) (xs : List Nat) (fl : List Bool) :
    ∀ y ∈ (w.copySome xs fl).2, y ∈ keptOf xs fl ∨ (w.nextA ≤ y ∧ y < (w.copySome xs fl).1.nextA) := by
  -- an atom taken as it is, is kept; the others by induction
  have keep {w : World} {a : Nat} {r : List Nat} {fr : List Bool} {K : List Nat}
      (ih : ∀ y ∈ (w.copySome r fr).2, y ∈ K ∨ (w.nextA ≤ y ∧ y < (w.copySome r fr).1.nextA)) :
      ∀ y ∈ a :: (w.copySome r fr).2, y ∈ a :: K ∨ (w.nextA ≤ y ∧ y < (w.copySome r fr).1.nextA) := by
    intro y hy
    rcases List.mem_cons.mp hy with rfl | hy
    · exact .inl (List.mem_cons_self ..)
    · exact (ih y hy).imp_left (List.mem_cons_of_mem _)
  fun_induction copySome w xs fl with
  | case1 => nofun
  | case2 w a r fr c ih =>
    -- a copy is fresh
    intro y hy
    have hmono := (copySome_frame (w.allocAtom (w.pay a) (w.alat a)) r fr).2.2.2.1
    simp only [allocAtom_nextA] at hmono ih
    rcases List.mem_cons.mp hy with rfl | hy
    · exact .inr ⟨Nat.le_refl _, Nat.lt_of_lt_of_le (Nat.lt_succ_self _) hmono⟩
    · exact (ih y hy).imp_right fun h => ⟨Nat.le_of_succ_le h.1, h.2⟩
  | case3 w a r b fr hb c ih =>
    obtain rfl : b = false := by simpa using hb
    exact keep ih
  | case4 w a r c ih => exact keep ih

theorem keptOf_allTrue (xs : List Nat) : keptOf xs (allTrue xs) = [] := by
  induction xs with
  | nil => rfl
  | cons a r ih => simpa [keptOf, allTrue] using ih

theorem keptOf_sublist (xs : List Nat) (fl : List Bool) : (keptOf xs fl).Sublist xs := by
  fun_induction keptOf xs fl with
  | case1 => exact .slnil
  | case2 a r fr ih => exact ih.cons _
  | case3 a r b fr hb ih => exact ih.cons_cons _
  | case4 a r ih => exact ih.cons_cons _

theorem copySome_lt (w : World) (xs : List Nat) (fl : List Bool) (hx : ∀ x ∈ xs, x < w.nextA) :
    ∀ y ∈ (w.copySome xs fl).2, y < (w.copySome xs fl).1.nextA := by
  intro y hy
  rcases copySome_mem w xs fl y hy with h | h
  · have := hx y ((keptOf_sublist xs fl).subset h)
    have := (copySome_frame w xs fl).2.2.2.1
    omega
  · exact h.2


/-! #### the stages of `prep`: its `let`-bound values as functions of the world and the plan

`w0` after the lattice links of the `pre` selection, `w1` after the target structure has been pushed (if it is new),
`hT` the handle of the target. -/

def w0 (w : World) (p : Plan Nat) : World := match p.pre with
  | some (h, xs) => w.setLats xs (w.latOf h)
  | none => w

def w1 (w : World) (p : Plan Nat) : World := match p.tgt with
  | .old _ => w0 w p
  | .new .fresh => ((w0 w p).pushStru (w0 w p).nextL).newLat
  | .new (.ofStru h') => (w0 w p).pushStru ((w0 w p).latOf h')

def hT (w : World) (p : Plan Nat) : Nat := match p.tgt with
  | .old h => h
  | .new _ => w.strus.length

theorem w0_frame (w : World) (p : Plan Nat) :
    (w0 w p).pay = w.pay ∧ (w0 w p).nextA = w.nextA ∧ (w0 w p).nextL = w.nextL ∧ (w0 w p).pool = w.pool ∧
    (w0 w p).strus = w.strus := by
  unfold w0
  split <;> simp [setLats]

theorem w0_latOf (w : World) (p : Plan Nat) (h : Nat) : (w0 w p).latOf h = w.latOf h := by
  simp [latOf, (w0_frame w p).2.2.2.2]

/-- the lattice the incoming atoms of a plan are linked to -/
def tgtLat (w : World) (p : Plan Nat) : Nat := match p.tgt with
  | .old h => w.latOf h
  | .new .fresh => w.nextL
  | .new (.ofStru h') => w.latOf h'

theorem w1_frame (w : World) (p : Plan Nat) :
    (w1 w p).pay = w.pay ∧ (w1 w p).alat = (w0 w p).alat ∧ (w1 w p).nextA = w.nextA ∧ w.nextL ≤ (w1 w p).nextL ∧
    (w1 w p).pool = w.pool ∧
    (w1 w p).strus = (match p.tgt with
      | .old _ => w.strus
      | .new _ => w.strus ++ [⟨[], tgtLat w p, true⟩]) := by
  obtain ⟨h1, h2, h3, h4, h5⟩ := w0_frame w p
  unfold w1 tgtLat
  rcases p.tgt with h | _ | h'
  · simp [h1, h2, h3, h4, h5]
  · simp [pushStru, newLat, h1, h2, h3, h4, h5]
  · simp [pushStru, h1, h2, h3, h4, h5, w0_latOf]

theorem prep_eq (w : World) (p : Plan Nat) :
    w.prep p = (((w1 w p).copySome p.inc p.flags).1.setLats ((w1 w p).copySome p.inc p.flags).2 ((w1 w p).latOf (hT w p)),
                hT w p, ((w1 w p).copySome p.inc p.flags).2) := by
  obtain ⟨tgt, pre, inc, flags, edit⟩ := p
  cases pre with
  | none => rfl
  | some q => obtain ⟨h, xs⟩ := q; cases tgt <;> rfl

theorem latOf_lt {w : World} (hw : Wf w) (h : Nat) : w.latOf h < w.nextL := by
  simp only [latOf]
  split
  · rename_i s hs; exact hw.lats s (List.mem_of_getElem? hs)
  · exact hw.lpos

theorem Wf_w1 {w : World} (hw : Wf w) (p : Plan Nat) : Wf (w1 w p) := by
  obtain ⟨_, h2, h3, h4, h5⟩ := w0_frame w p
  have h0 : Wf (w0 w p) := hw.frame h5 h4 (Nat.le_of_eq h2.symm) (Nat.le_of_eq h3.symm)
  unfold w1
  split
  · exact h0
  · exact h0.push (Nat.lt_succ_self _) (Nat.le_succ _)
  · exact h0.push (latOf_lt h0 _) (Nat.le_refl _)


theorem prep_strus (w : World) (p : Plan Nat) :
    (w.prep p).1.strus = (w1 w p).strus ∧ (w.prep p).1.pool = w.pool ∧ (w.prep p).1.nextL = (w1 w p).nextL ∧
    w.nextA ≤ (w.prep p).1.nextA ∧ (w.prep p).2.1 = hT w p ∧
    (w.prep p).2.2 = ((w1 w p).copySome p.inc p.flags).2 := by
  rw [prep_eq]
  obtain ⟨f1, f2, f3, f4, _⟩ := copySome_frame (w1 w p) p.inc p.flags
  obtain ⟨_, _, g3, _, g5, _⟩ := w1_frame w p
  refine ⟨f1, by simp [setLats, f2, g5], f3, ?_, rfl, rfl⟩
  simp only [setLats]; omega

theorem mem_prep_strus {w : World} {p : Plan Nat} {s : Stru} (hs : s ∈ (w.prep p).1.strus) :
    s ∈ w.strus ∨ s.atoms = [] := by
  rw [(prep_strus w p).1, (w1_frame w p).2.2.2.2.2] at hs
  split at hs
  · exact .inl hs
  · exact (List.mem_append.mp hs).imp_right fun h => by cases List.mem_singleton.mp h; rfl

theorem prep_pay (w : World) (p : Plan Nat) :
    ∀ i, i < w.nextA → (w.prep p).1.pay i = w.pay i := by
  intro i hi
  rw [prep_eq]
  obtain ⟨g1, _, g3, _⟩ := w1_frame w p
  have := ((copySome_frame (w1 w p) p.inc p.flags).2.2.2.2 i (by omega)).1
  simp only [setLats, this, g1]

theorem prep_inc_pay (w : World) (p : Plan Nat) (hinc : ∀ x ∈ p.inc, x < w.nextA) :
    (w.prep p).2.2.map (w.prep p).1.pay = p.inc.map w.pay := by
  rw [prep_eq]
  obtain ⟨g1, _, g3, _⟩ := w1_frame w p
  have := copySome_pay (w1 w p) p.inc p.flags (by intro x hx; rw [g3]; exact hinc x hx)
  simp only [setLats, this, g1]

theorem prep_inc_lt (w : World) (p : Plan Nat) (hinc : ∀ x ∈ p.inc, x < w.nextA) :
    ∀ y ∈ (w.prep p).2.2, y < (w.prep p).1.nextA := by
  rw [prep_eq]
  obtain ⟨_, _, g3, _⟩ := w1_frame w p
  exact copySome_lt (w1 w p) p.inc p.flags (by intro x hx; rw [g3]; exact hinc x hx)

theorem prep_wf {w : World} (hw : Wf w) (p : Plan Nat) : Wf (w.prep p).1 := by
  obtain ⟨e1, e2, e3, e4, _, _⟩ := prep_strus w p
  obtain ⟨_, _, g3, _, g5, _⟩ := w1_frame w p
  exact (Wf_w1 hw p).frame e1 (e2.trans g5.symm) (g3 ▸ e4) (Nat.le_of_eq e3.symm)

theorem Wf_setAtoms {w : World} (hw : Wf w) (h : Nat) (l : List Nat) (hl : ∀ a ∈ l, a < w.nextA) :
    Wf (w.setAtoms h l) :=
  hw.updAt h _ fun t ht => ⟨hl, hw.lats t ht⟩

theorem atomsOf_mem {w : World} {h : Nat} {a : Nat} (ha : a ∈ w.atomsOf h) :
    ∃ s ∈ w.strus, s.live = true ∧ a ∈ s.atoms ∧ w.strus[h]? = some s := by
  simp only [atomsOf] at ha
  split at ha
  · rename_i s hs
    split at ha
    · rename_i hl; exact ⟨s, List.mem_of_getElem? hs, hl, ha, hs⟩
    · simp at ha
  · simp at ha

theorem atomsOf_lt {w : World} (hw : Wf w) (h : Nat) : ∀ a ∈ w.atomsOf h, a < w.nextA := by
  intro a ha
  obtain ⟨s, hs, _, has, _⟩ := atomsOf_mem ha
  exact hw.atoms s hs a has

/-- the precondition of `exec`: every incoming atom id of the action has been allocated -/
abbrev ActOk (w : World) (act : Act Nat) : Prop := ActAll (fun a => a < w.nextA) act

theorem execPlan_wf {w : World} (hw : Wf w) (p : Plan Nat) (hinc : ∀ x ∈ p.inc, x < w.nextA) :
    Wf (w.execPlan p).1 := by
  simp only [execPlan]
  have hq := prep_wf hw p
  split
  · rename_i new ret heq
    apply Wf_setAtoms hq
    intro a ha
    rcases (Edit.apply_subset heq).1 a ha with h1 | h1
    · exact atomsOf_lt hq _ a h1
    · exact prep_inc_lt w p hinc a h1
  · exact hq


theorem view_all {w : World} (hw : Wf w) : ViewAll (fun a => a < w.nextA) w.view := by
  constructor
  · intro l hl a ha
    simp only [view, List.mem_map] at hl
    obtain ⟨s, hs, hsl⟩ := hl
    split at hsl
    · cases hsl; exact hw.atoms s hs a ha
    · cases hsl
  · exact hw.pool

theorem dedup_subset (xs seen : List Nat) : ∀ a ∈ dedup xs seen, a ∈ xs := by
  induction xs generalizing seen with
  | nil => simp [dedup]
  | cons b r ih =>
    intro a ha
    simp only [dedup] at ha
    split at ha
    · exact List.mem_cons_of_mem _ (ih _ a ha)
    · simp only [List.mem_cons] at ha
      rcases ha with ha | ha
      · simp [ha]
      · exact List.mem_cons_of_mem _ (ih _ a ha)

theorem copySome_allTrue_fresh (w : World) (xs : List Nat) :
    ∀ y ∈ (w.copySome xs (allTrue xs)).2, w.nextA ≤ y := by
  intro y hy
  rcases copySome_mem w xs (allTrue xs) y hy with h | h
  · rw [keptOf_allTrue] at h; simp at h
  · exact h.1

def latSrcOf (w : World) : LatSrc → Nat
  | .fresh => w.nextL
  | .ofStru h' => w.latOf h'

theorem exec_setLat (w : World) (h : Nat) (src : LatSrc) :
    (w.exec (.setLat h src)).1.strus = updAt w.strus h (fun s => { s with lat := latSrcOf w src }) ∧
    ((w.exec (.setLat h src)).1.alat = fun i => if i ∈ w.atomsOf h then latSrcOf w src else w.alat i) ∧
    (w.exec (.setLat h src)).1.pay = w.pay ∧ (w.exec (.setLat h src)).1.pool = w.pool := by
  cases src <;> exact ⟨rfl, rfl, rfl, rfl⟩

/-! #### pickling with protocol 0/1 -/

/-- the copies `copyShape` makes, one per distinct atom of `xs`, in the world with the new structure pushed -/
def shapeCopies (w : World) (xs : List Nat) : World × List Nat :=
  ((w.pushStru w.nextL).newLat).copySome (dedup xs []) (allTrue (dedup xs []))

/-- the member list `copyShape` builds from them: slot by slot the copy of the atom in that slot -/
def shapeAtoms (w : World) (xs : List Nat) : List Nat :=
  xs.filterMap (fun x => (shapeCopies w xs).2[(dedup xs []).idxOf x]?)

theorem exec_copyShape (w : World) (h : Nat) (xs : List Nat) :
    w.exec (.copyShape h xs) =
      (((shapeCopies w xs).1.setLats (shapeAtoms w xs) w.nextL).setAtoms w.strus.length (shapeAtoms w xs),
       .ok (.stru w.strus.length)) := rfl

theorem shapeAtoms_subset (w : World) (xs : List Nat) : ∀ a ∈ shapeAtoms w xs, a ∈ (shapeCopies w xs).2 := by
  intro a ha
  obtain ⟨x, _, hx⟩ := List.mem_filterMap.mp ha
  exact List.mem_of_getElem? hx

/-- the world after `copyShape`: one more structure, holding `shapeAtoms`, all of them fresh and
linked to the new lattice; nothing allocated before is touched -/
theorem exec_copyShape_frame (w : World) (h : Nat) (xs : List Nat) :
    (w.exec (.copyShape h xs)).1.strus = w.strus ++ [⟨shapeAtoms w xs, w.nextL, true⟩] ∧
    (w.exec (.copyShape h xs)).1.pool = w.pool ∧
    (w.exec (.copyShape h xs)).1.nextL = w.nextL + 1 ∧
    w.nextA ≤ (w.exec (.copyShape h xs)).1.nextA ∧
    (∀ a ∈ shapeAtoms w xs, w.nextA ≤ a ∧ (w.exec (.copyShape h xs)).1.alat a = w.nextL) ∧
    (∀ i, i < w.nextA → (w.exec (.copyShape h xs)).1.pay i = w.pay i ∧ (w.exec (.copyShape h xs)).1.alat i = w.alat i) := by
  obtain ⟨f1, f2, f3, f4, f5⟩ := copySome_frame ((w.pushStru w.nextL).newLat) (dedup xs []) (allTrue (dedup xs []))
  have hfresh : ∀ a ∈ shapeAtoms w xs, w.nextA ≤ a := fun a ha =>
    copySome_allTrue_fresh ((w.pushStru w.nextL).newLat) _ a (shapeAtoms_subset w xs a ha)
  rw [exec_copyShape]
  refine ⟨?_, f2, f3, f4, fun a ha => ⟨hfresh a ha, if_pos ha⟩, fun i hi => ⟨(f5 i hi).1, ?_⟩⟩
  · simp only [setAtoms, setLats, shapeCopies, f1]
    exact updAt_append_length w.strus _ _
  · have hn : i ∉ shapeAtoms w xs := fun hin => by have := hfresh i hin; omega
    exact (if_neg hn).trans (f5 i hi).2

theorem exec_wf {w : World} (hw : Wf w) (act : Act Nat) (hok : ActOk w act) : Wf (w.exec act).1 := by
  cases act with
  | plan p => exact execPlan_wf hw p hok
  | retAtom a h => exact hw
  | mkAtom p =>
    refine hw.mono (Nat.le_succ _) (Nat.le_refl _) (fun _ hs => .inl hs) fun a ha => ?_
    refine (List.mem_append.mp ha).imp_right fun h => ?_
    cases List.mem_singleton.mp h
    exact Nat.lt_succ_self _
  | addNew h p =>
    have h1 : Wf (w.allocAtom p (w.latOf h)) := hw.frame rfl rfl (Nat.le_succ _) (Nat.le_refl _)
    refine Wf_setAtoms h1 h _ fun a ha => ?_
    rcases List.mem_append.mp ha with ha | ha
    · exact Nat.lt_succ_of_lt (atomsOf_lt hw h a ha)
    · cases List.mem_singleton.mp ha
      exact Nat.lt_succ_self _
  | setLat h src =>
    cases src with
    | fresh =>
      have h1 : Wf (w.newLat.setLats (w.atomsOf h) w.nextL) := hw.frame rfl rfl (Nat.le_refl _) (Nat.le_succ _)
      exact h1.updAt h _ fun t ht => ⟨hw.atoms t ht, Nat.lt_succ_self _⟩
    | ofStru h' =>
      have h1 : Wf (w.setLats (w.atomsOf h) (w.latOf h')) := hw.frame rfl rfl (Nat.le_refl _) (Nat.le_refl _)
      exact h1.updAt h _ fun t ht => ⟨hw.atoms t ht, latOf_lt hw h'⟩
  | drop h => exact hw.updAt h _ fun t ht => ⟨hw.atoms t ht, hw.lats t ht⟩
  | copyShape h xs =>
    obtain ⟨e1, e2, e3, e4, _, _⟩ := exec_copyShape_frame w h xs
    have hlt := copySome_lt ((w.pushStru w.nextL).newLat) (dedup xs []) (allTrue (dedup xs []))
      (fun x hx => hok x (dedup_subset xs [] x hx))
    refine hw.mono e4 (by omega) (fun s hs => ?_) (fun a ha => .inl (e2 ▸ ha))
    rw [e1] at hs
    refine (List.mem_append.mp hs).imp_right fun hs' => ?_
    cases List.mem_singleton.mp hs'
    exact ⟨fun a ha => hlt a (shapeAtoms_subset w xs a ha), by rw [e3]; exact Nat.lt_succ_self _⟩

theorem stepFull_wf {w : World} (hw : Wf w) (op : Op) : Wf (w.stepFull op).1 := by
  simp only [stepFull]
  split
  · exact hw
  · rename_i act hact
    exact exec_wf hw act (planG_all (view_all hw) hact)

theorem run_wf {w : World} (hw : Wf w) (ops : List Op) : Wf (w.run ops) := by
  induction ops generalizing w with
  | nil => exact hw
  | cons op ops ih => exact ih (stepFull_wf hw op)

theorem empty_wf : Wf World.empty := by
  constructor <;> simp [World.empty]


/-! #### refinement of the plain-list specification -/

theorem abs_view (w : World) : ViewRel w.pay w.view (ListSpec.view w.abs) := by
  constructor
  · simp only [ListSpec.view, abs, view, List.map_map]
    apply List.map_congr_left
    intro s _
    simp only [Function.comp]
    split <;> rfl
  · rfl
  · intro a; rfl

/-- `abs` only reads the payloads of allocated ids -/
theorem abs_congr {w w' : World} (hw : Wf w) (hs : w'.strus = w.strus) (hp : w'.pool = w.pool)
    (hpay : ∀ i, i < w.nextA → w'.pay i = w.pay i) : w'.abs = w.abs := by
  simp only [abs, hs, hp, SpecState.mk.injEq]
  constructor
  · apply List.map_congr_left
    intro a ha
    exact hpay a (hw.pool a ha)
  · apply List.map_congr_left
    intro s hs'
    split
    · congr 1
      apply List.map_congr_left
      intro a ha
      exact hpay a (hw.atoms s hs' a ha)
    · rfl

theorem listOf_abs (w : World) (h : Nat) : ListSpec.listOf w.abs h = (w.atomsOf h).map w.pay := by
  simp only [ListSpec.listOf, abs, atomsOf, List.getElem?_map]
  cases w.strus[h]? with
  | none => rfl
  | some s =>
    simp only [Option.map_some]
    split <;> simp_all

theorem abs_setAtoms (w : World) (h : Nat) (l : List Nat) :
    (w.setAtoms h l).abs = ListSpec.setList w.abs h (l.map w.pay) := by
  simp only [abs, setAtoms, ListSpec.setList, SpecState.mk.injEq, true_and]
  apply updAt_map
  intro s
  simp only
  split <;> rfl

inductive OutRel (w' : World) : Except Err Res → Except Err SRes → Prop
  | none : OutRel w' (.ok .none) (.ok .none)
  | atom (a h : Nat) : OutRel w' (.ok (.atom a h)) (.ok (.val (w'.pay a)))
  | stru (h : Nat) : OutRel w' (.ok (.stru h)) (.ok (.list h))
  | err (e : Err) : OutRel w' (.error e) (.error e)

theorem abs_prep {w : World} (hw : Wf w) (p : Plan Nat) :
    (w.prep p).1.abs = (match p.tgt with
      | .old _ => w.abs
      | .new _ => { w.abs with lists := w.abs.lists ++ [some []] }) := by
  obtain ⟨e1, e2, _, _, _, _⟩ := prep_strus w p
  obtain ⟨g1, _, g3, _, g5, g6⟩ := w1_frame w p
  rw [abs_congr (Wf_w1 hw p) e1 (e2.trans g5.symm) fun i hi => by rw [prep_pay w p i (g3 ▸ hi), g1]]
  simp only [abs, g1, g5, g6]
  cases p.tgt <;> simp

def specS1 (s : SpecState) : Tgt → SpecState
  | .old _ => s
  | .new _ => { s with lists := s.lists ++ [some []] }

def specH (s : SpecState) : Tgt → Nat
  | .old h => h
  | .new _ => s.lists.length

def specFinish (s1 : SpecState) (h : Nat) (tgt : Tgt) : Except Err (List Nat × Option Nat) → SpecState × Except Err SRes
  | .ok (new, ret) =>
    (ListSpec.setList s1 h new,
     .ok (match tgt, ret with
          | .new _, _ => .list h
          | .old _, some a => .val a
          | .old _, none => .none))
  | .error e => (s1, .error e)

theorem spec_exec_plan (s : SpecState) (q : Plan Nat) :
    ListSpec.exec s (.plan q) =
      specFinish (specS1 s q.tgt) (specH s q.tgt) q.tgt
        (q.edit.apply (ListSpec.listOf (specS1 s q.tgt) (specH s q.tgt)) q.inc) := by
  simp only [ListSpec.exec, specFinish, specS1, specH]
  cases q.tgt <;> rfl

def worldFinish (q : World × Nat × List Nat) (tgt : Tgt) : Except Err (List Nat × Option Nat) → World × Except Err Res
  | .ok (new, ret) =>
    (q.1.setAtoms q.2.1 new,
     .ok (match tgt, ret with
          | .new _, _ => .stru q.2.1
          | .old _, some a => .atom a q.2.1
          | .old _, none => .none))
  | .error e => (q.1, .error e)

theorem execPlan_eq (w : World) (p : Plan Nat) :
    w.execPlan p = worldFinish (w.prep p) p.tgt (p.edit.apply ((w.prep p).1.atomsOf (w.prep p).2.1) (w.prep p).2.2) := by
  simp only [execPlan, worldFinish]
  rcases hap : p.edit.apply ((w.prep p).1.atomsOf (w.prep p).2.1) (w.prep p).2.2 with e | ⟨new, ret⟩
  · rfl
  · simp only
    cases p.tgt <;> cases ret <;> rfl

theorem execPlan_refines {w : World} (hw : Wf w) (p q : Plan Nat) (hinc : ∀ x ∈ p.inc, x < w.nextA)
    (ht : q.tgt = p.tgt) (hi : q.inc = p.inc.map w.pay) (he : q.edit = p.edit) :
    (ListSpec.exec w.abs (.plan q)).1 = (w.execPlan p).1.abs ∧
    OutRel (w.execPlan p).1 (w.execPlan p).2 (ListSpec.exec w.abs (.plan q)).2 := by
  have hA := abs_prep hw p
  have hC := prep_inc_pay w p hinc
  obtain ⟨_, _, _, _, e5, _⟩ := prep_strus w p
  have hlen : w.abs.lists.length = w.strus.length := by simp [abs]
  have hs1 : specS1 w.abs q.tgt = (w.prep p).1.abs := by
    rw [ht, hA]; cases p.tgt <;> rfl
  have hh : specH w.abs q.tgt = (w.prep p).2.1 := by
    rw [ht, e5]; simp only [specH, hT]; cases p.tgt <;> simp [hlen]
  rw [spec_exec_plan, execPlan_eq, hs1, hh, he, hi, ← hC, listOf_abs, Edit.apply_map, ht]
  cases hap : p.edit.apply ((w.prep p).1.atomsOf (w.prep p).2.1) (w.prep p).2.2 with
  | error e => exact ⟨rfl, OutRel.err e⟩
  | ok r =>
    obtain ⟨new, ret⟩ := r
    simp only [mapRes, specFinish, worldFinish]
    refine ⟨(abs_setAtoms _ _ _).symm, ?_⟩
    cases p.tgt with
    | new src => exact OutRel.stru _
    | old h =>
      cases ret with
      | none => exact OutRel.none
      | some a => exact OutRel.atom a _

theorem dedup_complete (xs seen : List Nat) : ∀ x ∈ xs, x ∈ seen ∨ x ∈ dedup xs seen := by
  induction xs generalizing seen with
  | nil => simp
  | cons b r ih =>
    intro x hx
    simp only [List.mem_cons] at hx
    simp only [dedup]
    split
    · rename_i hb
      rcases hx with hx | hx
      · subst hx; exact Or.inl hb
      · exact ih seen x hx
    · rcases hx with hx | hx
      · subst hx; exact Or.inr (by simp)
      · rcases ih (b :: seen) x hx with h | h
        · simp only [List.mem_cons] at h
          rcases h with h | h
          · subst h; exact Or.inr (by simp)
          · exact Or.inl h
        · exact Or.inr (by simp [h])

theorem filterMap_map_eq {γ δ ε : Type} (g : γ → Option δ) (f : δ → ε) (k : γ → ε) (xs : List γ)
    (h : ∀ x ∈ xs, ∃ y, g x = some y ∧ f y = k x) : (xs.filterMap g).map f = xs.map k := by
  induction xs with
  | nil => rfl
  | cons a r ih =>
    obtain ⟨y, hy, hf⟩ := h a (by simp)
    simp only [List.filterMap_cons, hy, List.map_cons, hf]
    rw [ih (fun x hx => h x (by simp [hx]))]

theorem shapeAtoms_pay (w : World) (xs : List Nat) (hx : ∀ x ∈ xs, x < w.nextA) :
    (shapeAtoms w xs).map (shapeCopies w xs).1.pay = xs.map w.pay := by
  have hpay : (shapeCopies w xs).2.map (shapeCopies w xs).1.pay = (dedup xs []).map w.pay :=
    copySome_pay ((w.pushStru w.nextL).newLat) (dedup xs []) _ (fun x h => hx x (dedup_subset xs [] x h))
  have hlen : (shapeCopies w xs).2.length = (dedup xs []).length := copySome_length _ _ _
  unfold shapeAtoms
  generalize shapeCopies w xs = c at hpay hlen ⊢
  apply filterMap_map_eq
  intro x hxs
  have hmem : x ∈ dedup xs [] := (dedup_complete xs [] x hxs).resolve_left List.not_mem_nil
  have hi : (dedup xs []).idxOf x < (dedup xs []).length := List.idxOf_lt_length_of_mem hmem
  have hi' : (dedup xs []).idxOf x < c.2.length := hlen ▸ hi
  refine ⟨c.2[(dedup xs []).idxOf x], by simp [hi'], ?_⟩
  have h1 := congrArg (fun l => l[(dedup xs []).idxOf x]?) hpay
  simp only [List.getElem?_map, List.getElem?_eq_getElem hi, List.getElem?_eq_getElem hi', Option.map_some,
    Option.some.injEq] at h1
  rw [h1]
  congr 1
  exact List.getElem_idxOf hi

theorem exec_refines {w : World} (hw : Wf w) {act act' : Act Nat} (hok : ActOk w act)
    (hr : ActRel w.pay act act') :
    (ListSpec.exec w.abs act').1 = (w.exec act).1.abs ∧
    OutRel (w.exec act).1 (w.exec act).2 (ListSpec.exec w.abs act').2 := by
  cases act with
  | plan p =>
    cases act' with
    | plan q => obtain ⟨ht, hi, he⟩ := hr; exact execPlan_refines hw p q hok ht hi he
    | _ => exact hr.elim
  | retAtom a h =>
    cases act' with
    | retAtom b h' =>
      obtain ⟨rfl, rfl⟩ := hr
      exact ⟨rfl, OutRel.atom a _⟩
    | _ => exact hr.elim
  | mkAtom p =>
    cases act' with
    | mkAtom p' =>
      cases hr
      refine ⟨?_, OutRel.none⟩
      have h1 : (w.allocAtom p 0).abs = w.abs :=
        abs_congr hw rfl rfl (fun i hi => by rw [allocAtom_pay, if_neg (Nat.ne_of_lt hi)])
      simp only [ListSpec.exec, ← h1]
      simp [exec, abs, allocAtom_pay]
    | _ => exact hr.elim
  | addNew h p =>
    cases act' with
    | addNew h' p' =>
      obtain ⟨rfl, rfl⟩ := hr
      refine ⟨?_, OutRel.none⟩
      simp only [ListSpec.exec, exec, abs_setAtoms, listOf_abs]
      have h1 : (w.allocAtom p' (w.latOf h')).abs = w.abs :=
        abs_congr hw rfl rfl (fun i hi => by rw [allocAtom_pay]; simp [show i ≠ w.nextA by omega])
      rw [h1, List.map_append]
      congr 2
      · apply List.map_congr_left
        intro a ha
        have := atomsOf_lt hw h' a ha
        rw [allocAtom_pay]; simp [show a ≠ w.nextA by omega]
      · simp [allocAtom_pay]
    | _ => exact hr.elim
  | setLat h src =>
    cases act' with
    | setLat h' src' =>
      obtain ⟨rfl, rfl⟩ := hr
      refine ⟨?_, OutRel.none⟩
      obtain ⟨e1, _, e3, e4⟩ := exec_setLat w h' src'
      simp only [ListSpec.exec, abs, e1, e3, e4]
      rw [updAt_map _ _ (fun x => x) (by intro s; rfl), updAt_id]
    | _ => exact hr.elim
  | drop h =>
    cases act' with
    | drop h' =>
      cases hr
      refine ⟨?_, OutRel.none⟩
      simp only [ListSpec.exec, exec, abs, ListSpec.dropList, SpecState.mk.injEq, true_and]
      exact (updAt_map _ _ (fun _ => none) (by intro s; rfl) _ _).symm
    | _ => exact hr.elim
  | copyShape h xs =>
    cases act' with
    | copyShape h' ys =>
      obtain ⟨rfl, rfl⟩ := hr
      refine ⟨?_, ?_⟩
      · rw [exec_copyShape]
        simp only [ListSpec.exec, abs_setAtoms]
        have hw1 : Wf ((w.pushStru w.nextL).newLat) := hw.push (Nat.lt_succ_self _) (Nat.le_succ _)
        obtain ⟨f1, f2, _, _, f5⟩ := copySome_frame ((w.pushStru w.nextL).newLat) (dedup xs []) (allTrue (dedup xs []))
        have habs : ((shapeCopies w xs).1.setLats (shapeAtoms w xs) w.nextL).abs = ((w.pushStru w.nextL).newLat).abs :=
          abs_congr hw1 f1 f2 (fun i hi => (f5 i hi).1)
        rw [habs]
        simp only [setLats]
        rw [shapeAtoms_pay w xs hok]
        simp only [abs, pushStru, newLat, ListSpec.setList, List.map_append, List.map_cons, List.map_nil,
          SpecState.mk.injEq, true_and]
        have hl : (List.map (fun s => if s.live = true then some (List.map w.pay s.atoms) else none) w.strus).length
            = w.strus.length := by simp
        rw [← hl, updAt_append_length]
        simp
      · simp only [ListSpec.exec, exec, abs, List.length_map]
        exact OutRel.stru _
    | _ => exact hr.elim


/-! #### the lattice invariant -/

/-- every atom of every live structure refers to that structure's lattice -/
def Inv (w : World) : Prop := ∀ s ∈ w.strus, s.live = true → ∀ a ∈ s.atoms, w.alat a = s.lat

/-- the atoms `xs` may be linked to lattice `L`: every live structure that holds one of them has lattice `L` -/
def Adopts (w : World) (xs : List Nat) (L : Nat) : Prop :=
  ∀ x ∈ xs, ∀ s ∈ w.strus, s.live = true → x ∈ s.atoms → s.lat = L

/-- the `pre` selection of a plan (`xs` taken from structure `h`) may be linked to the lattice of `h` -/
def preSafe (w : World) : Option (Nat × List Nat) → Prop
  | none => True
  | some (h, xs) => Adopts w xs (w.latOf h)

/-- side condition of the global lattice invariant, on the action and the state before the step: atoms taken
over without copying, and the atoms of a structure whose lattice is re-assigned, are not held by a
live structure with a different lattice -/
def SafeAct (w : World) : Act Nat → Prop
  | .plan p => preSafe w p.pre ∧ Adopts w (keptOf p.inc p.flags) (tgtLat w p)
  | .setLat h src =>
    ∀ a ∈ w.atomsOf h, ∀ sk ∈ w.strus.zipIdx, sk.2 ≠ h → sk.1.live = true → a ∈ sk.1.atoms → sk.1.lat = latSrcOf w src
  | _ => True

instance (w : World) (xs : List Nat) (L : Nat) : Decidable (Adopts w xs L) := by unfold Adopts; infer_instance

instance (w : World) (o : Option (Nat × List Nat)) : Decidable (preSafe w o) := by
  cases o with
  | none => exact isTrue trivial
  | some q => unfold preSafe; infer_instance

instance (w : World) (act : Act Nat) : Decidable (SafeAct w act) := by
  cases act <;> unfold SafeAct <;> infer_instance

theorem w1_latOf_hT (w : World) (p : Plan Nat) : (w1 w p).latOf (hT w p) = tgtLat w p := by
  simp only [latOf, (w1_frame w p).2.2.2.2.2, hT]
  cases htg : p.tgt with
  | old h => simp only [tgtLat, htg, latOf]
  | new L => simp

theorem prep_alat (w : World) (p : Plan Nat) (i : Nat) :
    (w.prep p).1.alat i = if i ∈ (w.prep p).2.2 then tgtLat w p
      else ((w1 w p).copySome p.inc p.flags).1.alat i := by
  rw [prep_eq, w1_latOf_hT]
  rfl

theorem w0_alat (w : World) (p : Plan Nat) (i : Nat) :
    (w0 w p).alat i = match p.pre with
      | some (h, xs) => if i ∈ xs then w.latOf h else w.alat i
      | none => w.alat i := by
  unfold w0
  split <;> rfl

theorem prep_latOf (w : World) (p : Plan Nat) (k : Nat) : (w.prep p).1.latOf k = (w1 w p).latOf k := by
  simp only [latOf, (prep_strus w p).1]

theorem prep_inv {w : World} (hw : Wf w) (hi : Inv w) (p : Plan Nat) (hs : SafeAct w (.plan p)) :
    Inv (w.prep p).1 := by
  obtain ⟨_, _, _, _, _, e6⟩ := prep_strus w p
  obtain ⟨_, g2, g3, _, _, _⟩ := w1_frame w p
  intro s hsm hl a ha
  -- `s` is a structure of the old world (the pushed one has no atoms)
  have hold : s ∈ w.strus := (mem_prep_strus hsm).resolve_right fun h => by rw [h] at ha; cases ha
  have halt : a < w.nextA := hw.atoms s hold a ha
  rw [prep_alat]
  split
  · rename_i hin
    rw [e6] at hin
    rcases copySome_mem (w1 w p) p.inc p.flags a hin with h | h
    · exact (hs.2 a h s hold hl ha).symm
    · rw [g3] at h; omega
  · rw [((copySome_frame (w1 w p) p.inc p.flags).2.2.2.2 a (by omega)).2, g2, w0_alat]
    split
    · rename_i h xs hpre
      split
      · rename_i hin
        have h1 := hs.1
        rw [hpre] at h1
        exact (h1 a hin s hold hl ha).symm
      · exact hi s hold hl a ha
    · exact hi s hold hl a ha

theorem atomsOf_of_getElem {w : World} {h : Nat} {t : Stru} (ht : w.strus[h]? = some t) (hl : t.live = true) :
    w.atomsOf h = t.atoms := by
  simp [atomsOf, ht, hl]

theorem execPlan_inv {w : World} (hw : Wf w) (hi : Inv w) (p : Plan Nat) (hs : SafeAct w (.plan p)) :
    Inv (w.execPlan p).1 := by
  have hq := prep_inv hw hi p hs
  rw [execPlan_eq]
  rcases hap : p.edit.apply ((w.prep p).1.atomsOf (w.prep p).2.1) (w.prep p).2.2 with e | ⟨new, ret⟩
  · exact hq
  · simp only [worldFinish]
    intro s hsm hl a ha
    simp only [setAtoms] at hsm ⊢
    rcases mem_updAt_idx hsm with h | ⟨t, ht, rfl⟩
    · exact hq s h hl a ha
    · simp only at hl ha ⊢
      rcases (Edit.apply_subset hap).1 a ha with h1 | h1
      · rw [atomsOf_of_getElem ht hl] at h1
        exact hq t (List.mem_of_getElem? ht) hl a h1
      · rw [prep_alat, if_pos h1, ← w1_latOf_hT, ← prep_latOf, (prep_strus w p).2.2.2.2.1.symm]
        simp [latOf, ht]


theorem exec_inv {w : World} (hw : Wf w) (hi : Inv w) (act : Act Nat) (hs : SafeAct w act) :
    Inv (w.exec act).1 := by
  cases act with
  | plan p => exact execPlan_inv hw hi p hs
  | retAtom a h => exact hi
  | mkAtom p =>
    intro s hsm hl a ha
    simp only [exec] at hsm ⊢
    have := hw.atoms s hsm a ha
    rw [allocAtom_alat]
    simp only [show a ≠ w.nextA by omega, if_false]
    exact hi s hsm hl a ha
  | addNew h p =>
    intro s hsm hl a ha
    simp only [exec, setAtoms] at hsm ⊢
    rw [allocAtom_alat]
    rcases mem_updAt_idx hsm with h1 | ⟨t, ht, rfl⟩
    · have := hw.atoms s h1 a ha
      simp only [show a ≠ w.nextA by omega, if_false]
      exact hi s h1 hl a ha
    · simp only [allocAtom_strus] at ht
      simp only at hl ha ⊢
      simp only [List.mem_append, List.mem_singleton] at ha
      rcases ha with ha | ha
      · rw [atomsOf_of_getElem ht hl] at ha
        have := hw.atoms t (List.mem_of_getElem? ht) a ha
        simp only [show a ≠ w.nextA by omega, if_false]
        exact hi t (List.mem_of_getElem? ht) hl a ha
      · subst ha
        simp [latOf, ht]
  | setLat h src =>
    obtain ⟨e1, e2, _, _⟩ := exec_setLat w h src
    intro s hsm hl a ha
    rw [e1] at hsm
    simp only [e2]
    rcases mem_updAt_ne hsm with ⟨j, hj, hjs⟩ | ⟨t, ht, rfl⟩
    · split
      · rename_i hin
        exact (hs a hin (s, j) (List.mk_mem_zipIdx_iff_getElem?.mpr hjs) hj hl ha).symm
      · exact hi s (List.mem_of_getElem? hjs) hl a ha
    · simp only at hl ha ⊢
      rw [← atomsOf_of_getElem ht hl] at ha
      simp [ha]
  | drop h =>
    intro s hsm hl a ha
    simp only [exec] at hsm ⊢
    rcases mem_updAt_idx hsm with h1 | ⟨t, ht, rfl⟩
    · exact hi s h1 hl a ha
    · simp at hl
  | copyShape h xs =>
    obtain ⟨e1, _, _, _, e5, e6⟩ := exec_copyShape_frame w h xs
    intro s hsm hl a ha
    rw [e1] at hsm
    rcases List.mem_append.mp hsm with h1 | h1
    · rw [(e6 a (hw.atoms s h1 a ha)).2]; exact hi s h1 hl a ha
    · cases List.mem_singleton.mp h1; exact (e5 a ha).2

/-- the side condition of one step, on the pre-state -/
def Safe (w : World) (op : Op) : Prop :=
  match planG w.view op with
  | .ok act => SafeAct w act
  | .error _ => True

theorem stepFull_inv {w : World} (hw : Wf w) (hi : Inv w) (op : Op) (hs : Safe w op) : Inv (w.stepFull op).1 := by
  simp only [stepFull]
  simp only [Safe] at hs
  split
  · exact hi
  · rename_i act hact
    rw [hact] at hs
    exact exec_inv hw hi act hs

/-- every step of the history satisfies the side condition in the state it is executed in -/
def SafeHist : World → List Op → Prop
  | _, [] => True
  | w, op :: ops => Safe w op ∧ SafeHist (w.stepFull op).1 ops

theorem run_inv {w : World} (hw : Wf w) (hi : Inv w) (ops : List Op) (hs : SafeHist w ops) : Inv (w.run ops) := by
  induction ops generalizing w with
  | nil => exact hi
  | cons op ops ih => exact ih (stepFull_wf hw op) (stepFull_inv hw hi op hs.1) hs.2


/-! #### copies are fresh, selections share -/

theorem copySome_allFalse (w : World) (xs : List Nat) : w.copySome xs (allFalse xs) = (w, xs) := by
  induction xs with
  | nil => rfl
  | cons a r ih =>
    simp only [allFalse, List.map_cons, copySome] at ih ⊢
    rw [ih]

theorem atomsOf_setAtoms_push (w : World) (ss : List Stru) (L : Nat) (l : List Nat) (hs : w.strus = ss ++ [⟨[], L, true⟩]) :
    (w.setAtoms ss.length l).atomsOf ss.length = l ∧ (w.setAtoms ss.length l).latOf ss.length = L := by
  simp only [atomsOf, latOf, setAtoms, hs, updAt_append_length]
  simp

theorem atomsOf_setAtoms_subset (w : World) (h : Nat) (l : List Nat) : ∀ a ∈ (w.setAtoms h l).atomsOf h, a ∈ l := by
  intro a ha
  simp only [atomsOf, setAtoms, getElem?_updAt, if_true] at ha
  cases hg : w.strus[h]? with
  | none => simp [hg] at ha
  | some t =>
    simp only [hg, Option.map_some] at ha
    split at ha
    · exact ha
    · simp at ha

/-- a plan that fills a new structure: the result is the next handle, it holds exactly the
materialised atoms and refers to the lattice asked for -/
theorem execPlan_new (w : World) (p : Plan Nat) (L : LatSrc) (ht : p.tgt = .new L) (he : p.edit = .replace) :
    (w.execPlan p).2 = .ok (.stru w.strus.length) ∧
    (w.execPlan p).1.atomsOf w.strus.length = ((w1 w p).copySome p.inc p.flags).2 ∧
    (w.execPlan p).1.latOf w.strus.length = latSrcOf w L := by
  obtain ⟨e1, _, _, _, e5, e6⟩ := prep_strus w p
  have hh : (w.prep p).2.1 = w.strus.length := by rw [e5]; simp [hT, ht]
  have hL : tgtLat w p = latSrcOf w L := by simp only [tgtLat, ht]; cases L <;> rfl
  have hstr : (w.prep p).1.strus = w.strus ++ [⟨[], latSrcOf w L, true⟩] := by
    simp only [e1, (w1_frame w p).2.2.2.2.2, ht, hL]
  rw [execPlan_eq, he]
  simp only [Edit.apply, worldFinish, ht]
  rw [hh]
  obtain ⟨a1, a2⟩ := atomsOf_setAtoms_push (w.prep p).1 w.strus _ (w.prep p).2.2 hstr
  exact ⟨rfl, a1.trans e6, a2⟩

/-- … from copies only (`copy`, `+`, `-`, `*`, pickling, `deepcopy`, copy construction): all its
atoms are fresh -/
theorem execPlan_new_fresh (w : World) (p : Plan Nat) (L : LatSrc) (ht : p.tgt = .new L) (he : p.edit = .replace)
    (hf : p.flags = allTrue p.inc) :
    (w.execPlan p).2 = .ok (.stru w.strus.length) ∧
    (∀ a ∈ (w.execPlan p).1.atomsOf w.strus.length, w.nextA ≤ a) ∧
    (w.execPlan p).1.latOf w.strus.length = latSrcOf w L := by
  obtain ⟨h1, h2, h3⟩ := execPlan_new w p L ht he
  refine ⟨h1, fun a ha => ?_, h3⟩
  rw [h2, hf] at ha
  have := copySome_allTrue_fresh (w1 w p) p.inc a ha
  rwa [(w1_frame w p).2.2.1] at this

/-- … as a selection (`s[slice]`, `s[array]`, …): it holds exactly the selected atom objects and
refers to the lattice of the source -/
theorem execPlan_new_sel (w : World) (p : Plan Nat) (h : Nat) (ht : p.tgt = .new (.ofStru h)) (he : p.edit = .replace)
    (hf : p.flags = allFalse p.inc) :
    (w.execPlan p).2 = .ok (.stru w.strus.length) ∧
    (w.execPlan p).1.atomsOf w.strus.length = p.inc ∧
    (w.execPlan p).1.latOf w.strus.length = w.latOf h := by
  obtain ⟨h1, h2, h3⟩ := execPlan_new w p _ ht he
  rw [hf, copySome_allFalse] at h2
  exact ⟨h1, h2, h3⟩

/-- a plan that edits an existing structure: whatever is in the list afterwards was there before, is
one of the atoms taken over uncopied, or is freshly allocated -/
theorem execPlan_old_mem (w : World) (p : Plan Nat) (h : Nat) (ht : p.tgt = .old h) :
    ∀ a ∈ (w.execPlan p).1.atomsOf h, a ∈ w.atomsOf h ∨ a ∈ keptOf p.inc p.flags ∨ w.nextA ≤ a := by
  obtain ⟨e1, _, _, _, e5, e6⟩ := prep_strus w p
  obtain ⟨_, _, g3, _, _, g6⟩ := w1_frame w p
  have hh : (w.prep p).2.1 = h := by rw [e5]; simp [hT, ht]
  have hstr : (w.prep p).1.strus = w.strus := by rw [e1, g6, ht]
  have hat : (w.prep p).1.atomsOf h = w.atomsOf h := by simp [atomsOf, hstr]
  rw [execPlan_eq]
  rcases hap : p.edit.apply ((w.prep p).1.atomsOf (w.prep p).2.1) (w.prep p).2.2 with e | ⟨new, ret⟩
  · simp only [worldFinish, hat]
    intro a ha; exact Or.inl ha
  · simp only [worldFinish, hh]
    intro a ha
    have hsub : a ∈ new := atomsOf_setAtoms_subset _ h new a ha
    rw [hh] at hap
    rcases (Edit.apply_subset hap).1 a hsub with h1 | h1
    · rw [hat] at h1; exact Or.inl h1
    · rw [e6] at h1
      rcases copySome_mem (w1 w p) p.inc p.flags a h1 with h2 | h2
      · exact Or.inr (Or.inl h2)
      · exact Or.inr (Or.inr (by omega))

/-- … with copies only: a member as before, or freshly allocated -/
theorem execPlan_old_fresh (w : World) (p : Plan Nat) (h : Nat) (ht : p.tgt = .old h)
    (hf : p.flags = allTrue p.inc) :
    ∀ a ∈ (w.execPlan p).1.atomsOf h, a ∈ w.atomsOf h ∨ w.nextA ≤ a := by
  intro a ha
  rcases execPlan_old_mem w p h ht a ha with g | g | g
  · exact .inl g
  · rw [hf, keptOf_allTrue] at g; cases g
  · exact .inr g

/-- the materialised atoms of a plan refer to the target's lattice afterwards, whether or not the
list edit succeeds -/
theorem execPlan_links (w : World) (p : Plan Nat) :
    ∀ y ∈ (w.prep p).2.2, (w.execPlan p).1.alat y = tgtLat w p := by
  intro y hy
  rw [execPlan_eq]
  rcases hap : p.edit.apply ((w.prep p).1.atomsOf (w.prep p).2.1) (w.prep p).2.2 with e | ⟨new, ret⟩
  · simp only [worldFinish]; rw [prep_alat, if_pos hy]
  · simp only [worldFinish, setAtoms]; rw [prep_alat, if_pos hy]


theorem view_atoms_ok {w : World} {h : Nat} {old : List Nat} (hv : w.view.atoms h = .ok old) :
    w.atomsOf h = old ∧ ∃ t, w.strus[h]? = some t ∧ t.live = true ∧ t.atoms = old := by
  simp only [View.atoms, view, List.getElem?_map] at hv
  cases hg : w.strus[h]? with
  | none => simp [hg] at hv
  | some t =>
    simp only [hg, Option.map_some] at hv
    by_cases hl : t.live = true
    · simp only [hl, if_true] at hv
      cases hv
      exact ⟨by simp [atomsOf, hg, hl], t, rfl, hl, rfl⟩
    · simp [hl] at hv

/-- pickling with protocol 0/1 (`copyShape`): fresh atoms, fresh lattice -/
theorem exec_copyShape_fresh (w : World) (h : Nat) (xs : List Nat) :
    (w.exec (.copyShape h xs)).2 = .ok (.stru w.strus.length) ∧
    (∀ a ∈ (w.exec (.copyShape h xs)).1.atomsOf w.strus.length, w.nextA ≤ a) ∧
    (w.exec (.copyShape h xs)).1.latOf w.strus.length = w.nextL := by
  obtain ⟨e1, _, _, _, e5, _⟩ := exec_copyShape_frame w h xs
  refine ⟨rfl, fun a ha => (e5 a ?_).1, by simp [latOf, e1]⟩
  simpa [atomsOf, e1] using ha


/-! #### which operations need the side condition -/

theorem adopts_nil (w : World) (L : Nat) : Adopts w [] L := by intro x hx; simp at hx

theorem keptOf_allFalse (xs : List Nat) : keptOf xs (allFalse xs) = xs := by
  induction xs with
  | nil => rfl
  | cons a r ih => simp only [allFalse, List.map_cons, keptOf] at ih ⊢; rw [ih]

theorem keptOf_map (xs : List Nat) (g : Nat → Bool) : keptOf xs (xs.map g) = xs.filter (fun x => !g x) := by
  induction xs with
  | nil => rfl
  | cons a r ih => cases hg : g a <;> simp [keptOf, hg, ih]

theorem mem_keptOf_map {xs : List Nat} {g : Nat → Bool} {y : Nat} (h : y ∈ keptOf xs (xs.map g)) : y ∈ xs ∧ g y = false := by
  rw [keptOf_map] at h
  simpa using h

theorem inv_adopts_self {w : World} (hi : Inv w) {h : Nat} {xs : List Nat} (hx : ∀ x ∈ xs, x ∈ w.atomsOf h) :
    Adopts w xs (w.latOf h) := by
  intro x hxs s hs hl hxa
  obtain ⟨t, ht, htl, hta, hg⟩ := atomsOf_mem (hx x hxs)
  have h1 := hi t ht htl x hta
  have h2 := hi s hs hl x hxa
  simp only [latOf, hg]
  rw [← h1, h2]

theorem safe_plan_allTrue (w : World) (p : Plan Nat) (hp : p.pre = none) (hf : p.flags = allTrue p.inc) :
    SafeAct w (.plan p) := by
  refine ⟨by rw [hp]; trivial, ?_⟩
  rw [hf, keptOf_allTrue]
  exact adopts_nil w _

/-- the operations whose side condition holds automatically: everything except lattice assignment
and the insertions that take atoms over without copying (`copy=False`; `extend` with the default
flag, and the constructor, on an iterable that is not a Structure) -/
def AutoSafe : Op → Prop
  | .setLat _ _ => False
  | .append _ _ c => c ≠ .no
  | .insert _ _ _ c => c ≠ .no
  | .extend _ it c => c = .yes ∨ (c = .dflt ∧ ∃ h', it = .stru h')
  | .setitem _ _ _ c => c = true
  | .setslice _ _ _ c => c = true
  | .ctor src _ => src = none ∨ ∃ h', src = some (.stru h')
  | _ => True

theorem safe_of_autoSafe {w : World} (hi : Inv w) {op : Op} (ha : AutoSafe op) : Safe w op := by
  -- members of `h` that are taken over as they are may be linked to the lattice of `h`
  have members {h : Nat} {old : List Nat} (h1 : w.view.atoms h = .ok old) {xs : List Nat}
      (hx : ∀ x ∈ xs, x ∈ old) : Adopts w xs (w.latOf h) :=
    inv_adopts_self hi (by rw [(view_atoms_ok h1).1]; exact hx)
  unfold Safe
  rcases hp : planG w.view op with e | act; · trivial
  show SafeAct w act
  cases planG_ok hp with
  | setLatFresh _ | setLatOf _ _ => exact ha.elim
  | mkAtom | addNew _ | drop _ | pickleShape _ _ => trivial
  | mkStru | delitem _ | delslice _ | pop _ | reverse _ | sort _ | clear _ | remove _ _ _ | copy _ | deepcopy _ | pickle _ _
  | add _ _ | iadd _ _ | imulClear _ _ | imulRep _ _ | ctorEmpty _ =>
    exact safe_plan_allTrue w _ rfl rfl
  | append _ _ | insert _ _ => exact safe_plan_allTrue w _ rfl (congrArg (· :: []) (decide_eq_true ha))
  | setitem _ _ => exact safe_plan_allTrue w _ rfl (congrArg (· :: []) ha)
  | extend _ h2 =>
    apply safe_plan_allTrue w _ rfl
    rcases ha with rfl | ⟨rfl, h', rfl⟩
    · rfl
    · cases (iter_stru h2).2; rfl
  | ctorFrom h2 _ =>
    rcases ha with ha | ⟨h', ha⟩ <;> cases ha
    cases (iter_stru h2).2
    exact safe_plan_allTrue w _ rfl rfl
  | getitem h1 h2 =>
    rcases planIndex_ok h2 with ⟨k, a, _, rfl⟩ | ⟨idxs, rfl⟩
    · trivial
    · refine ⟨trivial, ?_⟩
      show Adopts w (keptOf (pick _ idxs) (allFalse _)) (w.latOf _)
      rw [keptOf_allFalse]
      exact members h1 (pick_subset _ _)
  | setslice h1 _ _ =>
    cases ha
    -- the atoms not copied are members of the assigned slice
    refine ⟨trivial, members h1 fun x hx => ?_⟩
    have := (mem_keptOf_map hx).2
    simp only [decide_eq_false_iff_not, Decidable.not_not] at this
    exact pick_subset _ _ x this
  | sub h1 _ =>
    refine ⟨members h1 fun x hx => (List.mem_filter.mp hx).1, ?_⟩
    simp only [keptOf_allTrue]
    exact adopts_nil w _
  | isub h1 _ =>
    refine ⟨trivial, ?_⟩
    simp only [keptOf_allFalse]
    exact members h1 fun x hx => (List.mem_filter.mp hx).1
  | mul _ =>
    refine ⟨adopts_nil w _, ?_⟩
    simp only [keptOf_allTrue]
    exact adopts_nil w _

instance (w : World) (op : Op) : Decidable (Safe w op) := by
  unfold Safe
  cases planG w.view op <;> infer_instance

instance decSafeHist : (w : World) → (ops : List Op) → Decidable (SafeHist w ops)
  | _, [] => isTrue trivial
  | w, op :: ops => @instDecidableAnd _ _ _ (decSafeHist (w.stepFull op).1 ops)


end World

/-! #### no atom in two slots -/

section NodupLists
variable {α : Type}

theorem nodup_mid {a c ys : List α} (hac : (a ++ c).Nodup) (hy : ys.Nodup) (hd : ∀ y ∈ ys, y ∉ a ++ c) :
    (a ++ ys ++ c).Nodup := by
  simp only [List.nodup_append, List.mem_append] at hac hd ⊢
  obtain ⟨ha, hc, hac'⟩ := hac
  refine ⟨⟨ha, hy, ?_⟩, hc, ?_⟩
  · intro x hx y hyy e; subst e; exact hd x hyy (Or.inl hx)
  · intro x hx y hyc e
    subst e
    rcases hx with hx | hx
    · exact hac' x hx x hyc rfl
    · exact hd x hx (Or.inr hyc)

theorem pick_nodup [DecidableEq α] (l : List α) (idxs : List Nat) (hl : l.Nodup) (hi : idxs.Nodup) : (pick l idxs).Nodup := by
  induction idxs with
  | nil => simp [pick]
  | cons i is ih =>
    simp only [List.nodup_cons] at hi
    simp only [pick, List.filterMap_cons]
    cases hg : l[i]? with
    | none => exact ih hi.2
    | some a =>
      simp only [List.nodup_cons]
      refine ⟨?_, ih hi.2⟩
      intro hmem
      simp only [List.mem_filterMap] at hmem
      obtain ⟨j, hj, hja⟩ := hmem
      have hil : i < l.length := by
        rcases Nat.lt_or_ge i l.length with h | h
        · exact h
        · simp [List.getElem?_eq_none h] at hg
      have : i = j := (List.getElem?_inj hil hl).mp (by rw [hg, hja])
      subst this
      exact hi.1 hj

theorem insertByKey_perm (keys : List Nat) (i : Nat) (l : List Nat) : (insertByKey keys i l).Perm (i :: l) := by
  induction l with
  | nil => simp [insertByKey]
  | cons j r ih =>
    simp only [insertByKey]
    split
    · exact List.Perm.refl _
    · exact (List.Perm.cons j ih).trans (List.Perm.swap i j r)

theorem foldl_insertByKey_perm (keys : List Nat) (is acc : List Nat) :
    (is.foldl (fun acc i => insertByKey keys i acc) acc).Perm (is.reverse ++ acc) := by
  induction is generalizing acc with
  | nil => simp
  | cons i is ih =>
    simp only [List.foldl_cons, List.reverse_cons, List.append_assoc, List.singleton_append]
    exact (ih _).trans (List.Perm.append_left _ (insertByKey_perm keys i acc))

theorem sortIdx_nodup (keys : List Nat) : (sortIdx keys).Nodup := by
  have h := foldl_insertByKey_perm keys (List.range keys.length) []
  simp only [List.append_nil] at h
  have h2 : (List.range keys.length).reverse.Nodup := by
    rw [List.Nodup, List.pairwise_reverse]
    have := @List.nodup_range keys.length
    simp only [List.Nodup] at this
    exact this.imp (fun h => Ne.symm h)
  exact h.symm.nodup h2

/-- the slice has step 1 after adjustment (or is rejected) -/
def plainSlice (n : Nat) (sl : Slice) : Bool := match sliceAdjust n sl with
  | .ok a => a.2.2 == 1
  | .error _ => true

/-- the edits covered by `no_alias_partial`: everything except the assignment to an *extended*
slice (step ≠ 1) and an arbitrary permutation that repeats an index -/
def CoreEdit : Edit → Nat → Prop
  | .setSlice sl, n => plainSlice n sl = true
  | .permute idxs, _ => idxs.Nodup
  | _, _ => True

instance (e : Edit) (n : Nat) : Decidable (CoreEdit e n) := by
  cases e <;> unfold CoreEdit <;> infer_instance

end NodupLists

namespace World

theorem copySome_nodup (w : World) (xs : List Nat) (fl : List Bool) (hk : (keptOf xs fl).Nodup)
    (hx : ∀ x ∈ xs, x < w.nextA) : (w.copySome xs fl).2.Nodup := by
  induction xs generalizing w fl with
  | nil => simp [copySome]
  | cons a r ih =>
    have hr : ∀ x ∈ r, x < w.nextA := fun x h => hx x (by simp [h])
    cases fl with
    | nil =>
      simp only [keptOf, List.nodup_cons] at hk
      simp only [copySome, List.nodup_cons]
      refine ⟨?_, ih w [] hk.2 hr⟩
      intro hin
      rcases copySome_mem w r [] a hin with h | h
      · exact hk.1 h
      · have := hx a (by simp); omega
    | cons b fr =>
      cases b with
      | false =>
        simp only [keptOf, List.nodup_cons] at hk
        simp only [copySome, List.nodup_cons]
        refine ⟨?_, ih w fr hk.2 hr⟩
        intro hin
        rcases copySome_mem w r fr a hin with h | h
        · exact hk.1 h
        · have := hx a (by simp); omega
      | true =>
        simp only [keptOf] at hk
        simp only [copySome, List.nodup_cons]
        have hr' : ∀ x ∈ r, x < (w.allocAtom (w.pay a) (w.alat a)).nextA := by
          intro x h; have := hr x h; simp only [allocAtom_nextA]; omega
        refine ⟨?_, ih _ fr hk hr'⟩
        intro hin
        rcases copySome_mem _ r fr w.nextA hin with h | h
        · have := hr w.nextA ((keptOf_sublist r fr).subset h); omega
        · have := h.1; simp only [allocAtom_nextA] at this; omega

/-- no live structure holds an atom object in two slots -/
def NodupInv (w : World) : Prop := ∀ s ∈ w.strus, s.live = true → s.atoms.Nodup

/-- the member list an action edits (empty for a new structure) -/
def oldOf (w : World) (p : Plan Nat) : List Nat := match p.tgt with
  | .old h => w.atomsOf h
  | .new _ => []

/-- side condition of `no_alias_partial`, on the action and the pre-state: the atoms taken over *without
copying* are pairwise different and none of them is a member that stays in the target (i.e. the caller
did not pass `copy=False` a duplicate, and a slice assignment / index selection does not list one
member twice); the edit is not an extended-slice assignment; pickling uses protocol ≥ 2 -/
def DupFreeAct (w : World) : Act Nat → Prop
  | .plan p =>
    (keptOf p.inc p.flags).Nodup ∧ (∀ y ∈ keptOf p.inc p.flags, y ∉ remain p.edit (oldOf w p)) ∧
    CoreEdit p.edit (oldOf w p).length
  | .copyShape _ _ => False
  | _ => True

theorem oldOf_lt {w : World} (hw : Wf w) (p : Plan Nat) : ∀ z ∈ oldOf w p, z < w.nextA := by
  unfold oldOf
  split
  · exact atomsOf_lt hw _
  · nofun

theorem prep_atomsOf (w : World) (p : Plan Nat) :
    (w.prep p).1.atomsOf (w.prep p).2.1 = oldOf w p := by
  obtain ⟨e1, _, _, _, e5, _⟩ := prep_strus w p
  obtain ⟨_, _, _, _, _, g6⟩ := w1_frame w p
  simp only [atomsOf, e1, g6, e5, hT, oldOf]
  cases p.tgt with
  | old h => rfl
  | new src => simp

theorem prep_nodupInv {w : World} (hn : NodupInv w) (p : Plan Nat) : NodupInv (w.prep p).1 := by
  intro s hs hl
  rcases mem_prep_strus hs with h | h
  · exact hn s h hl
  · rw [h]; exact List.nodup_nil

theorem atomsOf_nodup {w : World} (hn : NodupInv w) (h : Nat) : (w.atomsOf h).Nodup := by
  simp only [atomsOf]
  split
  · rename_i s hs
    split
    · rename_i hl; exact hn s (List.mem_of_getElem? hs) hl
    · exact List.nodup_nil
  · exact List.nodup_nil

instance (w : World) (act : Act Nat) : Decidable (DupFreeAct w act) := by
  cases act <;> unfold DupFreeAct <;> infer_instance

/-- the side condition of one step of `no_alias_partial` -/
def DupFree (w : World) (op : Op) : Prop :=
  match planG w.view op with
  | .ok act => DupFreeAct w act
  | .error _ => True

instance (w : World) (op : Op) : Decidable (DupFree w op) := by
  unfold DupFree
  cases planG w.view op <;> infer_instance

def DupFreeHist : World → List Op → Prop
  | _, [] => True
  | w, op :: ops => DupFree w op ∧ DupFreeHist (w.stepFull op).1 ops

instance decDupFreeHist : (w : World) → (ops : List Op) → Decidable (DupFreeHist w ops)
  | _, [] => isTrue trivial
  | w, op :: ops => @instDecidableAnd _ _ _ (decDupFreeHist (w.stepFull op).1 ops)

end World

end DS.World

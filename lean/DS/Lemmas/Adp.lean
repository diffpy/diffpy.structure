import DS.Model.Adp
import DS.Lemmas.RealElem
import Mathlib.Tactic.NormNum
import Mathlib.Tactic.Linarith

/-!
Helper lemmas for C09 / C14: the ADP state machine of `DS.Model.Adp` over the reals.
-/
namespace DS
open Real

/-- the constants of `atom.py` over the reals: `π` and `ε = 10⁻⁸` -/
noncomputable instance : AdpConst ℝ where
  pi := Real.pi
  eps := 1 / 100000000

theorem eps_pos : (0 : ℝ) < (AdpConst.eps : ℝ) := by
  show (0 : ℝ) < 1 / 100000000
  norm_num

/-- `_BtoU = 1/(8π²)` -/
theorem BtoU_eq : (BtoU : ℝ) = 1 / (8 * π ^ 2) := by
  show (1 : ℝ) / (8 * (π * π)) = 1 / (8 * π ^ 2)
  ring

/-- `_UtoB = 8π²` -/
theorem UtoB_eq : (UtoB : ℝ) = 8 * π ^ 2 := by
  show (1 : ℝ) / (1 / (8 * (π * π))) = 8 * π ^ 2
  have : (π : ℝ) ≠ 0 := Real.pi_ne_zero
  field_simp

theorem UtoB_mul_BtoU : (UtoB : ℝ) * BtoU = 1 := by
  rw [UtoB_eq, BtoU_eq]
  have : (π : ℝ) ≠ 0 := Real.pi_ne_zero
  field_simp

theorem absα_zero : absα (0 : ℝ) = 0 := by simp [absα]

/-! ### the entry setters and broadcasts of `DS.Model.Adp` -/
namespace Mat3
variable {R : Type} [CommRing R]

theorem rowScale_mul (a b : Mat3 R) (p q r : R) : (a.rowScale p q r).mul b = (a.mul b).rowScale p q r := by
  simp only [mul, rowScale, _root_.add_mul, mul_right_comm _ p, mul_right_comm _ q, mul_right_comm _ r]

theorem isSymm_scaleR {m : Mat3 R} (c : R) (h : m.isSymm) : (m.scaleR c).isSymm := by
  obtain ⟨h1, h2, h3⟩ := h
  exact ⟨by simp only [scaleR, h1], by simp only [scaleR, h2], by simp only [scaleR, h3]⟩

omit [CommRing R] in
theorem get_set (m : Mat3 R) (i j p q : Ix) (v : R) :
    (m.set i j v).get p q = if p = i ∧ q = j then v else m.get p q := by
  cases i <;> cases j <;> cases p <;> cases q <;> rfl

omit [CommRing R] in
theorem isSymm_set00 {m : Mat3 R} (v : R) (h : m.isSymm) : (m.set .i0 .i0 v).isSymm := h

omit [CommRing R] in
/-- `_set_Uij` writes `[i,j]` and `[j,i]`: symmetry is kept -/
theorem isSymm_set_set {m : Mat3 R} (i j : Ix) (v : R) (h : m.isSymm) :
    ((m.set i j v).set j i v).isSymm := by
  obtain ⟨h1, h2, h3⟩ := h
  cases i <;> cases j <;> exact ⟨by simp [set, h1], by simp [set, h2], by simp [set, h3]⟩

end Mat3

namespace Mat3
variable {K : Type} [Field K]

theorem rowScale_one (m : Mat3 K) : m.rowScale 1 1 1 = m := by simp only [rowScale, _root_.mul_one]

theorem colDiv_one (m : Mat3 K) : m.colDiv 1 1 1 = m := by simp only [colDiv, div_one]

end Mat3

theorem divS_vecMul {K : Type} [Field K] (v : Vec3 K) (b : Mat3 K) (d : K) :
    (Mat3.vecMul v b).divS d = Mat3.vecMul (v.divS d) b := by
  simp only [Mat3.vecMul, Vec3.divS, Vec3.mk.injEq]
  refine ⟨?_, ?_, ?_⟩ <;> ring

/-! ### consequences of `LatOK` -/
section latok
variable {l : LatData ℝ}

theorem LatOK.recnormbase_normbase (h : LatOK l) : l.recnormbase.mul l.normbase = Mat3.one := by
  have c : ∀ {p : ℝ}, p ≠ 0 → ∀ x y : ℝ, x / p * (y * p) = x * y := fun hp x y => by field_simp
  rw [h.normbase_def, h.recnormbase_def, ← h.rec_base]
  simp only [Mat3.mul, Mat3.colDiv, Mat3.rowScale, c h.ar_ne, c h.br_ne, c h.cr_ne]

theorem LatOK.normbase_recnormbase (h : LatOK l) : l.normbase.mul l.recnormbase = Mat3.one :=
  Mat3.mul_eq_one_comm h.recnormbase_normbase

/-- forcing the diagonal changes nothing for a genuine lattice -/
theorem LatOK.iso_eq (h : LatOK l) : l.isotropicunit = l.recnormbase.transpose.mul l.recnormbase := by
  rw [h.iso_def]
  have h1 := h.iso_diag11; have h2 := h.iso_diag22; have h3 := h.iso_diag33
  apply Mat3.ext' <;> simp only [isotropicunitOf, Mat3.forceDiag1]
  · exact h1.symm
  · exact h2.symm
  · exact h3.symm

theorem LatOK.iso_symm (h : LatOK l) : l.isotropicunit.isSymm := by
  rw [h.iso_eq]; exact Mat3.isSymm_transpose_mul_self _

theorem LatOK.iso_diag (h : LatOK l) :
    l.isotropicunit.a11 = 1 ∧ l.isotropicunit.a22 = 1 ∧ l.isotropicunit.a33 = 1 := by
  rw [h.iso_def]; exact ⟨rfl, rfl, rfl⟩

theorem LatOK.ucart_iso (h : LatOK l) (u : ℝ) :
    AtomS.ucart l (Mat3.smul u l.isotropicunit) = Mat3.smul u Mat3.one := by
  unfold AtomS.ucart
  rw [h.iso_eq, Mat3.smul_mul, Mat3.mul_smul, Mat3.mul_assoc, h.recnormbase_normbase, Mat3.mul_one,
    ← Mat3.transpose_mul, h.recnormbase_normbase, Mat3.transpose_one]

/-- the six-term formula of `Uisoequiv` is one third of the trace of the Cartesian tensor -/
theorem LatOK.sixterm_trace (h : LatOK l) {u : Mat3 ℝ} (hu : u.isSymm) :
    1 / 3 *
        (u.a11 * l.ar * l.ar * l.a * l.a + u.a22 * l.br * l.br * l.b * l.b + u.a33 * l.cr * l.cr * l.c * l.c
          + 2 * u.a12 * l.ar * l.br * l.a * l.b * l.cg + 2 * u.a13 * l.ar * l.cr * l.a * l.c * l.cb
          + 2 * u.a23 * l.br * l.cr * l.b * l.c * l.ca)
      = (AtomS.ucart l u).trace / 3 := by
  obtain ⟨s1, s2, s3⟩ := hu
  have e := h.metrics_gram
  rw [h.metrics_def] at e
  have e11 := congrArg Mat3.a11 e; have e12 := congrArg Mat3.a12 e; have e13 := congrArg Mat3.a13 e
  have e22 := congrArg Mat3.a22 e; have e23 := congrArg Mat3.a23 e; have e33 := congrArg Mat3.a33 e
  simp only [Mat3.mul, Mat3.transpose, metricsOf] at e11 e12 e13 e22 e23 e33
  unfold AtomS.ucart
  rw [h.normbase_def]
  simp only [Mat3.mul, Mat3.transpose, Mat3.rowScale, Mat3.trace, ← s1, ← s2, ← s3]
  linear_combination (-(1 : ℝ) / 3 * u.a11 * l.ar * l.ar) * e11 + (-(1 : ℝ) / 3 * u.a22 * l.br * l.br) * e22
    + (-(1 : ℝ) / 3 * u.a33 * l.cr * l.cr) * e33 + (-(2 : ℝ) / 3 * u.a12 * l.ar * l.br) * e12
    + (-(2 : ℝ) / 3 * u.a13 * l.ar * l.cr) * e13 + (-(2 : ℝ) / 3 * u.a23 * l.br * l.cr) * e23

/-- `Lattice()` satisfies the hypotheses -/
theorem latOK_cartesian : LatOK (cartesianLat : LatData ℝ) := by
  have e : (Mat3.one : Mat3 ℝ).transpose.mul Mat3.one = Mat3.one := Mat3.mul_one _
  exact
    { base_rec := Mat3.mul_one _
      rec_base := Mat3.mul_one _
      normbase_def := (Mat3.rowScale_one _).symm
      recnormbase_def := (Mat3.colDiv_one _).symm
      ar_ne := one_ne_zero
      br_ne := one_ne_zero
      cr_ne := one_ne_zero
      iso_def := (congrArg Mat3.forceDiag1 e).symm
      iso_diag11 := congrArg Mat3.a11 e
      iso_diag22 := congrArg Mat3.a22 e
      iso_diag33 := congrArg Mat3.a33 e
      metrics_def := by
        show Mat3.one = metricsOf 1 1 1 0 0 0
        simp only [metricsOf, Mat3.one, mul_one, mul_zero]
      metrics_gram := Mat3.mul_one _ }

end latok

/-! ### the invariant of the ADP state machine -/

/-- the lattice reference, when present, is a genuine lattice -/
def LatOK? (o : Option (LatData ℝ)) : Prop := ∀ l, o = some l → LatOK l

/-- invariant: symmetric storage, genuine lattice -/
structure AdpInv (s : AtomS ℝ) : Prop where
  symm : s.U.isSymm
  lat : LatOK? s.lat

/-- admissible steps: symmetric tensors, genuine lattices -/
def OpOK : AdpOp ℝ → Prop
  | .setU m => m.isSymm
  | .setLattice l => LatOK? l
  | _ => True

namespace AtomS
variable {s : AtomS ℝ}

theorem latOf_ok (h : AdpInv s) : LatOK s.latOf := by
  unfold latOf
  cases hl : s.lat with
  | none => exact latOK_cartesian
  | some l => exact h.lat l hl

theorem default_inv : AdpInv (AtomS.default : AtomS ℝ) :=
  ⟨Mat3.isSymm_zero, fun _ h => by simp [AtomS.default] at h⟩

theorem getU_fst_symm (h : AdpInv s) : (s.getU).1.isSymm := by
  unfold getU
  cases s.aniso with
  | true => exact h.symm
  | false => exact Mat3.isSymm_smul _ (latOf_ok h).iso_symm

theorem getU_snd_inv (h : AdpInv s) : AdpInv (s.getU).2 := by
  unfold getU
  cases hs : s.aniso with
  | true => exact h
  | false =>
    refine ⟨?_, h.lat⟩
    have := Mat3.isSymm_smul s.U.a11 (latOf_ok h).iso_symm
    simpa using this

theorem getU_snd_aniso : (s.getU).2.aniso = s.aniso := by
  unfold getU; split <;> rfl

theorem getU_snd_lat : (s.getU).2.lat = s.lat := by
  unfold getU; split <;> rfl

theorem setAniso_inv (b : Bool) (h : AdpInv s) : AdpInv (s.setAniso b) := by
  unfold setAniso
  by_cases hb : (b == s.aniso) = true
  · simp only [hb, if_true]; exact h
  · simp only [hb]
    cases b with
    | true =>
      have h2 := getU_snd_inv h
      exact ⟨h2.symm, by simpa using h2.lat⟩
    | false => exact ⟨Mat3.isSymm_set00 _ h.symm, h.lat⟩

theorem setUij_inv (i j : Ix) (v : ℝ) (h : AdpInv s) : AdpInv (s.setUij i j v) := by
  unfold setUij
  refine ⟨?_, h.lat⟩
  have h1 := Mat3.isSymm_set_set i j v h.symm
  by_cases hc : (!s.aniso && i == j && i != Ix.i0) = true
  · simp only [hc, if_true]; exact Mat3.isSymm_set00 _ h1
  · simp only [hc]; exact h1

theorem setUiso_inv (v : ℝ) (h : AdpInv s) : AdpInv (s.setUiso v) := by
  unfold setUiso
  cases hs : s.aniso with
  | false => exact ⟨Mat3.isSymm_set00 _ h.symm, h.lat⟩
  | true =>
    simp only [if_true]
    split
    · exact ⟨Mat3.isSymm_smul _ (latOf_ok h).iso_symm, h.lat⟩
    · exact ⟨Mat3.isSymm_scaleR _ h.symm, h.lat⟩

end AtomS

theorem apply_inv {s : AtomS ℝ} (op : AdpOp ℝ) (hop : OpOK op) (h : AdpInv s) : AdpInv (op.apply s) := by
  cases op with
  | setAniso b => exact AtomS.setAniso_inv b h
  | setU m => exact ⟨hop, h.lat⟩
  | setUij i j v => exact AtomS.setUij_inv i j v h
  | setBij i j v => exact AtomS.setUij_inv i j _ h
  | setUiso v => exact AtomS.setUiso_inv v h
  | setBiso v => exact AtomS.setUiso_inv _ h
  | setLattice l => exact ⟨h.symm, hop⟩
  | readU => exact AtomS.getU_snd_inv h

theorem runOps_inv (ops : List (AdpOp ℝ)) : ∀ {s : AtomS ℝ}, AdpInv s → (∀ op ∈ ops, OpOK op) → AdpInv (runOps s ops) := by
  induction ops with
  | nil => intro s h _; exact h
  | cons op ops ih =>
    intro s h hops
    show AdpInv (runOps (op.apply s) ops)
    exact ih (apply_inv op (hops op (List.mem_cons_self ..)) h) (fun o ho => hops o (List.mem_cons_of_mem _ ho))

/-! ### readable quantities of a state satisfying the invariant -/
namespace AtomS
variable {s : AtomS ℝ}

/-- `Uisoequiv = trace(Cartesian tensor)/3` -/
theorem uisoequiv_trace (h : AdpInv s) : s.uisoequiv = (ucart s.latOf (s.getU).1).trace / 3 := by
  have hl := latOf_ok h
  unfold uisoequiv getU
  cases hs : s.aniso with
  | false =>
    simp only [Bool.not_false, if_true, Bool.false_eq_true, if_false]
    rw [hl.ucart_iso, Mat3.trace_smul_one]; ring
  | true =>
    simp only [Bool.not_true, Bool.false_eq_true, if_false, if_true]
    cases hlat : s.lat with
    | none =>
      have : s.latOf = cartesianLat := by unfold latOf; rw [hlat]; rfl
      rw [this]
      simp only [ucart, cartesianLat, Mat3.transpose_one, Mat3.mul_one, Mat3.one_mul]
    | some l =>
      have : s.latOf = l := by unfold latOf; rw [hlat]; rfl
      rw [this]
      exact (h.lat l hlat).sixterm_trace h.symm

/-- value of `Uisoequiv` of an anisotropic state whose storage is `u · isotropicunit` -/
theorem uisoequiv_of_iso_storage (h : AdpInv s) (ha : s.aniso = true) (u : ℝ)
    (hU : s.U = Mat3.smul u s.latOf.isotropicunit) : s.uisoequiv = u := by
  rw [uisoequiv_trace h]
  have : (s.getU).1 = s.U := by unfold getU; simp [ha]
  rw [this, hU, (latOf_ok h).ucart_iso, Mat3.trace_smul_one]; ring

/-- `Uisoequiv` is linear in the storage of an anisotropic atom -/
theorem uisoequiv_scaleR (ha : s.aniso = true) (f : ℝ) :
    ({ s with U := s.U.scaleR f } : AtomS ℝ).uisoequiv = f * s.uisoequiv := by
  unfold uisoequiv
  simp only [ha, Bool.not_true, Bool.false_eq_true, if_false]
  cases s.lat with
  | none => simp only [Mat3.trace, Mat3.scaleR]; ring
  | some l => simp only [Mat3.scaleR]; ring

end AtomS
end DS

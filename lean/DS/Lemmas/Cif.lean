import DS.Model.Cif
import DS.Model.CifNum
import DS.Lemmas.OrbitExact
import DS.Lemmas.Constraints

/-!
Helper lemmas for C07: structure of the atom list produced by `Cif.expand` (blocks per site,
attributes of the images), the label algebra (`imageLabel` is injective in both arguments on the
images `j ≥ 1`), and the analysis of the numeric-prefix matcher `CifNum.floatMatch`
(a literal followed by anything that cannot continue it is matched exactly).
-/
namespace DS
namespace Cif
open Orbit

/-- multiplicity of a site = number of positions `expandPosition` returns -/
def mult (ops : List Op) (k E : Int) (s : Site) : Nat := (Orbit.result ops k E (0, 0, 0) s.x).1.length

/-! ### blocks -/

theorem expandFrom_eq (ops : List Op) (k E : Int) : ∀ (n : Nat) (sites : List Site),
    expandFrom ops k E n sites = (sites.zipIdx n).flatMap (fun si => expandSite ops k E si.2 si.1)
  | _, [] => by simp [expandFrom]
  | n, s :: ss => by
    simp only [expandFrom, List.zipIdx_cons, List.flatMap_cons]
    rw [expandFrom_eq ops k E (n + 1) ss]

theorem expandSite_length (ops : List Op) (k E : Int) (i : Nat) (s : Site) :
    (expandSite ops k E i s).length = mult ops k E s := by
  simp [expandSite, mult]

theorem expandFrom_length (ops : List Op) (k E : Int) : ∀ (n : Nat) (sites : List Site),
    (expandFrom ops k E n sites).length = (sites.map (mult ops k E)).sum
  | _, [] => by simp [expandFrom]
  | n, s :: ss => by
    simp only [expandFrom, List.length_append, List.map_cons, List.sum_cons, expandSite_length,
      expandFrom_length ops k E (n + 1) ss]

theorem mem_expandSite {ops : List Op} {k E : Int} {i : Nat} {s : Site} {a : OutAtom} :
    a ∈ expandSite ops k E i s ↔ ∃ j, j < mult ops k E s ∧
      a = { site := i, img := j, label := imageLabel s.label j, elem := s.elem,
            pos := (Orbit.result ops k E (0, 0, 0) s.x).1.getD j (0, 0, 0), occ := s.occ, aniso := s.aniso,
            U := if s.aniso then
                Con.rotT (Con.rotQ (((Orbit.result ops k E (0, 0, 0) s.x).2.1.getD j []).headD Op.one)) s.U
              else s.U } := by
  simp only [expandSite, mult, List.mem_map, List.mem_range]
  constructor
  · rintro ⟨j, hj, rfl⟩; exact ⟨j, hj, rfl⟩
  · rintro ⟨j, hj, rfl⟩; exact ⟨j, hj, rfl⟩

theorem expandSite_img (ops : List Op) (k E : Int) (i : Nat) (s : Site) :
    (expandSite ops k E i s).map (·.img) = List.range (mult ops k E s) := by
  simp only [expandSite, mult, List.map_map]
  exact List.map_id'' (fun _ => rfl) _

theorem map_getD_range {α : Type} (l : List α) (d : α) : (List.range l.length).map (fun j => l.getD j d) = l := by
  apply List.ext_getElem
  · simp
  · intro i h1 h2
    simp only [List.getElem_map, List.getElem_range]
    exact List.getD_eq_getElem (l := l) (d := d) h2

theorem expandSite_pos (ops : List Op) (k E : Int) (i : Nat) (s : Site) :
    (expandSite ops k E i s).map (·.pos) = (Orbit.result ops k E (0, 0, 0) s.x).1 := by
  simp only [expandSite, List.map_map]
  exact map_getD_range _ _

theorem expandSite_labels (ops : List Op) (k E : Int) (i : Nat) (s : Site) :
    (expandSite ops k E i s).map (·.label) = (List.range (mult ops k E s)).map (imageLabel s.label) := by
  simp only [expandSite, mult, List.map_map]
  rfl

theorem expandFrom_labels (ops : List Op) (k E : Int) : ∀ (n : Nat) (sites : List Site),
    (expandFrom ops k E n sites).map (·.label) =
      sites.flatMap (fun s => (List.range (mult ops k E s)).map (imageLabel s.label))
  | _, [] => by simp [expandFrom]
  | n, s :: ss => by
    simp only [expandFrom, List.map_append, List.flatMap_cons, expandSite_labels,
      expandFrom_labels ops k E (n + 1) ss]

theorem headD_filter_eq_find {p : Op → Bool} {ops : List Op} {g : Op} (h : ops.find? p = some g) :
    (ops.filter p).headD Op.one = g := by
  rw [List.headD_eq_head?_getD, List.head?_filter, h]; rfl

/-! ### labels -/

theorem toString_nat_inj {m n : Nat} (h : toString m = toString n) : m = n := by
  have h' : (Nat.repr m).toList = (Nat.repr n).toList := congrArg String.toList h
  rw [Nat.toList_repr, Nat.toList_repr] at h'
  have := congrArg (fun l => Nat.ofDigitChars 10 l 0) h'
  simpa [Nat.ofDigitChars_ten_toDigits] using this

theorem underscore_not_mem_toString (n : Nat) : '_' ∉ (toString n).toList := by
  show '_' ∉ (Nat.repr n).toList
  rw [Nat.toList_repr]; exact Nat.underscore_not_in_toDigits

theorem imageLabel_zero (l : String) : imageLabel l 0 = l := by simp [imageLabel]

theorem imageLabel_pos (l : String) {j : Nat} (hj : 1 ≤ j) : imageLabel l j = l ++ "_" ++ toString (j + 1) := by
  have : j ≠ 0 := by omega
  simp [imageLabel, this]

theorem split_last_underscore : ∀ {a a' d d' : List Char}, '_' ∉ d → '_' ∉ d' →
    a ++ '_' :: d = a' ++ '_' :: d' → a = a' ∧ d = d'
  | [], [], d, d', _, _, h => by simpa using h
  | [], c :: r, d, d', hd, _, h => by
    simp only [List.nil_append, List.cons_append, List.cons.injEq] at h
    exact absurd (h.2 ▸ List.mem_append_right r List.mem_cons_self) hd
  | c :: r, [], d, d', _, hd', h => by
    simp only [List.nil_append, List.cons_append, List.cons.injEq] at h
    exact absurd (h.2 ▸ List.mem_append_right r List.mem_cons_self) hd'
  | c :: r, c' :: r', d, d', hd, hd', h => by
    simp only [List.cons_append, List.cons.injEq] at h
    obtain ⟨e1, e2⟩ := split_last_underscore hd hd' h.2
    exact ⟨by rw [h.1, e1], e2⟩

theorem imageLabel_pos_inj {l l' : String} {j j' : Nat} (hj : 1 ≤ j) (hj' : 1 ≤ j')
    (h : imageLabel l j = imageLabel l' j') : l = l' ∧ j = j' := by
  rw [imageLabel_pos l hj, imageLabel_pos l' hj'] at h
  have h' := congrArg String.toList h
  simp only [String.toList_append] at h'
  have hu : ("_" : String).toList = ['_'] := rfl
  rw [hu, List.append_assoc, List.append_assoc, List.singleton_append, List.singleton_append] at h'
  obtain ⟨e1, e2⟩ := split_last_underscore (underscore_not_mem_toString _) (underscore_not_mem_toString _) h'
  refine ⟨String.toList_inj.1 e1, ?_⟩
  have := toString_nat_inj (String.toList_inj.1 e2)
  omega

theorem imageLabel_inj (l : String) {j j' : Nat} (h : imageLabel l j = imageLabel l j') : j = j' := by
  have hlen : ∀ i, 1 ≤ i → (imageLabel l i).length > l.length := by
    intro i hi; rw [imageLabel_pos l hi]
    have : ("_" : String).length = 1 := by decide
    simp only [String.length_append, this]; omega
  rcases Nat.eq_zero_or_pos j with h0 | hp <;> rcases Nat.eq_zero_or_pos j' with h0' | hp'
  · omega
  · subst h0; have := hlen j' hp'; rw [← h, imageLabel_zero] at this; omega
  · subst h0'; have := hlen j hp; rw [h, imageLabel_zero] at this; omega
  · exact (imageLabel_pos_inj hp hp' h).2

end Cif
end DS

/-! ## the numeric prefix (`leading_float`) -/
namespace DS
namespace CifNum

/-! ### character classes -/

theorem isSign_of_isDig {c : Char} (h : isDig c = true) : isSign c = false := by
  have h1 : c ≠ '-' := by rintro rfl; revert h; decide
  have h2 : c ≠ '+' := by rintro rfl; revert h; decide
  simp [isSign, h1, h2]

theorem isE_of_isDig {c : Char} (h : isDig c = true) : isE c = false := by
  have h1 : c ≠ 'e' := by rintro rfl; revert h; decide
  have h2 : c ≠ 'E' := by rintro rfl; revert h; decide
  simp [isE, h1, h2]

theorem not_isDig_of_isE {c : Char} (h : isE c = true) : isDig c = false := by
  cases hd : isDig c with
  | false => rfl
  | true => rw [isE_of_isDig hd] at h; cases h

theorem ne_dot_of_isE {c : Char} (h : isE c = true) : c ≠ '.' := by
  rintro rfl; revert h; decide

/-- the next character (if any) satisfies `p` -/
def Next (p : Char → Bool) (rest : List Char) : Prop := ∀ c ∈ rest.head?, p c = true

theorem next_nil (p : Char → Bool) : Next p [] := by simp [Next]
theorem next_cons {p : Char → Bool} {c : Char} {r : List Char} : Next p (c :: r) ↔ p c = true := by simp [Next]

/-! ### runs of digits -/

theorem takeWhile_run {p : Char → Bool} {a rest : List Char} (ha : ∀ x ∈ a, p x = true)
    (hr : Next (fun c => !p c) rest) : (a ++ rest).takeWhile p = a := by
  rw [List.takeWhile_append_of_pos ha]
  cases rest with
  | nil => simp
  | cons c r =>
    have : p c = false := by simpa using next_cons.1 hr
    simp [this]

theorem dropWhile_run {p : Char → Bool} {a rest : List Char} (ha : ∀ x ∈ a, p x = true)
    (hr : Next (fun c => !p c) rest) : (a ++ rest).dropWhile p = rest := by
  rw [List.dropWhile_append_of_pos ha]
  cases rest with
  | nil => simp
  | cons c r =>
    have : p c = false := by simpa using next_cons.1 hr
    simp [this]

theorem mem_takeWhile_imp {p : Char → Bool} : ∀ {l : List Char} {x : Char}, x ∈ l.takeWhile p → p x = true
  | [], _, h => by simp at h
  | c :: r, x, h => by
    rw [List.takeWhile_cons] at h
    split at h
    · rcases List.mem_cons.1 h with rfl | h'
      · assumption
      · exact mem_takeWhile_imp h'
    · simp at h

/-! ### the grammar, generatively -/

/-- `digits+`, `digits+ '.' digits*` or `'.' digits+` -/
def IsMant (m : List Char) : Prop :=
  ∃ ip fr : List Char, (∀ x ∈ ip, isDig x = true) ∧ (∀ x ∈ fr, isDig x = true) ∧
    ((ip ≠ [] ∧ m = ip) ∨ (ip ≠ [] ∧ m = ip ++ '.' :: fr) ∨ (fr ≠ [] ∧ m = '.' :: fr))

def IsSignOpt (sg : List Char) : Prop := sg = [] ∨ ∃ c, isSign c = true ∧ sg = [c]

/-- what may follow the mantissa for it to be read completely -/
def endMant (c : Char) : Bool := !isDig c && !(c == '.')

theorem mantissa_spec {m rest : List Char} (hm : IsMant m) (hr : Next endMant rest) :
    mantissa (m ++ rest) = some (m, rest) := by
  have hnd : Next (fun c => !isDig c) rest := fun c hc => by
    have := hr c hc; simp only [endMant, Bool.and_eq_true] at this; exact this.1
  have hdot : ∀ r, rest ≠ '.' :: r := by
    rintro r rfl
    have := next_cons.1 hr; simp [endMant] at this
  obtain ⟨ip, fr, hip, hfr, h | h | h⟩ := hm
  · obtain ⟨hne, rfl⟩ := h
    have e1 := takeWhile_run hip hnd
    have e2 := dropWhile_run hip hnd
    have hemp : m.isEmpty = false := by cases m with | nil => exact absurd rfl hne | cons _ _ => rfl
    simp only [mantissa, e1, e2, hemp, Bool.false_eq_true, ↓reduceIte]
  · obtain ⟨hne, rfl⟩ := h
    have hnd' : Next (fun c => !isDig c) ('.' :: (fr ++ rest)) := next_cons.2 (by decide)
    have e1 : ((ip ++ '.' :: fr) ++ rest).takeWhile isDig = ip := by
      rw [List.append_assoc, List.cons_append]; exact takeWhile_run hip hnd'
    have e2 : ((ip ++ '.' :: fr) ++ rest).dropWhile isDig = '.' :: (fr ++ rest) := by
      rw [List.append_assoc, List.cons_append]; exact dropWhile_run hip hnd'
    have hemp : ip.isEmpty = false := by cases ip with | nil => exact absurd rfl hne | cons _ _ => rfl
    simp only [mantissa, e1, e2, hemp, Bool.false_eq_true, ↓reduceIte, takeWhile_run hfr hnd, dropWhile_run hfr hnd]
  · obtain ⟨hne, rfl⟩ := h
    have e1 : (('.' :: fr) ++ rest).takeWhile isDig = [] := by
      simp only [List.cons_append]; rw [List.takeWhile_cons]; simp [show isDig '.' = false by decide]
    simp only [mantissa, e1]
    have hemp : fr.isEmpty = false := by cases fr with | nil => exact absurd rfl hne | cons _ _ => rfl
    simp only [List.cons_append, List.isEmpty_nil, if_true, takeWhile_run hfr hnd, dropWhile_run hfr hnd, hemp]
    simp

theorem isMant_head {m : List Char} (hm : IsMant m) : ∃ c r, m = c :: r ∧ isSign c = false := by
  obtain ⟨ip, fr, hip, hfr, h | h | h⟩ := hm
  · obtain ⟨hne, rfl⟩ := h
    cases m with
    | nil => exact absurd rfl hne
    | cons c r => exact ⟨c, r, rfl, isSign_of_isDig (hip c List.mem_cons_self)⟩
  · obtain ⟨hne, rfl⟩ := h
    cases ip with
    | nil => exact absurd rfl hne
    | cons c r => exact ⟨c, r ++ '.' :: fr, rfl, isSign_of_isDig (hip c List.mem_cons_self)⟩
  · obtain ⟨_, rfl⟩ := h
    exact ⟨'.', fr, rfl, by decide⟩

theorem optSign_spec {sg m : List Char} (hs : IsSignOpt sg) (hm : IsMant m) (rest : List Char) :
    optSign (sg ++ m ++ rest) = (sg, m ++ rest) := by
  rcases hs with rfl | ⟨c, hc, rfl⟩
  · obtain ⟨c, r, rfl, hc⟩ := isMant_head hm
    simp [optSign, hc]
  · simp [optSign, hc]

theorem expPart_none {rest : List Char} (hr : Next (fun c => !isE c) rest) : expPart rest = [] := by
  cases rest with
  | nil => rfl
  | cons c r =>
    have : isE c = false := by simpa using next_cons.1 hr
    simp [expPart, this]

/-- `[eE] [sign] digits+` -/
def IsExp (x : List Char) : Prop :=
  ∃ e sg ds, isE e = true ∧ IsSignOpt sg ∧ (∀ c ∈ ds, isDig c = true) ∧ ds ≠ [] ∧ x = e :: (sg ++ ds)

theorem expPart_spec {x rest : List Char} (hx : IsExp x) (hr : Next (fun c => !isDig c) rest) :
    expPart (x ++ rest) = x := by
  obtain ⟨e, sg, ds, he, hs, hds, hne, rfl⟩ := hx
  have hemp : ds.isEmpty = false := by cases ds with | nil => exact absurd rfl hne | cons _ _ => rfl
  have hos : optSign (sg ++ ds ++ rest) = (sg, ds ++ rest) := by
    rcases hs with rfl | ⟨c, hc, rfl⟩
    · cases ds with
      | nil => exact absurd rfl hne
      | cons c r => simp [optSign, isSign_of_isDig (hds c List.mem_cons_self)]
    · simp [optSign, hc]
  simp only [List.cons_append, expPart, he, if_true, hos, takeWhile_run hds hr, hemp]
  simp

/-- what may follow a number without exponent for it to be read completely -/
def endLit (c : Char) : Bool := !isDig c && !(c == '.') && !isE c

theorem floatMatch_lit {sg m rest : List Char} (hs : IsSignOpt sg) (hm : IsMant m) (hr : Next endLit rest) :
    floatMatch (sg ++ m ++ rest) = some (sg ++ m) := by
  have h1 : Next endMant rest := fun c hc => by
    have := hr c hc; simp only [endLit, Bool.and_eq_true] at this; simp [endMant, this.1.1, this.1.2]
  have h2 : Next (fun c => !isE c) rest := fun c hc => by
    have := hr c hc; simp only [endLit, Bool.and_eq_true] at this; exact this.2
  simp only [floatMatch, optSign_spec hs hm rest, mantissa_spec hm h1, expPart_none h2, List.append_nil]

theorem floatMatch_litExp {sg m x rest : List Char} (hs : IsSignOpt sg) (hm : IsMant m) (hx : IsExp x)
    (hr : Next (fun c => !isDig c) rest) :
    floatMatch (sg ++ m ++ x ++ rest) = some (sg ++ m ++ x) := by
  have h1 : Next endMant (x ++ rest) := by
    obtain ⟨e, sg', ds, he, _, _, _, rfl⟩ := hx
    refine next_cons.2 ?_
    simp [endMant, not_isDig_of_isE he, ne_dot_of_isE he]
  have e : sg ++ m ++ x ++ rest = sg ++ m ++ (x ++ rest) := by simp
  simp only [floatMatch, e, optSign_spec hs hm (x ++ rest), mantissa_spec hm h1, expPart_spec hx hr]

/-! ### the decidable recogniser -/

theorem optSign_append (d : List Char) : (optSign d).1 ++ (optSign d).2 = d ∧ IsSignOpt (optSign d).1 := by
  cases d with
  | nil => exact ⟨rfl, Or.inl rfl⟩
  | cons c r =>
    cases hc : isSign c with
    | true => simp only [optSign, hc, if_true]; exact ⟨rfl, Or.inr ⟨c, hc, rfl⟩⟩
    | false => simp only [optSign, hc]; exact ⟨rfl, Or.inl rfl⟩

theorem isFloatLit_sound {d : List Char} (h : isFloatLit d = true) :
    ∃ sg m, d = sg ++ m ∧ IsSignOpt sg ∧ IsMant m := by
  obtain ⟨hd, hs⟩ := optSign_append d
  refine ⟨(optSign d).1, (optSign d).2, hd.symm, hs, ?_⟩
  simp only [isFloatLit] at h
  generalize (optSign d).2 = body at h
  have hsplit := List.takeWhile_append_dropWhile (p := isDig) (l := body)
  have hip : ∀ x ∈ body.takeWhile isDig, isDig x = true := fun x hx => mem_takeWhile_imp hx
  generalize body.takeWhile isDig = ip at h hsplit hip
  generalize body.dropWhile isDig = r at h hsplit
  cases r with
  | nil =>
    simp only [Bool.not_eq_true', List.isEmpty_eq_false_iff] at h
    exact ⟨ip, [], hip, by simp, Or.inl ⟨h, by simpa using hsplit.symm⟩⟩
  | cons c f =>
    simp only [Bool.and_eq_true, beq_iff_eq, List.all_eq_true, Bool.or_eq_true, Bool.not_eq_true',
      List.isEmpty_eq_false_iff] at h
    obtain ⟨⟨rfl, hf⟩, hne⟩ := h
    refine ⟨ip, f, hip, hf, ?_⟩
    by_cases hi : ip = []
    · subst hi
      rcases hne with hne | hne
      · exact absurd rfl hne
      · exact Or.inr (Or.inr ⟨hne, by simpa using hsplit.symm⟩)
    · exact Or.inr (Or.inl ⟨hi, hsplit.symm⟩)

/-- **esd suffixes are ignored**: a CIF number `d` followed by `(…)` — indeed by anything that
starts with a character other than a digit, `.`, `e`, `E` — yields the same matched text as `d`
alone, and that text is all of `d`. -/
theorem floatPrefix_lit {d : List Char} (h : isFloatLit d = true) {rest : List Char} (hr : Next endLit rest) :
    floatPrefix (d ++ rest) = d := by
  obtain ⟨sg, m, rfl, hs, hm⟩ := isFloatLit_sound h
  simp only [floatPrefix, floatMatch_lit hs hm hr, Option.getD_some]

theorem esd_ignored {d : List Char} (h : isFloatLit d = true) (ds : List Char) :
    floatPrefix (d ++ '(' :: ds ++ [')']) = floatPrefix d ∧ floatPrefix d = d := by
  have h1 : floatPrefix (d ++ ('(' :: ds ++ [')'])) = d :=
    floatPrefix_lit h (rest := '(' :: ds ++ [')']) (next_cons.2 (by decide))
  have h2 : floatPrefix (d ++ []) = d := floatPrefix_lit h (next_nil _)
  rw [List.append_nil] at h2
  rw [List.append_assoc, h1, h2]
  exact ⟨rfl, rfl⟩

/-- the recogniser accepts every literal of the grammar (so `esd_ignored` is not about a
smaller class than intended) -/
theorem isFloatLit_complete {sg m : List Char} (hs : IsSignOpt sg) (hm : IsMant m) :
    isFloatLit (sg ++ m) = true := by
  have hos := optSign_spec hs hm []
  simp only [List.append_nil] at hos
  simp only [isFloatLit, hos]
  obtain ⟨ip, fr, hip, hfr, h | h | h⟩ := hm
  · obtain ⟨hne, rfl⟩ := h
    have e1 := takeWhile_run (rest := []) hip (next_nil _)
    have e2 := dropWhile_run (rest := []) hip (next_nil _)
    simp only [List.append_nil] at e1 e2
    simp [e1, e2, hne]
  · obtain ⟨hne, rfl⟩ := h
    have hnd' : Next (fun c => !isDig c) ('.' :: fr) := next_cons.2 (by decide)
    simp only [takeWhile_run hip hnd', dropWhile_run hip hnd']
    simp [hne]
    exact hfr
  · obtain ⟨hne, rfl⟩ := h
    have hd : isDig '.' = false := by decide
    simp [hd, hne]
    exact hfr

example : floatPrefix "0.2500(12)".toList = "0.2500".toList := by decide
example : floatPrefix "-.5(3)".toList = "-.5".toList := by decide
example : floatPrefix "12.(1)".toList = "12.".toList := by decide
example : floatPrefix "1.5e-3(2)".toList = "1.5e-3".toList := by decide
example : floatPrefix "1.5e-(2)".toList = "1.5".toList := by decide
example : floatMatch "?".toList = none := by decide
example : floatMatch ".".toList = none := by decide
example : isFloatLit "0.2500".toList = true := by decide

end CifNum
end DS

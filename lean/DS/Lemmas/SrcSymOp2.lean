import DS.Lemmas.SrcSymOp
/-!
Definitions and general lemmas for the proof of `getSymOp_eq`: the row scanner of the model with the axis test as
a parameter (`scanRowG`), its step (`scanRowG_cons`), its instances (`scanRow` itself, the case-insensitive scanner on the text before lower-casing,
the scanner of one constant piece), and the literal scanner `scanLit`/`scanQuot` under extension of the text (look-ahead
across a piece boundary).  Core Lean only; independent of the generated file.
-/
namespace DS.SymText
open DS.SrcSymOp5 DS.Rx

/-- `scanRow` with the axis test as a parameter -/
def scanRowG (ax : Char → Option Nat) : Nat → Bool → List Char → Option (List Tok)
  | 0, _, _ => none
  | fuel + 1, first, cs =>
    match cs with
    | [] => some []
    | c :: rest =>
      match ax c with
      | some a => (scanRowG ax fuel true rest).map (Tok.var false a :: ·)
      | none =>
        if isSign c then
          match rest with
          | [] => none
          | d :: rest' =>
            match ax d with
            | some a => (scanRowG ax fuel true rest').map (Tok.var (c = '-') a :: ·)
            | none =>
              match scanQuot rest with
              | none => none
              | some (v, r) => (scanRowG ax fuel false r).map (Tok.num (if c = '-' then v.neg else v) :: ·)
        else if first then
          match scanQuot cs with
          | none => none
          | some (v, r) => (scanRowG ax fuel false r).map (Tok.num v :: ·)
        else none

/-- the axis test on the text before lower-casing -/
def axCI (c : Char) : Option Nat := axisOf c.toLower

/-- no axis letter at all: the scanner of one constant piece (the text between two variable terms) -/
def axNone (_ : Char) : Option Nat := none

/-- the numbers of one constant piece: every number after the first carries an explicit sign -/
def pieceToks (fuel : Nat) (first : Bool) (s : List Char) : Option (List Tok) := scanRowG axNone fuel first s

theorem scanRowG_axisOf : ∀ (fuel : Nat) (first : Bool) (cs : List Char),
    scanRowG axisOf fuel first cs = scanRow fuel first cs := by
  intro fuel
  induction fuel with
  | zero => intro first cs; rfl
  | succ n ih =>
    intro first cs
    unfold scanRowG scanRow
    simp only [ih]
    rfl

/-! ### one step of the scanner -/

/-- the sign branch of the row scanner, on the text after the sign -/
def signStep (ax : Char → Option Nat) (rec : Bool → List Char → Option (List Tok)) (c : Char)
    (rest : List Char) : Option (List Tok) :=
  match rest with
  | [] => none
  | d :: rest' =>
    match ax d with
    | some a => (rec true rest').map (Tok.var (c = '-') a :: ·)
    | none =>
      match scanQuot rest with
      | none => none
      | some (v, r) => (rec false r).map (Tok.num (if c = '-' then v.neg else v) :: ·)

/-- the number branch of the row scanner at the beginning of a piece -/
def numStep (rec : Bool → List Char → Option (List Tok)) (cs : List Char) : Option (List Tok) :=
  match scanQuot cs with
  | none => none
  | some (v, r) => (rec false r).map (Tok.num v :: ·)

theorem scanRowG_cons (ax : Char → Option Nat) (fuel : Nat) (first : Bool) (c : Char) (rest : List Char) :
    scanRowG ax (fuel + 1) first (c :: rest) =
      match ax c with
      | some a => (scanRowG ax fuel true rest).map (Tok.var false a :: ·)
      | none =>
        if isSign c then signStep ax (scanRowG ax fuel) c rest
        else if first then numStep (scanRowG ax fuel) (c :: rest) else none := rfl

theorem signStep_num {ax : Char → Option Nat} {rec : Bool → List Char → Option (List Tok)} {c : Char}
    {rest : List Char} (h : ∀ d r, rest = d :: r → ax d = none) :
    signStep ax rec c rest =
      match scanQuot rest with
      | none => none
      | some (v, r) => (rec false r).map (Tok.num (if c = '-' then v.neg else v) :: ·) := by
  cases rest with
  | nil => rfl
  | cons d r => unfold signStep; dsimp only; rw [h d r rfl]

theorem scanRowG_nil (ax : Char → Option Nat) (f : Nat) (first : Bool) : scanRowG ax (f + 1) first [] = some [] := by
  simp [scanRowG]

theorem scanRowG_axis {ax : Char → Option Nat} {c : Char} {a : Nat} (h : ax c = some a) (f : Nat) (first : Bool)
    (rest : List Char) :
    scanRowG ax (f + 1) first (c :: rest) = (scanRowG ax f true rest).map (Tok.var false a :: ·) := by
  simp [scanRowG, h]

theorem scanRowG_sign_axis {ax : Char → Option Nat} {c d : Char} {a : Nat} (h : ax c = none) (hs : isSign c = true)
    (hd : ax d = some a) (f : Nat) (first : Bool) (rest : List Char) :
    scanRowG ax (f + 1) first (c :: d :: rest) =
      (scanRowG ax f true rest).map (Tok.var (decide (c = '-')) a :: ·) := by
  simp [scanRowG, h, hs, hd]

theorem pieceToks_cons (fuel : Nat) (first : Bool) (c : Char) (rest : List Char) :
    pieceToks (fuel+1) first (c :: rest) =
      if isSign c || first then
        match scanQuot (unsign (c :: rest)) with
        | none => none
        | some (v, r) => (pieceToks fuel false r).map (Tok.num (if c = '-' then v.neg else v) :: ·)
      else none := by
  show scanRowG axNone (fuel + 1) first (c :: rest) = _
  rw [scanRowG_cons]
  show (if isSign c then signStep axNone (scanRowG axNone fuel) c rest
    else if first then numStep (scanRowG axNone fuel) (c :: rest) else none) = _
  by_cases hc : isSign c = true
  · simp only [hc, if_true, Bool.true_or, unsign]
    cases rest <;> rfl
  · have hm : c ≠ '-' := by intro h; subst h; exact hc rfl
    simp only [hc, unsign, Bool.false_or, Bool.false_eq_true, if_false, hm]
    cases first <;> rfl

/-! ### the literal scanner when the text is extended (look-ahead across a piece boundary) -/

/-- `tail` is empty or begins with a character that is no digit, no `.`, no `/` -/
def Stop (tail : List Char) : Prop := ∀ d r, tail = d :: r → d.isDigit = false ∧ d ≠ '.' ∧ d ≠ '/'

theorem takeWhile_append_stop (f : Char → Bool) (p tail : List Char) (h : ∀ d r, tail = d :: r → f d = false) :
    (p ++ tail).takeWhile f = p.takeWhile f ∧ (p ++ tail).dropWhile f = p.dropWhile f ++ tail := by
  induction p with
  | nil =>
    cases tail with
    | nil => simp
    | cons d r => simp [h d r rfl]
  | cons c p ih =>
    by_cases hc : f c = true <;> simp [hc, ih]

theorem litOf_append (ip r1 tail : List Char) (h : Stop tail) :
    litOf ip (r1 ++ tail) = (litOf ip r1).map (fun x => (x.1, x.2 ++ tail)) := by
  have hd : ∀ d r, tail = d :: r → Char.isDigit d = false := fun d r e => (h d r e).1
  cases r1 with
  | nil =>
    cases tail with
    | nil => rw [List.append_nil, litOf_nil]; split <;> rfl
    | cons d t => rw [List.nil_append, litOf_other ip t (h d t rfl).2.1, litOf_nil]; split <;> rfl
  | cons d r2 =>
    rw [List.cons_append]
    by_cases hdot : d = '.'
    · subst hdot
      rw [litOf_dot, litOf_dot, (takeWhile_append_stop Char.isDigit r2 tail hd).1,
        (takeWhile_append_stop Char.isDigit r2 tail hd).2]
      split <;> rfl
    · rw [litOf_other ip _ hdot, litOf_other ip _ hdot]
      split <;> rfl

theorem scanLit_append (p tail : List Char) (h : Stop tail) :
    scanLit (p ++ tail) = (scanLit p).map (fun x => (x.1, x.2 ++ tail)) := by
  have hd : ∀ d r, tail = d :: r → Char.isDigit d = false := fun d r e => (h d r e).1
  rw [scanLit_eq, scanLit_eq, (takeWhile_append_stop Char.isDigit p tail hd).1,
    (takeWhile_append_stop Char.isDigit p tail hd).2, litOf_append _ _ _ h]

theorem quotOf_append (a : Frac) (r tail : List Char) (h : Stop tail) :
    quotOf a (r ++ tail) = (quotOf a r).map (fun x => (x.1, x.2 ++ tail)) := by
  cases r with
  | nil =>
    cases tail with
    | nil => rfl
    | cons d t => rw [List.nil_append, quotOf_other a t (h d t rfl).2.2]; rfl
  | cons c r' =>
    rw [List.cons_append]
    by_cases hc : c = '/'
    · subst hc
      rw [quotOf_slash, quotOf_slash, scanLit_append r' tail h]
      cases scanLit r' with
      | none => rfl
      | some y =>
        obtain ⟨b, r2⟩ := y
        simp only [Option.map_some]
        split <;> rfl
    · rw [quotOf_other a _ hc, quotOf_other a _ hc]; rfl

theorem scanQuot_append (p tail : List Char) (h : Stop tail) :
    scanQuot (p ++ tail) = (scanQuot p).map (fun x => (x.1, x.2 ++ tail)) := by
  rw [scanQuot_eq, scanQuot_eq, scanLit_append p tail h]
  cases scanLit p with
  | none => rfl
  | some x => exact quotOf_append x.1 x.2 tail h

theorem signStep_congr {ax : Char → Option Nat} {rec1 rec2 : Bool → List Char → Option (List Tok)} {c : Char}
    {rest : List Char} (h : ∀ first r, r.length < rest.length → rec1 first r = rec2 first r) :
    signStep ax rec1 c rest = signStep ax rec2 c rest := by
  cases rest with
  | nil => rfl
  | cons d rest' =>
    unfold signStep
    dsimp only
    cases ax d with
    | some a => dsimp only; rw [h true rest' (Nat.lt_succ_self _)]
    | none =>
      dsimp only
      cases hq : scanQuot (d :: rest') with
      | none => rfl
      | some x => dsimp only; rw [h false x.2 (scanQuot_lt hq)]

theorem numStep_congr {rec1 rec2 : Bool → List Char → Option (List Tok)} {cs : List Char}
    (h : ∀ first r, r.length < cs.length → rec1 first r = rec2 first r) : numStep rec1 cs = numStep rec2 cs := by
  unfold numStep
  cases hq : scanQuot cs with
  | none => rfl
  | some x => dsimp only; rw [h false x.2 (scanQuot_lt hq)]

theorem scanRowG_fuel (ax : Char → Option Nat) : ∀ (f1 f2 : Nat) (first : Bool) (cs : List Char),
    cs.length < f1 → cs.length < f2 → scanRowG ax f1 first cs = scanRowG ax f2 first cs := by
  intro f1
  induction f1 with
  | zero => intro f2 first cs h; omega
  | succ n ih =>
    intro f2 first cs h1 h2
    cases f2 with
    | zero => omega
    | succ m =>
      cases cs with
      | nil => rfl
      | cons c rest =>
        simp only [List.length_cons] at h1 h2
        have hrec : ∀ first r, r.length < (c :: rest).length → scanRowG ax n first r = scanRowG ax m first r :=
          fun first r hr => ih m first r (by simp only [List.length_cons] at hr; omega)
            (by simp only [List.length_cons] at hr; omega)
        rw [scanRowG_cons, scanRowG_cons, numStep_congr hrec,
          signStep_congr (fun first r hr => hrec first r (Nat.lt_succ_of_lt hr)), hrec true rest (Nat.lt_succ_self _)]

end DS.SymText

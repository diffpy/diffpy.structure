import DS.Model.Constraints
import DS.Model.SymSpec
import DS.Lemmas.Group
import DS.Lemmas.Orbit
import DS.Lemmas.Mat3
import Mathlib.Tactic.Ring
import Mathlib.Tactic.LinearCombination
import Mathlib.Tactic.FieldSimp
import Mathlib.Algebra.Field.Rat
import Mathlib.Data.List.Perm.Basic

/-!
Helper lemmas for C05 / C06: the symmetry-constraint certificates of `DS.Model.Constraints`.

The vector case (`Vec3 Q`, pairing `Vec3.dot`) and the tensor case (`Mat3 Q`, pairing `frob`) share
one small abstract layer `QSp` (a rational vector space with a pairing that is linear in its first
argument); everything about linear combinations, dual families, sums over a list of linear
operators and group averages is proved once there and instantiated twice.  Last: the operations of a
group that fix a site form a group (`stab_isGroup`), so the above applies to every site symmetry.
-/
namespace DS
namespace Con

/-! ### abstract layer -/

/-- a `Q`-vector space with a pairing linear in the first argument (just what the proofs use) -/
class QSp (V : Type) where
  qadd : V → V → V
  qsmul : Q → V → V
  qzero : V
  qpair : V → V → Q
  qadd_zero : ∀ u, qadd u qzero = u
  qadd_comm : ∀ u v, qadd u v = qadd v u
  qadd_assoc : ∀ u v w, qadd (qadd u v) w = qadd u (qadd v w)
  qsmul_add : ∀ c u v, qsmul c (qadd u v) = qadd (qsmul c u) (qsmul c v)
  qadd_smul : ∀ a b u, qsmul (a + b) u = qadd (qsmul a u) (qsmul b u)
  qmul_smul : ∀ a b u, qsmul (a * b) u = qsmul a (qsmul b u)
  qone_smul : ∀ u, qsmul 1 u = u
  qzero_smul : ∀ u, qsmul 0 u = qzero
  qsmul_zero : ∀ c, qsmul c qzero = qzero
  qpair_add : ∀ u v d, qpair (qadd u v) d = qpair u d + qpair v d
  qpair_smul : ∀ c u d, qpair (qsmul c u) d = c * qpair u d
  qpair_zero : ∀ d, qpair qzero d = 0

open QSp

section Generic
variable {V : Type} [QSp V]

theorem qzero_add (u : V) : qadd qzero u = u := by rw [qadd_comm, qadd_zero]

theorem qadd4 (a b c d : V) : qadd (qadd a b) (qadd c d) = qadd (qadd a c) (qadd b d) := by
  rw [qadd_assoc, qadd_assoc, ← qadd_assoc b c d, qadd_comm b c, qadd_assoc c b d]

theorem qadd_left_comm (a b c : V) : qadd a (qadd b c) = qadd b (qadd a c) := by
  rw [← qadd_assoc, qadd_comm a b, qadd_assoc]

/-- linear combination (generic form of `lincomb` / `lincombT`) -/
def lc : List Q → List V → V
  | c :: cs, r :: rs => qadd (qsmul c r) (lc cs rs)
  | _, _ => qzero

@[simp] theorem lc_cons (c : Q) (cs : List Q) (r : V) (rs : List V) :
    lc (c :: cs) (r :: rs) = qadd (qsmul c r) (lc cs rs) := rfl
@[simp] theorem lc_nil_left (rs : List V) : lc [] rs = (qzero : V) := rfl
@[simp] theorem lc_nil_right (cs : List Q) : lc cs ([] : List V) = (qzero : V) := by
  cases cs <;> rfl

structure IsLin (f : V → V) : Prop where
  map_add : ∀ u v, f (qadd u v) = qadd (f u) (f v)
  map_smul : ∀ c u, f (qsmul c u) = qsmul c (f u)

theorem isLin_zero : IsLin (fun _ : V => (qzero : V)) :=
  ⟨fun _ _ => (qadd_zero _).symm, fun c _ => (qsmul_zero c).symm⟩

theorem IsLin.map_zero {f : V → V} (hf : IsLin f) : f qzero = qzero := by
  have := hf.map_smul 0 qzero
  rwa [qzero_smul, qzero_smul] at this

theorem IsLin.map_lc {f : V → V} (hf : IsLin f) :
    ∀ (cs : List Q) (rs : List V), f (lc cs rs) = lc cs (rs.map f)
  | [], rs => by simp [hf.map_zero]
  | c :: cs, [] => by simp [hf.map_zero]
  | c :: cs, r :: rs => by
    simp only [lc_cons, List.map_cons, hf.map_add, hf.map_smul, IsLin.map_lc hf cs rs]

theorem IsLin.comp {f g : V → V} (hf : IsLin f) (hg : IsLin g) : IsLin (fun v => f (g v)) :=
  ⟨fun u v => by rw [hg.map_add, hf.map_add], fun c u => by rw [hg.map_smul, hf.map_smul]⟩

theorem IsLin.smul {f : V → V} (hf : IsLin f) (a : Q) : IsLin (fun v => qsmul a (f v)) :=
  ⟨fun u v => by rw [hf.map_add, qsmul_add],
   fun c u => by rw [hf.map_smul, ← qmul_smul, ← qmul_smul, mul_comm]⟩

theorem IsLin.fix_lc {f : V → V} (hf : IsLin f) {rows : List V} (h : ∀ r ∈ rows, f r = r)
    (cs : List Q) : f (lc cs rows) = lc cs rows := by
  rw [hf.map_lc]
  congr 1
  conv_rhs => rw [← List.map_id rows]
  exact List.map_congr_left (fun r hr => by simpa using h r hr)

theorem IsLin.ext_span {f g : V → V} (hf : IsLin f) (hg : IsLin g) {es : List V}
    (h : ∀ e ∈ es, f e = g e) (cs : List Q) : f (lc cs es) = g (lc cs es) := by
  rw [hf.map_lc, hg.map_lc, List.map_congr_left h]

theorem qpair_lc_zero {rows : List V} {d : V} (h : ∀ r ∈ rows, qpair r d = 0) :
    ∀ cs : List Q, qpair (lc cs rows) d = 0 := by
  induction rows with
  | nil => intro cs; simp [qpair_zero]
  | cons r rs ih =>
    intro cs
    cases cs with
    | nil => simp [qpair_zero]
    | cons c cs =>
      rw [lc_cons, qpair_add, qpair_smul, h r (List.mem_cons_self ..),
        ih (fun r' hr' => h r' (List.mem_cons_of_mem _ hr')) cs]
      ring

theorem coords_isLin (dual : List V) : ∀ rows : List V,
    IsLin (fun w => lc (dual.map (fun d => qpair w d)) rows) := by
  induction dual with
  | nil => exact fun _ => isLin_zero
  | cons d ds ih =>
    intro rows
    cases rows with
    | nil => exact isLin_zero
    | cons r rs =>
      refine ⟨fun u v => ?_, fun c u => ?_⟩
      · simp only [List.map_cons, lc_cons]
        rw [(ih rs).map_add, qpair_add, qadd_smul, qadd4]
      · simp only [List.map_cons, lc_cons]
        rw [(ih rs).map_smul, qpair_smul, qmul_smul, qsmul_add]

/-- `rows_i · dual_j = δ_ij` (specification form of `isDual` / `isDualT`) -/
def DualP (rows dual : List V) : Prop :=
  rows.length = dual.length ∧
  ∀ i, i < rows.length → ∀ j, j < rows.length →
    qpair (rows.getD i qzero) (dual.getD j qzero) = if i = j then 1 else 0

theorem DualP.cons {r d : V} {rs ds : List V} (h : DualP (r :: rs) (d :: ds)) :
    qpair r d = 1 ∧ (∀ d' ∈ ds, qpair r d' = 0) ∧ (∀ r' ∈ rs, qpair r' d = 0) ∧ DualP rs ds := by
  obtain ⟨hl, h⟩ := h
  have hl : rs.length = ds.length := Nat.succ_injective hl
  refine ⟨h 0 (Nat.succ_pos _) 0 (Nat.succ_pos _), fun d' hd' => ?_, fun r' hr' => ?_, hl, fun i hi j hj => ?_⟩
  · obtain ⟨k, hk, rfl⟩ := List.mem_iff_getElem.1 hd'
    have := h 0 (Nat.succ_pos _) (k + 1) (Nat.succ_lt_succ (hl ▸ hk))
    rwa [List.getD_cons_succ, List.getD_eq_getElem _ _ hk, if_neg (Nat.succ_ne_zero k).symm] at this
  · obtain ⟨k, hk, rfl⟩ := List.mem_iff_getElem.1 hr'
    have := h (k + 1) (Nat.succ_lt_succ hk) 0 (Nat.succ_pos _)
    rwa [List.getD_cons_succ, List.getD_eq_getElem _ _ hk, if_neg (Nat.succ_ne_zero k)] at this
  · have := h (i + 1) (Nat.succ_lt_succ hi) (j + 1) (Nat.succ_lt_succ hj)
    simpa only [List.getD_cons_succ, Nat.succ_inj] using this
theorem DualP.coords_lc : ∀ {rows dual : List V}, DualP rows dual →
    ∀ cs : List Q, cs.length = rows.length → dual.map (fun d => qpair (lc cs rows) d) = cs
  | [], [], _, cs, hl => by
    have : cs = [] := List.length_eq_zero_iff.1 (by simpa using hl)
    simp [this]
  | [], _ :: _, h, _, _ => by have := h.1; simp at this
  | _ :: _, [], h, _, _ => by have := h.1; simp at this
  | r :: rs, d :: ds, h, cs, hl => by
    obtain ⟨h1, h2, h3, h4⟩ := h.cons
    cases cs with
    | nil => simp at hl
    | cons c cs =>
      simp only [List.length_cons, Nat.add_right_cancel_iff] at hl
      simp only [List.map_cons, lc_cons, qpair_add, qpair_smul, h1, qpair_lc_zero h3 cs]
      congr 1
      · ring
      · have e : ∀ d' ∈ ds, c * qpair r d' + qpair (lc cs rs) d' = qpair (lc cs rs) d' := by
          intro d' hd'; rw [h2 d' hd']; ring
        rw [List.map_congr_left e]; exact DualP.coords_lc h4 cs hl

theorem DualP.indep {rows dual : List V} (h : DualP rows dual) (cs : List Q)
    (hl : cs.length = rows.length) (h0 : lc cs rows = qzero) : ∀ c ∈ cs, c = 0 := by
  have := h.coords_lc cs hl
  rw [h0] at this
  intro c hc
  rw [← this] at hc
  obtain ⟨d, _, rfl⟩ := List.mem_map.1 hc
  exact qpair_zero d

theorem DualP.lc_inj {rows dual : List V} (h : DualP rows dual) {cs ds : List Q}
    (hc : cs.length = rows.length) (hd : ds.length = rows.length) (e : lc cs rows = lc ds rows) :
    cs = ds := by
  rw [← h.coords_lc cs hc, ← h.coords_lc ds hd, e]

/-- **certificate ⇒ basis** (abstract form).  `P` is a subspace: closed under combinations of
`rows`, contained in the span of `units`, and fixed pointwise by the linear operator `A`.  If `rows`
has a dual family and `A e` is, for every `e ∈ units`, the combination of `rows` with its dual
coordinates, then so is every `v` with `P v` (two linear maps that agree on `units` agree on their
span): `P` is exactly the span of `rows`, and `rows` is linearly independent. -/
theorem cert_sound {P : V → Prop} {A : V → V} (hA : IsLin A) {units rows dual : List V}
    (hrows : ∀ cs, P (lc cs rows)) (hfix : ∀ v, P v → A v = v)
    (hunits : ∀ v, P v → ∃ cs : List Q, v = lc cs units) (hdual : DualP rows dual)
    (hspan : ∀ e ∈ units, A e = lc (dual.map (fun d => qpair (A e) d)) rows) :
    (∀ v, P v ↔ ∃ cs : List Q, cs.length = rows.length ∧ v = lc cs rows) ∧
    (∀ cs : List Q, cs.length = rows.length → lc cs rows = qzero → ∀ c ∈ cs, c = 0) := by
  refine ⟨fun v => ⟨fun hv => ⟨dual.map (fun d => qpair v d), ?_, ?_⟩, ?_⟩, hdual.indep⟩
  · rw [List.length_map, hdual.1]
  · obtain ⟨cs, e⟩ := hunits v hv
    have := IsLin.ext_span hA ((coords_isLin dual rows).comp hA) hspan cs
    rwa [← e, hfix v hv] at this
  · rintro ⟨cs, _, rfl⟩; exact hrows cs

/-! ### sums of linear operators over a list -/

/-- `Σ_{h ∈ H} F h v` (generic form of `vsum` / `tsum`) -/
def gsum {ι : Type} (F : ι → V → V) (H : List ι) (v : V) : V :=
  H.foldr (fun h acc => qadd (F h v) acc) qzero

@[simp] theorem gsum_nil {ι : Type} (F : ι → V → V) (v : V) : gsum F [] v = qzero := rfl
@[simp] theorem gsum_cons {ι : Type} (F : ι → V → V) (h : ι) (H : List ι) (v : V) :
    gsum F (h :: H) v = qadd (F h v) (gsum F H v) := rfl

theorem gsum_isLin {ι : Type} (F : ι → V → V) (hF : ∀ h, IsLin (F h)) (H : List ι) :
    IsLin (gsum F H) := by
  induction H with
  | nil => exact isLin_zero
  | cons h H ih =>
    exact ⟨fun u v => by simp only [gsum_cons, (hF h).map_add, ih.map_add, qadd4],
      fun c u => by simp only [gsum_cons, (hF h).map_smul, ih.map_smul, qsmul_add]⟩

theorem gsum_fix {ι : Type} (F : ι → V → V) (H : List ι) (v : V) (h : ∀ a ∈ H, F a v = v) :
    gsum F H v = qsmul (H.length : Q) v := by
  induction H with
  | nil => simp [qzero_smul]
  | cons a H ih =>
    rw [gsum_cons, h a (List.mem_cons_self ..), ih (fun b hb => h b (List.mem_cons_of_mem _ hb)),
      List.length_cons, Nat.cast_succ, qadd_smul, qone_smul, qadd_comm]

theorem gsum_perm {ι : Type} (F : ι → V → V) {H₁ H₂ : List ι} (p : H₁.Perm H₂) (v : V) :
    gsum F H₁ v = gsum F H₂ v := by
  unfold gsum
  exact p.foldr_eq' (f := fun h acc => qadd (F h v) acc) (fun a _ b _ z => qadd_left_comm (V := V) _ _ _) _

theorem IsLin.comm_gsum {ι : Type} {T : V → V} (hT : IsLin T) {F : ι → V → V}
    (hc : ∀ h w, T (F h w) = F h (T w)) (H : List ι) (v : V) : T (gsum F H v) = gsum F H (T v) := by
  induction H with
  | nil => exact hT.map_zero
  | cons a H ih => simp only [gsum_cons, hT.map_add, hc, ih]

/-- `F` is a linear representation of the operations on `V` -/
structure IsRep (F : Op → V → V) : Prop where
  lin : ∀ a, IsLin (F a)
  comp : ∀ a b v, F (a.comp b) v = F a (F b v)

/-- **the group sum is invariant**: for a representation `F` of a group listed in `G`,
`F a (Σ_h F h v) = Σ_h F h v` (re-indexing the sum by left multiplication) -/
theorem gsum_invariant {G : List Op} (hG : IsGroup G) {F : Op → V → V} (hF : IsRep F)
    {a : Op} (ha : a ∈ G) (v : V) : F a (gsum F G v) = gsum F G v := by
  have : ∀ L : List Op, F a (gsum F L v) = gsum F (L.map (fun g => a.comp g)) v := by
    intro L
    induction L with
    | nil => exact (hF.lin a).map_zero
    | cons b L ih => simp only [List.map_cons, gsum_cons, (hF.lin a).map_add, hF.comp, ih]
  rw [this G]
  exact gsum_perm F (Orbit.map_comp_perm hG ha) v

/-! ### averages -/

/-- `(1/|H|) Σ_{h ∈ H} F h v` (generic form of `reynolds` / `reynoldsT`) -/
def gavg {ι : Type} (F : ι → V → V) (H : List ι) (v : V) : V := qsmul (1 / (H.length : Q)) (gsum F H v)

theorem gavg_isLin {ι : Type} {F : ι → V → V} (hF : ∀ h, IsLin (F h)) (H : List ι) :
    IsLin (gavg F H) :=
  (gsum_isLin F hF H).smul _

theorem gavg_of_fix {ι : Type} {F : ι → V → V} {H : List ι} {v : V} (hpos : 0 < H.length)
    (h : ∀ a ∈ H, F a v = v) : gavg F H v = v := by
  have hn : (H.length : Q) ≠ 0 := Nat.cast_ne_zero.2 (Nat.pos_iff_ne_zero.1 hpos)
  rw [gavg, gsum_fix F H v h, ← qmul_smul, one_div, inv_mul_cancel₀ hn, qone_smul]

theorem IsLin.comm_gavg {ι : Type} {T : V → V} (hT : IsLin T) {F : ι → V → V}
    (hc : ∀ h w, T (F h w) = F h (T w)) (H : List ι) (v : V) : T (gavg F H v) = gavg F H (T v) := by
  rw [gavg, hT.map_smul, hT.comm_gsum hc]; rfl

theorem length_pos_of_isGroup {G : List Op} (hG : IsGroup G) : 0 < G.length :=
  List.length_pos_of_mem (List.mem_of_mem_head? hG.one_first)

theorem gavg_invariant {G : List Op} (hG : IsGroup G) {F : Op → V → V} (hF : IsRep F)
    {a : Op} (ha : a ∈ G) (v : V) : F a (gavg F G v) = gavg F G v := by
  rw [gavg, (hF.lin a).map_smul, gsum_invariant hG hF ha]

/-- the vectors fixed by the group are exactly the fixed points of the average -/
theorem fix_iff_gavg {G : List Op} (hG : IsGroup G) {F : Op → V → V} (hF : IsRep F) (v : V) :
    (∀ a ∈ G, F a v = v) ↔ gavg F G v = v :=
  ⟨gavg_of_fix (length_pos_of_isGroup hG), fun e _ ha => e ▸ gavg_invariant hG hF ha v⟩

end Generic

/-! ### vectors: `Vec3 Q` with the dot product -/

theorem vec3_ext {u v : Vec3 Q} (h1 : u.x = v.x) (h2 : u.y = v.y) (h3 : u.z = v.z) : u = v :=
  Vec3.ext' h1 h2 h3

/-- closes component-wise ring identities between `Vec3 Q` / scalar expressions -/
macro "vec3_tac" : tactic => `(tactic| first
  | (apply vec3_ext <;>
      simp only [Vec3.add, Vec3.sub, Vec3.smul, Vec3.zero, Vec3.dot, Mat3.mulVec, Mat3.mul, Mat3.one] <;> ring)
  | (simp only [Vec3.add, Vec3.sub, Vec3.smul, Vec3.zero, Vec3.dot, Mat3.mulVec, Mat3.mul, Mat3.one]; ring))

instance instQSpVec3 : QSp (Vec3 Q) where
  qadd := Vec3.add
  qsmul := Vec3.smul
  qzero := Vec3.zero
  qpair := Vec3.dot
  qadd_zero u := by vec3_tac
  qadd_comm u v := by vec3_tac
  qadd_assoc u v w := by vec3_tac
  qsmul_add c u v := by vec3_tac
  qadd_smul a b u := by vec3_tac
  qmul_smul a b u := by vec3_tac
  qone_smul u := by vec3_tac
  qzero_smul u := by vec3_tac
  qsmul_zero c := by vec3_tac
  qpair_add u v d := by vec3_tac
  qpair_smul c u d := by vec3_tac
  qpair_zero d := by vec3_tac

theorem lincomb_eq_lc : ∀ (cs : List Q) (rows : List (Vec3 Q)), lincomb cs rows = lc cs rows
  | [], _ => rfl
  | _ :: _, [] => rfl
  | c :: cs, r :: rs => by
    show (Vec3.smul c r).add (lincomb cs rs) = qadd (qsmul c r) (lc cs rs)
    rw [lincomb_eq_lc cs rs]; rfl

theorem mulVec_isLin (R : Mat3 Q) : IsLin (V := Vec3 Q) R.mulVec :=
  ⟨fun u v => by show R.mulVec (u.add v) = (R.mulVec u).add (R.mulVec v); vec3_tac,
   fun c u => by show R.mulVec (Vec3.smul c u) = Vec3.smul c (R.mulVec u); vec3_tac⟩

theorem mulVec_sub (R : Mat3 Q) (u v : Vec3 Q) : R.mulVec (u.sub v) = (R.mulVec u).sub (R.mulVec v) :=
  Mat3.mulVec_sub R u v

theorem mulVec_one (v : Vec3 Q) : (Mat3.one : Mat3 Q).mulVec v = v := Mat3.mulVec_one v

theorem vsum_eq_gsum (H : List Op) (v : Vec3 Q) :
    vsum H v = gsum (fun h => (rotQ h).mulVec) H v := rfl

theorem reynolds_eq_gavg (H : List Op) (v : Vec3 Q) :
    reynolds H v = gavg (fun h => (rotQ h).mulVec) H v := rfl

theorem inFree_iff {H : List Op} {v : Vec3 Q} : inFree H v = true ↔ Free H v := by
  simp [inFree, Free, List.all_eq_true]

theorem isDual_iff {rows dual : List (Vec3 Q)} : isDual rows dual = true ↔ DualP rows dual := by
  show _ ↔ (rows.length = dual.length ∧ ∀ i, i < rows.length → ∀ j, j < rows.length →
    Vec3.dot (rows.getD i Vec3.zero) (dual.getD j Vec3.zero) = if i = j then 1 else 0)
  simp [isDual, List.all_eq_true, List.mem_range]

theorem vec3_decomp (v : Vec3 Q) : v = lc [v.x, v.y, v.z] [e1, e2, e3] := by
  show v = (Vec3.smul v.x e1).add ((Vec3.smul v.y e2).add ((Vec3.smul v.z e3).add Vec3.zero))
  apply vec3_ext <;> simp only [Vec3.add, Vec3.smul, Vec3.zero, e1, e2, e3] <;> ring

theorem rotQ_comp (g h : Op) : rotQ (g.comp h) = (rotQ g).mul (rotQ h) := by
  simp only [rotQ, Op.comp, Mat3.mul, Int.cast_add, Int.cast_mul]

theorem rotQ_one : rotQ Op.one = Mat3.one := by
  simp [rotQ, Op.one, Mat3.one]

theorem vecRep : IsRep (V := Vec3 Q) (fun h => (rotQ h).mulVec) :=
  ⟨fun h => mulVec_isLin (rotQ h), fun a b v => by rw [rotQ_comp, Mat3.mulVec_mul]⟩

/-! ### tensors: `Mat3 Q` with the Frobenius product -/

theorem mat3_ext {m n : Mat3 Q} (h11 : m.a11 = n.a11) (h12 : m.a12 = n.a12) (h13 : m.a13 = n.a13)
    (h21 : m.a21 = n.a21) (h22 : m.a22 = n.a22) (h23 : m.a23 = n.a23)
    (h31 : m.a31 = n.a31) (h32 : m.a32 = n.a32) (h33 : m.a33 = n.a33) : m = n :=
  Mat3.ext' h11 h12 h13 h21 h22 h23 h31 h32 h33

/-- closes entry-wise ring identities between `Mat3 Q` / scalar expressions -/
macro "mat3_tac" : tactic => `(tactic| first
  | (apply mat3_ext <;>
      simp only [Mat3.add, Mat3.sub, Mat3.smul, Mat3.zero, Mat3.one, Mat3.mul, Mat3.transpose, frob, rotT] <;> ring)
  | (simp only [Mat3.add, Mat3.sub, Mat3.smul, Mat3.zero, Mat3.one, Mat3.mul, Mat3.transpose, frob, rotT]; ring))

instance instQSpMat3 : QSp (Mat3 Q) where
  qadd := Mat3.add
  qsmul := Mat3.smul
  qzero := Mat3.zero
  qpair := frob
  qadd_zero u := by mat3_tac
  qadd_comm u v := by mat3_tac
  qadd_assoc u v w := by mat3_tac
  qsmul_add c u v := by mat3_tac
  qadd_smul a b u := by mat3_tac
  qmul_smul a b u := by mat3_tac
  qone_smul u := by mat3_tac
  qzero_smul u := by mat3_tac
  qsmul_zero c := by mat3_tac
  qpair_add u v d := by mat3_tac
  qpair_smul c u d := by mat3_tac
  qpair_zero d := by mat3_tac

theorem lincombT_eq_lc : ∀ (cs : List Q) (bs : List (Mat3 Q)), lincombT cs bs = lc cs bs
  | [], _ => rfl
  | _ :: _, [] => rfl
  | c :: cs, b :: bs => by
    show (Mat3.smul c b).add (lincombT cs bs) = qadd (qsmul c b) (lc cs bs)
    rw [lincombT_eq_lc cs bs]; rfl

theorem mulLeft_isLin (A : Mat3 Q) : IsLin (V := Mat3 Q) A.mul :=
  ⟨fun u v => Mat3.mul_add A u v, fun c u => Mat3.mul_smul c A u⟩

theorem mulRight_isLin (B : Mat3 Q) : IsLin (V := Mat3 Q) (fun U => U.mul B) :=
  ⟨fun u v => Mat3.add_mul u v B, fun c u => Mat3.smul_mul c u B⟩

theorem rotT_isLin (R : Mat3 Q) : IsLin (V := Mat3 Q) (rotT R) :=
  (mulRight_isLin R.transpose).comp (mulLeft_isLin R)

theorem transpose_isLin : IsLin (V := Mat3 Q) Mat3.transpose :=
  ⟨fun _ _ => rfl, fun _ _ => rfl⟩

theorem rotT_mul (A B U : Mat3 Q) : rotT (A.mul B) U = rotT A (rotT B U) := by
  simp only [rotT, Mat3.transpose_mul, Mat3.mul_assoc]

theorem transpose_rotT (R U : Mat3 Q) : (rotT R U).transpose = rotT R U.transpose := by
  simp only [rotT, Mat3.transpose_mul, Mat3.mul_assoc, Mat3.transpose_transpose]

theorem rotT_one (U : Mat3 Q) : rotT Mat3.one U = U := by
  rw [rotT, Mat3.one_mul, Mat3.transpose_one, Mat3.mul_one]

theorem tenRep : IsRep (V := Mat3 Q) (fun h => rotT (rotQ h)) :=
  ⟨fun h => rotT_isLin (rotQ h), fun a b U => by rw [rotQ_comp, rotT_mul]⟩

theorem isSymm_iff_transpose (U : Mat3 Q) : U.isSymm ↔ U.transpose = U := Mat3.isSymm_iff_transpose U

theorem symmB_iff {U : Mat3 Q} : symmB U = true ↔ U.isSymm := by
  simp [symmB, Mat3.isSymm, and_assoc]

theorem tsum_eq_gsum (H : List Op) (U : Mat3 Q) :
    tsum H U = gsum (fun h => rotT (rotQ h)) H U := rfl

theorem reynoldsT_eq_gavg (H : List Op) (U : Mat3 Q) :
    reynoldsT H U = gavg (fun h => rotT (rotQ h)) H U := rfl

theorem inInvT_iff {H : List Op} {U : Mat3 Q} : inInvT H U = true ↔ InvT H U := by
  simp [inInvT, InvT, List.all_eq_true]

theorem isDualT_iff {bs dual : List (Mat3 Q)} : isDualT bs dual = true ↔ DualP bs dual := by
  show _ ↔ (bs.length = dual.length ∧ ∀ i, i < bs.length → ∀ j, j < bs.length →
    frob (bs.getD i Mat3.zero) (dual.getD j Mat3.zero) = if i = j then 1 else 0)
  simp [isDualT, List.all_eq_true, List.mem_range]

theorem mat3_decomp (U : Mat3 Q) (h : U.isSymm) :
    U = lc [U.a11, U.a22, U.a33, U.a12, U.a13, U.a23] unitT := by
  obtain ⟨a11, a12, a13, a21, a22, a23, a31, a32, a33⟩ := U
  obtain ⟨h1, h2, h3⟩ := h
  dsimp only at h1 h2 h3
  subst h1 h2 h3
  show _ = (Mat3.smul _ _).add ((Mat3.smul _ _).add ((Mat3.smul _ _).add
    ((Mat3.smul _ _).add ((Mat3.smul _ _).add ((Mat3.smul _ _).add Mat3.zero)))))
  simp only [Mat3.add, Mat3.smul, Mat3.zero, mul_one, mul_zero, add_zero, zero_add]

theorem frob_smul_right (c : Q) (U B : Mat3 Q) : frob U (Mat3.smul c B) = c * frob U B := by
  simp only [frob, Mat3.smul]; ring

/-! ### the stabiliser of a site is a group -/

/-- the operations of a group that fix (the reduction of) a site form a group, in list order -/
theorem stab_isGroup {G : List Op} (hG : IsGroup G) (k : Int) (off x : P3) :
    IsGroup (G.filter (fun g => decide (Orbit.img g k off x = Orbit.red k x))) := by
  have hmem : ∀ g, g ∈ G.filter (fun g => decide (Orbit.img g k off x = Orbit.red k x)) ↔
      g ∈ G ∧ Orbit.img g k off x = Orbit.red k x := by
    intro g; simp [List.mem_filter]
  refine ⟨?_, hG.nodup.filter _, ?_, ?_, ?_, ?_⟩
  · have h1 := hG.one_first
    cases G with
    | nil => simp at h1
    | cons g G' =>
      simp only [List.head?_cons, Option.some.injEq] at h1
      subst h1
      simp [Orbit.img_one]
  · intro a ha b hb
    rw [hmem] at ha hb ⊢
    refine ⟨hG.closed a ha.1 b hb.1, ?_⟩
    rw [← Orbit.img_comp, hb.2, Orbit.img_red, ha.2]
  · intro a ha
    rw [hmem] at ha
    obtain ⟨b, hb, hab, hba⟩ := hG.inv a ha.1
    refine ⟨b, (hmem b).2 ⟨hb, ?_⟩, hab, hba⟩
    rw [← Orbit.img_red b, ← ha.2, Orbit.img_comp, hba, Orbit.img_one]
    exact ha.2.symm
  · intro a ha; exact hG.det a ((hmem a).1 ha).1
  · intro a ha; exact hG.range a ((hmem a).1 ha).1

end Con
end DS

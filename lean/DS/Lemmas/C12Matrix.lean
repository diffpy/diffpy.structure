import DS.Lemmas.Formats
/-!
# C12 — rejection criteria of the modelled parsers on arbitrary lines

Generic facts ("a text without a `cell` record is not DISCUS", "a text without an `atoms` record is not DISCUS",
"a text whose first record word is not a PDB record name is not PDB", …) used by `DS.Props.C12Matrix` to prove the off-diagonal entries of the
written-format × parser matrix from the models of `DS.Model.Formats`.
-/
namespace DS.Formats
open DS.Dec

/-! ## first word of a line -/

theorem splitAux_acc (s acc : Str) (h : acc ≠ []) : ∃ t rest, splitAux s acc = (acc.reverse ++ t) :: rest := by
  induction s generalizing acc with
  | nil => exact ⟨[], [], by simp [splitAux, h]⟩
  | cons c cs ih =>
    unfold splitAux
    by_cases hc : isWs c = true
    · simp only [hc, if_true]
      have : acc.isEmpty = false := by cases acc <;> simp_all
      simp only [this]
      exact ⟨[], splitAux cs [], by simp⟩
    · simp only [hc]
      obtain ⟨t, rest, e⟩ := ih (c :: acc) (by simp)
      exact ⟨c :: t, rest, by simp [e]⟩

theorem splitWs_cons_head {c : Char} {s : Str} (hc : isWs c = false) :
    ∃ t rest, splitWs (c :: s) = (c :: t) :: rest := by
  rw [splitWs, splitAux]
  simp only [hc]
  obtain ⟨t, rest, e⟩ := splitAux_acc s [c] (by simp)
  exact ⟨t, rest, by simpa using e⟩

theorem splitWs_head_char {l w : Str} {ws : List Str} (h : splitWs l = w :: ws) :
    ∃ c cs t, lstrip l = c :: cs ∧ isWs c = false ∧ w = c :: t := by
  rw [← splitWs_lstrip] at h
  cases hl : lstrip l with
  | nil => rw [hl] at h; cases h
  | cons c cs =>
    obtain ⟨c', cs', e, hc⟩ := lstrip_head l (by rw [hl]; simp)
    rw [hl] at e; cases e
    obtain ⟨t, rest, e⟩ := splitWs_cons_head (s := cs) hc
    rw [hl, e] at h; cases h
    exact ⟨c, cs, t, rfl, hc, rfl⟩

/-! ## numbers start with a digit, a sign or a point -/

def numHead (c : Char) : Bool := isDigit c || c == '-' || c == '+' || c == '.'

theorem parseDec_head {s : Str} {v : Rat} (h : parseDec s = some v) : ∃ c cs, s = c :: cs ∧ numHead c = true := by
  cases s with
  | nil => simp [parseDec, parseUnsigned, parseFrac] at h
  | cons c cs =>
    refine ⟨c, cs, rfl, ?_⟩
    by_cases h1 : c = '-'
    · simp [numHead, h1]
    by_cases h2 : c = '+'
    · simp [numHead, h2]
    by_cases h3 : isDigit c = true
    · simp [numHead, h3]
    by_cases h4 : c = '.'
    · simp [numHead, h4]
    exfalso
    have hd : isDigit c = false := by simpa using h3
    have : parseDec (c :: cs) = parseUnsigned false (c :: cs) := by
      unfold parseDec
      split
      · rename_i r e; cases e; exact absurd rfl h1
      · rename_i r e; cases e; exact absurd rfl h2
      · rfl
    rw [this] at h
    simp only [parseUnsigned, List.takeWhile_cons, hd, List.dropWhile_cons] at h
    unfold parseFrac at h
    split at h
    · rename_i r e; simp at e; exact h4 e.1
    · simp at h

theorem fmtG_numHead (P : Nat) (x : Rat) : ∃ c cs, fmtG P x = c :: cs ∧ numHead c = true :=
  parseDec_head (parseDec_fmtG P x)

theorem fmtFbody_numHead (p : Nat) (x : Rat) : ∃ c cs, fmtFbody p x = c :: cs ∧ numHead c = true :=
  parseDec_head (parseDec_fmtFbody p x)

/-! ## XYZ: the first record must be a lone canonical integer -/

theorem canonInt_none_of_head {c : Char} {t : Str} (hd : isDigit c = false) (hm : c ≠ '-') :
    canonInt (c :: t) = none := by
  unfold canonInt
  split
  · rename_i r e; cases e; exact absurd rfl hm
  · simp [allDigits, hd]

theorem parseXyz_reject_words (l : Str) (ls : List Str) (w : Str) (ws : List Str)
    (hs : splitWs l = w :: ws) (hw : w ≠ ['#']) (hc : ws ≠ [] ∨ canonInt w = none) :
    parseXyz (l :: ls) = .error .sfe := by
  have hsk : isSkip (w :: ws) = false := by simp [isSkip, hw]
  unfold parseXyz
  simp only [List.map_cons, hs, List.takeWhile_cons, hsk]
  cases ws with
  | nil =>
    rcases hc with hc | hc
    · exact absurd rfl hc
    · simp [hc]
  | cons a as => rfl

/-- a first line that starts with a character which is neither `#`, a digit nor `-` is not XYZ -/
theorem parseXyz_reject_head (l : Str) (ls : List Str) (c : Char) (cs : Str) (hl : lstrip l = c :: cs)
    (hws : isWs c = false) (h1 : c ≠ '#') (h2 : isDigit c = false) (h3 : c ≠ '-') :
    parseXyz (l :: ls) = .error .sfe := by
  obtain ⟨t, rest, e⟩ := splitWs_cons_head (s := cs) hws
  have hs : splitWs l = (c :: t) :: rest := by rw [← splitWs_lstrip, hl, e]
  exact parseXyz_reject_words l ls _ _ hs (by intro h; cases h; exact h1 rfl) (Or.inr (canonInt_none_of_head h2 h3))

/-! ## raw XYZ: every record has the same number (3 or 4) of columns -/

theorem rawAtoms_reject (b : Bool) (nf : Nat) {rows : List (List Str)} {r : List Str} (hr : r ∈ rows) (h0 : r ≠ [])
    (hn : r.length ≠ nf) : rawAtoms b nf rows = .error .sfe := by
  induction rows with
  | nil => cases hr
  | cons f rest ih =>
    cases f with
    | nil => rw [rawAtoms]; exact ih ((List.mem_cons.mp hr).resolve_left h0)
    | cons w ws =>
      simp only [rawAtoms]
      by_cases hlen : (w :: ws).length ≠ nf
      · rw [if_pos hlen]
      · rw [if_neg hlen, ih ((List.mem_cons.mp hr).resolve_left (fun e => hlen (e ▸ hn)))]
        cases List.mapM parseDec ((if b = true then (w :: ws).drop 1 else w :: ws).take 3) with
        | none => rfl
        | some vs => dsimp only; split <;> simp_all

/-- a text whose first record is not a comment and which has a record of other than 0, 3 or 4 columns is rejected -/
theorem parseRaw_reject (l : Str) (ls : List Str) (hsk : isSkip (splitWs l) = false)
    (hbad : ∃ l' ∈ l :: ls, (splitWs l').length ≠ 0 ∧ (splitWs l').length ≠ 3 ∧ (splitWs l').length ≠ 4) :
    parseRaw (l :: ls) = .error .sfe := by
  obtain ⟨l', hl', h0, h3, h4⟩ := hbad
  have hne : (splitWs l).isEmpty = false := by
    cases h : splitWs l with
    | nil => rw [h] at hsk; cases hsk
    | cons a as => rfl
  have hall : ((splitWs l :: ls.map splitWs).all List.isEmpty = true) = False := by simp [hne]
  unfold parseRaw
  simp only [List.map_cons, List.dropWhile_cons, hsk, Bool.false_eq_true, if_false, hall]
  by_cases hlen : (splitWs l).length ≠ 3 ∧ (splitWs l).length ≠ 4
  · rw [if_pos hlen]
  · rw [if_neg hlen]
    have key : ∀ b, rawAtoms b (splitWs l).length (splitWs l :: ls.map splitWs) = .error .sfe := fun b =>
      rawAtoms_reject b _ (r := splitWs l') (List.mem_map_of_mem (f := splitWs) hl')
        (fun e => h0 (by rw [e]; rfl)) (by omega)
    split
    · exact key false
    · split
      · exact key true
      · rfl

/-! ## DISCUS and PDFfit: no `cell` record or no `atoms` record, no structure
(both readers require the `atoms` record, 56ab7f4) -/

theorem mem_dropTrailingBlank {L : List Str} {l : Str} (h : l ∈ dropTrailingBlank L) : l ∈ L := by
  unfold dropTrailingBlank at h
  have := (List.dropWhile_sublist (fun l => (strip l).isEmpty) (l := L.reverse)).subset (List.mem_reverse.mp h)
  exact List.mem_reverse.mp this

theorem shapeRecord_err {words ty : List Str} {a b : Rat} {e : PErr} (h : shapeRecord words ty a b = .error e) :
    e = .sfe := by
  unfold shapeRecord at h
  repeat' split at h
  all_goals first | (cases h; rfl) | cases h

def FirstWordNot (ks : List Str) (l : Str) : Prop := ∀ w ws, splitWs l = w :: ws → w ∉ ks

theorem FirstWordNot.mono {ks ks' : List Str} {l : Str} (h : FirstWordNot ks l) (hs : ∀ k ∈ ks', k ∈ ks) :
    FirstWordNot ks' l := fun w ws e hm => h w ws e (hs w hm)

theorem FirstWordNot.of_words {ks : List Str} {l w : Str} {ws : List Str} (hs : splitWs l = w :: ws) (h : w ∉ ks) :
    FirstWordNot ks l := by
  intro w' ws' e
  rw [hs] at e; cases e; exact h

theorem FirstWordNot.pair {l k1 k2 : Str} (h1 : FirstWordNot [k1] l) (h2 : FirstWordNot [k2] l) :
    FirstWordNot [k1, k2] l := by
  intro w ws e hm
  simp only [List.mem_cons, List.not_mem_nil, or_false] at hm
  rcases hm with rfl | rfl
  · exact h1 _ ws e List.mem_cons_self
  · exact h2 _ ws e List.mem_cons_self

theorem FirstWordNot.ne {ks : List Str} {l w k : Str} {ws : List Str} (h : FirstWordNot ks l)
    (hs : splitWs l = w :: ws) (hk : k ∈ ks) : w ≠ k := fun e => h w ws hs (e ▸ hk)

/-- What a header record with the first word `w0` comes to, for a header type with the flag `cellRead`: an error
among `errs`, or a header whose flag is the one of `h` unless the record is `cell`. -/
def RecordOut {α : Type} (cellRead : α → Bool) (errs : PErr → Prop) (h : α) (w0 : Str) : PRes α → Prop
  | .error e => errs e
  | .ok h' => w0 ≠ kwCell → cellRead h' = cellRead h

/-- the records of the DISCUS header fail with the format error or (`generator`, `molecule`, `symmetry`)
`NotImplementedError` -/
theorem discusRecord_out (h : DHdr) (line : Str) (words : List Str) (w0 : Str) :
    RecordOut DHdr.cellRead (fun e => e = .sfe ∨ e = .notImpl) h w0 (discusRecord h line words w0) := by
  have ok : ∀ h' : DHdr, h'.cellRead = h.cellRead →
      RecordOut DHdr.cellRead (fun e => e = .sfe ∨ e = .notImpl) h w0 (.ok h') := fun _ e _ => e
  have sfe : RecordOut DHdr.cellRead (fun e => e = .sfe ∨ e = .notImpl) h w0 (.error .sfe) := Or.inl rfl
  unfold discusRecord
  by_cases hCell : w0 = kwCell
  · rw [if_pos hCell]
    split
    · exact sfe
    · exact fun hne => absurd hCell hne
  rw [if_neg hCell]
  by_cases hFormat : w0 = kwFormat
  · rw [if_pos hFormat]
    split
    · split
      · exact sfe
      · exact ok _ rfl
    · exact sfe
  rw [if_neg hFormat]
  by_cases hGen : w0 = kwGenerator ∨ w0 = kwMolecule ∨ w0 = kwSymmetry
  · rw [if_pos hGen]; exact Or.inr rfl
  rw [if_neg hGen]
  by_cases hNcell : w0 = kwNcell
  · rw [if_pos hNcell]
    split
    · exact sfe
    · exact ok _ rfl
  rw [if_neg hNcell]
  by_cases hSpcgr : w0 = kwSpcgr
  · rw [if_pos hSpcgr]; exact ok _ rfl
  rw [if_neg hSpcgr]
  by_cases hTitle : w0 = kwTitle
  · rw [if_pos hTitle]; exact ok _ rfl
  rw [if_neg hTitle]
  by_cases hShape : w0 = kwShape
  · rw [if_pos hShape]
    split
    · exact ok _ rfl
    · rename_i hk; rw [shapeRecord_err hk]; exact sfe
  rw [if_neg hShape]
  exact ok _ rfl

/-- the records of the PDFfit header fail with the format error or - only a `dcell` record whose numbers are not six -
the model's `unmodelled` -/
theorem pdffitRecord_out (h : PHdr) (line : Str) (words : List Str) (w0 : Str) :
    RecordOut PHdr.cellRead (fun e => e = .sfe ∨ (e = .unmodelled ∧ w0 = kwDcell)) h w0
      (pdffitRecord h line words w0) := by
  have ok : ∀ h' : PHdr, h'.cellRead = h.cellRead → RecordOut PHdr.cellRead
      (fun e => e = .sfe ∨ (e = .unmodelled ∧ w0 = kwDcell)) h w0 (.ok h') := fun _ e _ => e
  have sfe : RecordOut PHdr.cellRead (fun e => e = .sfe ∨ (e = .unmodelled ∧ w0 = kwDcell)) h w0 (.error .sfe) :=
    Or.inl rfl
  unfold pdffitRecord
  simp only []  -- substitutes the `let cw := …` of `pdffitRecord`
  by_cases hTitle : w0 = kwTitle
  · rw [if_pos hTitle]; exact ok _ rfl
  rw [if_neg hTitle]
  by_cases hScale : w0 = kwScale
  · rw [if_pos hScale]
    split
    · split
      · exact ok _ rfl
      · exact sfe
    · exact sfe
  rw [if_neg hScale]
  by_cases hSharp : w0 = kwSharp
  · rw [if_pos hSharp]
    split
    · exact sfe
    · exact ok _ rfl
    · exact ok _ rfl
    · exact sfe
  rw [if_neg hSharp]
  by_cases hSpcgr : w0 = kwSpcgr
  · rw [if_pos hSpcgr]; exact ok _ rfl
  rw [if_neg hSpcgr]
  by_cases hShape : w0 = kwShape
  · rw [if_pos hShape]
    split
    · exact ok _ rfl
    · rename_i hk; rw [shapeRecord_err hk]; exact sfe
  rw [if_neg hShape]
  by_cases hCell : w0 = kwCell
  · rw [if_pos hCell]
    split
    · exact sfe
    · exact fun hne => absurd hCell hne
    · split
      · exact fun hne => absurd hCell hne
      · exact sfe
  rw [if_neg hCell]
  by_cases hDcell : w0 = kwDcell
  · rw [if_pos hDcell]
    split
    · exact sfe
    · split
      · exact ok _ rfl
      · exact Or.inr ⟨rfl, hDcell⟩
  rw [if_neg hDcell]
  by_cases hNcell : w0 = kwNcell
  · rw [if_pos hNcell]
    split
    · exact sfe
    · exact ok _ rfl
  rw [if_neg hNcell]
  by_cases hFormat : w0 = kwFormat
  · rw [if_pos hFormat]
    split
    · split
      · exact sfe
      · exact ok _ rfl
    · exact sfe
  rw [if_neg hFormat]
  exact ok _ rfl

/-! ### DISCUS -/

/-- One turn of the DISCUS header loop: it stops at an `atoms` line, fails, or goes on with a header whose flag
`cellRead` is unchanged unless the line is a `cell` record. -/
theorem discusHeader_step (line : Str) (rest : List Str) (h : DHdr) :
    ((∃ ws, splitWs line = kwAtoms :: ws) ∧ discusHeader (line :: rest) h = .ok (h, rest)) ∨
    (∃ e, discusHeader (line :: rest) h = .error e ∧ (e = .sfe ∨ e = .notImpl)) ∨
    ∃ h', discusHeader (line :: rest) h = discusHeader rest h' ∧
      (FirstWordNot [kwCell] line → h'.cellRead = h.cellRead) := by
  rw [discusHeader]
  cases hs : splitWs line with
  | nil => exact .inr (.inr ⟨h, rfl, fun _ => rfl⟩)
  | cons w0 ws =>
    simp only
    by_cases h1 : w0.head? = some '#'
    · rw [if_pos h1]; exact .inr (.inr ⟨h, rfl, fun _ => rfl⟩)
    rw [if_neg h1]
    by_cases h2 : w0 = kwAtoms
    · rw [if_pos h2]; exact .inl ⟨⟨ws, by rw [h2]⟩, rfl⟩
    rw [if_neg h2]
    have hout := discusRecord_out h line (w0 :: ws) w0
    cases hrec : discusRecord h line (w0 :: ws) w0 with
    | error e => rw [hrec] at hout; exact .inr (.inl ⟨e, rfl, hout⟩)
    | ok h' => rw [hrec] at hout; exact .inr (.inr ⟨h', rfl, fun hc => hout (hc.ne hs List.mem_cons_self)⟩)

theorem discusHeader_noCell (lines : List Str) (h : DHdr) (hno : ∀ l ∈ lines, FirstWordNot [kwCell] l) :
    (∃ e, discusHeader lines h = .error e ∧ (e = .sfe ∨ e = .notImpl)) ∨
    ∃ h' rest, discusHeader lines h = .ok (h', rest) ∧ h'.cellRead = h.cellRead := by
  induction lines generalizing h with
  | nil => left; exact ⟨.sfe, rfl, Or.inl rfl⟩
  | cons line rest ih =>
    rcases discusHeader_step line rest h with ⟨_, e⟩ | he | ⟨h', e, hc⟩
    · right; exact ⟨h, rest, e, rfl⟩
    · left; exact he
    · rw [e]
      rcases ih h' (fun l hl => hno l (List.mem_cons_of_mem _ hl)) with he | ⟨h'', r, he, hc'⟩
      · left; exact he
      · right; exact ⟨h'', r, he, hc'.trans (hc (hno line List.mem_cons_self))⟩

/-- a text none of whose lines begins with the word `cell` is rejected by the DISCUS reader, with the format error
or (for a `generator` / `molecule` / `symmetry` record) `NotImplementedError` -/
theorem parseDiscus_noCell (lines : List Str) (hno : ∀ l ∈ lines, FirstWordNot [kwCell] l) :
    parseDiscus lines = .error .sfe ∨ parseDiscus lines = .error .notImpl := by
  unfold parseDiscus
  rcases discusHeader_noCell (dropTrailingBlank lines) DHdr.init
      (fun l hl => hno l (mem_dropTrailingBlank hl)) with ⟨e, he, hk⟩ | ⟨h', r, he, hc⟩
  · rw [he]; rcases hk with rfl | rfl
    · left; rfl
    · right; rfl
  · rw [he]
    have : h'.cellRead = false := hc
    left; simp [this]

/-- the DISCUS header loop over lines none of which begins with the word `atoms` never leaves through the `atoms`
branch: it fails in a record, or runs out of lines (`for … else: raise`) -/
theorem discusHeader_noAtoms (lines : List Str) (h : DHdr) (hno : ∀ l ∈ lines, FirstWordNot [kwAtoms] l) :
    ∃ e, discusHeader lines h = .error e ∧ (e = .sfe ∨ e = .notImpl) := by
  induction lines generalizing h with
  | nil => exact ⟨.sfe, rfl, Or.inl rfl⟩
  | cons line rest ih =>
    rcases discusHeader_step line rest h with ⟨⟨ws, hs⟩, _⟩ | he | ⟨h', e, _⟩
    · exact absurd rfl ((hno line List.mem_cons_self).ne hs List.mem_cons_self)
    · exact he
    · rw [e]; exact ih h' (fun l hl => hno l (List.mem_cons_of_mem _ hl))

/-- a text none of whose lines begins with the word `atoms` is rejected by the DISCUS reader, with the format error
or (for a `generator` / `molecule` / `symmetry` record) `NotImplementedError` — whatever `cell` records it has -/
theorem parseDiscus_noAtoms (lines : List Str) (hno : ∀ l ∈ lines, FirstWordNot [kwAtoms] l) :
    parseDiscus lines = .error .sfe ∨ parseDiscus lines = .error .notImpl := by
  unfold parseDiscus
  obtain ⟨e, he, hk⟩ := discusHeader_noAtoms (dropTrailingBlank lines) DHdr.init
      (fun l hl => hno l (mem_dropTrailingBlank hl))
  rw [he]; rcases hk with rfl | rfl
  · left; rfl
  · right; rfl

/-! ### PDFfit -/

/-- One turn of the PDFfit header loop: the line is an `atoms` line after a `cell` record (where the loop stops; its value
is not needed), or the loop fails (with the model's `unmodelled` only at a `dcell` record), or it goes on with a header
whose flag `cellRead` is unchanged unless the line is a `cell` record. -/
theorem pdffitHeader_step (line : Str) (rest : List Str) (h : PHdr) :
    ((∃ ws, splitWs line = kwAtoms :: ws) ∧ h.cellRead = true) ∨
    pdffitHeader (line :: rest) h = .error .sfe ∨
    (pdffitHeader (line :: rest) h = .error .unmodelled ∧ ∃ ws, splitWs line = kwDcell :: ws) ∨
    ∃ h', pdffitHeader (line :: rest) h = pdffitHeader rest h' ∧
      (FirstWordNot [kwCell] line → h'.cellRead = h.cellRead) := by
  rw [pdffitHeader]
  cases hs : splitWs line with
  | nil => exact .inr (.inr (.inr ⟨h, rfl, fun _ => rfl⟩))
  | cons w0 ws =>
    simp only
    by_cases h1 : w0.head? = some '#'
    · rw [if_pos h1]; exact .inr (.inr (.inr ⟨h, rfl, fun _ => rfl⟩))
    rw [if_neg h1]
    by_cases h2 : w0 = kwAtoms ∧ h.cellRead = true
    · exact .inl ⟨⟨ws, by rw [h2.1]⟩, h2.2⟩
    rw [if_neg h2]
    have hout := pdffitRecord_out h line (w0 :: ws) w0
    cases hrec : pdffitRecord h line (w0 :: ws) w0 with
    | error e =>
      rw [hrec] at hout
      rcases hout with rfl | ⟨rfl, hw⟩
      · exact .inr (.inl rfl)
      · exact .inr (.inr (.inl ⟨rfl, ws, by rw [hw]⟩))
    | ok h' =>
      rw [hrec] at hout
      exact .inr (.inr (.inr ⟨h', rfl, fun hc => hout (hc.ne hs List.mem_cons_self)⟩))

/-- the PDFfit header loop over lines none of which begins with the word `atoms` never leaves through the `atoms`
branch: it fails, and with the model's `unmodelled` only at a `dcell` record -/
theorem pdffitHeader_noAtoms (lines : List Str) (h : PHdr) (hno : ∀ l ∈ lines, FirstWordNot [kwAtoms] l) :
    pdffitHeader lines h = .error .sfe ∨
    (pdffitHeader lines h = .error .unmodelled ∧ ∃ l ∈ lines, ∃ ws, splitWs l = kwDcell :: ws) := by
  induction lines generalizing h with
  | nil => left; rfl
  | cons line rest ih =>
    rcases pdffitHeader_step line rest h with ⟨⟨ws, hs⟩, _⟩ | he | ⟨he, hw⟩ | ⟨h', e, _⟩
    · exact absurd rfl ((hno line List.mem_cons_self).ne hs List.mem_cons_self)
    · left; exact he
    · right; exact ⟨he, line, List.mem_cons_self, hw⟩
    · rw [e]
      exact (ih h' (fun l hl => hno l (List.mem_cons_of_mem _ hl))).imp_right
        (And.imp_right fun ⟨l, hl, hw⟩ => ⟨l, List.mem_cons_of_mem _ hl, hw⟩)

/-- the PDFfit header loop takes an `atoms` line for the end of the header only after a `cell` record: lines `pre`
without a `cell` record followed by lines `post` without an `atoms` record are rejected -/
theorem pdffitHeader_noAtomsAfterCell (pre post : List Str) (h : PHdr) (hc : h.cellRead = false)
    (hpre : ∀ l ∈ pre, FirstWordNot [kwCell] l) (hpost : ∀ l ∈ post, FirstWordNot [kwAtoms] l) :
    pdffitHeader (pre ++ post) h = .error .sfe ∨
    (pdffitHeader (pre ++ post) h = .error .unmodelled ∧ ∃ l ∈ pre ++ post, ∃ ws, splitWs l = kwDcell :: ws) := by
  induction pre generalizing h with
  | nil => exact pdffitHeader_noAtoms post h hpost
  | cons line rest ih =>
    rw [List.cons_append]
    rcases pdffitHeader_step line (rest ++ post) h with ⟨_, hc'⟩ | he | ⟨he, hw⟩ | ⟨h', e, hc'⟩
    · rw [hc] at hc'; cases hc'
    · left; exact he
    · right; exact ⟨he, line, List.mem_cons_self, hw⟩
    · rw [e]
      exact (ih h' ((hc' (hpre line List.mem_cons_self)).trans hc) (fun l hl => hpre l (List.mem_cons_of_mem _ hl))).imp_right
        (And.imp_right fun ⟨l, hl, hw⟩ => ⟨l, List.mem_cons_of_mem _ hl, hw⟩)

theorem dropTrailingBlank_append (pre post : List Str) :
    ∃ pre' post', dropTrailingBlank (pre ++ post) = pre' ++ post' ∧ (∀ l ∈ pre', l ∈ pre) ∧ (∀ l ∈ post', l ∈ post) := by
  unfold dropTrailingBlank
  rw [List.reverse_append, List.dropWhile_append]
  split
  · exact ⟨_, [], (List.append_nil _).symm,
      fun l hl => mem_dropTrailingBlank (by unfold dropTrailingBlank; exact hl), by simp⟩
  · refine ⟨pre, (post.reverse.dropWhile (fun l => (strip l).isEmpty)).reverse, by simp, fun _ h => h,
      fun l hl => mem_dropTrailingBlank (by unfold dropTrailingBlank; exact hl)⟩

/-- a text that splits into lines without a `cell` record followed by lines without an `atoms` record is rejected by
the PDFfit reader; the model stops with `unmodelled` at a `dcell` record that has not six numbers, where the real reader
goes on and fails at the end of the header -/
theorem parsePdffit_reject (pre post : List Str)
    (hpre : ∀ l ∈ pre, FirstWordNot [kwCell] l) (hpost : ∀ l ∈ post, FirstWordNot [kwAtoms] l) :
    parsePdffit (pre ++ post) = .error .sfe ∨
    (parsePdffit (pre ++ post) = .error .unmodelled ∧ ∃ l ∈ pre ++ post, ∃ ws, splitWs l = kwDcell :: ws) := by
  obtain ⟨pre', post', e, h1, h2⟩ := dropTrailingBlank_append pre post
  unfold parsePdffit
  rw [e]
  rcases pdffitHeader_noAtomsAfterCell pre' post' PHdr.init rfl (fun l hl => hpre l (h1 l hl))
      (fun l hl => hpost l (h2 l hl)) with he | ⟨he, l, hl, hw⟩
  · rw [he]; left; rfl
  · rw [he]; right
    refine ⟨rfl, l, ?_, hw⟩
    rcases List.mem_append.mp hl with hl | hl
    · exact List.mem_append_left _ (h1 l hl)
    · exact List.mem_append_right _ (h2 l hl)

theorem parsePdffit_noAtomsAfterCell (pre post : List Str)
    (hpre : ∀ l ∈ pre, FirstWordNot [kwCell] l) (hpost : ∀ l ∈ post, FirstWordNot [kwAtoms] l) :
    parsePdffit (pre ++ post) = .error .sfe ∨ parsePdffit (pre ++ post) = .error .unmodelled :=
  (parsePdffit_reject pre post hpre hpost).imp_right And.left

theorem parsePdffit_noAtoms' (lines : List Str) (hno : ∀ l ∈ lines, FirstWordNot [kwAtoms] l) :
    parsePdffit lines = .error .sfe ∨
    (parsePdffit lines = .error .unmodelled ∧ ∃ l ∈ lines, ∃ ws, splitWs l = kwDcell :: ws) :=
  parsePdffit_reject [] lines (fun _ hl => absurd hl List.not_mem_nil) hno

/-- a text none of whose lines begins with the word `atoms` or `dcell` is rejected by the PDFfit reader with the format
error -/
theorem parsePdffit_noAtoms (lines : List Str) (hno : ∀ l ∈ lines, FirstWordNot [kwAtoms, kwDcell] l) :
    parsePdffit lines = .error .sfe := by
  rcases parsePdffit_noAtoms' lines (fun l hl => (hno l hl).mono (by simp)) with e | ⟨_, l, hl, ws, hw⟩
  · exact e
  · exact absurd rfl ((hno l hl).ne hw (by simp))

/-- a text none of whose lines begins with the word `cell` or `dcell` is rejected by the PDFfit reader -/
theorem parsePdffit_noCell (lines : List Str) (hno : ∀ l ∈ lines, FirstWordNot [kwCell, kwDcell] l) :
    parsePdffit lines = .error .sfe := by
  have h := parsePdffit_reject lines [] (fun l hl => (hno l hl).mono (by simp)) (fun _ hl => absurd hl List.not_mem_nil)
  rw [List.append_nil] at h
  rcases h with e | ⟨_, l, hl, ws, hw⟩
  · exact e
  · exact absurd rfl ((hno l hl).ne hw (by simp))


/-! ## PDB: the first record word must be a record name -/

def pdbRecordNames : List Str :=
  [kwTITLE, kwCRYST1, kwSCALE '1', kwSCALE '2', kwSCALE '3', kwATOM, kwHETATM, kwSIGATM, kwANISOU, kwSIGUIJ] ++ pdbOtherRecords

def isPdbRecord (w : Str) : Bool := pdbRecordNames.contains w

theorem pdbRecord_reject (st : PdbSt) (line w : Str) (h : isPdbRecord w = false) :
    pdbRecord st line w = .error .sfe := by
  have hn : w ∉ pdbRecordNames := fun hm => by
    rw [isPdbRecord, List.contains_iff_mem.mpr hm] at h; cases h
  simp only [pdbRecordNames, List.cons_append, List.nil_append, List.mem_cons, not_or] at hn
  obtain ⟨hTitle, hCryst, hS1, hS2, hS3, hAtom, hHet, hSigatm, hAnisou, hSiguij, hOther⟩ := hn
  have hOther' : pdbOtherRecords.contains w = false := by
    cases ho : pdbOtherRecords.contains w with
    | false => rfl
    | true => exact absurd (List.contains_iff_mem.mp ho) hOther
  unfold pdbRecord
  rw [if_neg hTitle, if_neg hCryst, if_neg (not_or.mpr ⟨hS1, not_or.mpr ⟨hS2, hS3⟩⟩),
    if_neg (not_or.mpr ⟨hAtom, hHet⟩), if_neg (not_or.mpr ⟨hSigatm, not_or.mpr ⟨hAnisou, hSiguij⟩⟩), hOther']
  rfl

/-- a text whose first line is not blank and begins with a word that is not a PDB record name is rejected -/
theorem parsePdb_reject_words (l : Str) (ls : List Str) (w : Str) (ws : List Str) (hs : splitWs l = w :: ws)
    (hw : isPdbRecord w = false) : parsePdb (l :: ls) = .error .sfe := by
  have hne : (strip l).isEmpty = false := strip_ne_of_split (by rw [hs]; simp)
  have hpad : splitWs (if l.length < 80 then padRight 80 l else l) = w :: ws := by
    split
    · rw [padRight_eq, splitWs_append_allWs (AllWs_replicate _), hs]
    · exact hs
  unfold parsePdb
  rw [pdbLoop]
  simp only [hne, Bool.false_eq_true, if_false, hpad, pdbRecord_reject _ _ w hw]

theorem isPdbRecord_head {w : Str} (h : isPdbRecord w = true) :
    ∃ c cs, w = c :: cs ∧ isUpperA c = true ∧ cs.all (fun c => isUpperA c || isDigit c) = true := by
  have hall : pdbRecordNames.all (fun r => match r with
      | c :: cs => isUpperA c && cs.all (fun c => isUpperA c || isDigit c) | [] => false) = true := by
    decide +kernel
  have := List.all_eq_true.mp hall w (List.contains_iff_mem.mp h)
  cases w with
  | nil => simp at this
  | cons c cs => exact ⟨c, cs, rfl, Bool.and_eq_true_iff.mp this⟩

theorem not_pdbRecord {c : Char} {cs : Str}
    (h : isUpperA c = false ∨ cs.all (fun c => isUpperA c || isDigit c) = false) : isPdbRecord (c :: cs) = false := by
  cases hr : isPdbRecord (c :: cs) with
  | false => rfl
  | true =>
    obtain ⟨c', cs', e, hc, hcs⟩ := isPdbRecord_head hr
    cases e
    rcases h with h | h
    · rw [h] at hc; cases hc
    · rw [h] at hcs; cases hcs

/-- … in particular when the first line begins with a character that is not an upper-case letter -/
theorem parsePdb_reject_head (l : Str) (ls : List Str) (c : Char) (cs : Str) (hl : lstrip l = c :: cs)
    (hws : isWs c = false) (hu : isUpperA c = false) : parsePdb (l :: ls) = .error .sfe := by
  obtain ⟨t, rest, e⟩ := splitWs_cons_head (s := cs) hws
  have hs : splitWs l = (c :: t) :: rest := by rw [← splitWs_lstrip, hl, e]
  exact parsePdb_reject_words l ls _ _ hs (not_pdbRecord (.inl hu))

/-! ## XCFG: the first record must be `Number of particles =` -/

def kwNumber : Str := "Number of particles =".toList

theorem isPrefixOf_head {p s : Str} {c : Char} {p' : Str} (hp : p = c :: p') (h : isPrefixOf p s = true) :
    s.head? = some c := by
  subst hp
  cases s with
  | nil => simp [isPrefixOf] at h
  | cons d ds =>
    simp only [isPrefixOf, List.length_cons, List.take_succ_cons, beq_iff_eq, List.cons.injEq] at h
    simp [h.1]

theorem dropTrailingBlank_cons (l : Str) (ls : List Str) (h : (strip l).isEmpty = false) :
    dropTrailingBlank (l :: ls) = l :: dropTrailingBlank ls := by
  unfold dropTrailingBlank
  rw [List.reverse_cons, List.dropWhile_append]
  split
  · rename_i he
    rw [List.isEmpty_iff.mp he]
    simp [h]
  · simp

theorem xcfgHeader_noNumber_cons (l : Str) (rest : List Str) (h : XHdr) (hn : h.n = none)
    (hskip : ((strip l).isEmpty || l.head? == some '#') = false) (hp : isPrefixOf kwNumber l = false) :
    xcfgHeader (l :: rest) h = .error .sfe := by
  -- the model writes the literal that `kwNumber` unfolds to
  have hp' : isPrefixOf "Number of particles =".toList l = false := hp
  rw [xcfgHeader, if_neg (by rw [hskip]; decide), hn, if_pos (show (none : Option Int).isNone = true from rfl), hp',
    if_pos (show (!false) = true from rfl)]

/-- a text whose first line is not blank, not a comment and does not start with `Number of particles =` is
rejected by the XCFG reader -/
theorem parseXcfg_reject_head (l : Str) (ls : List Str) (h1 : (strip l).isEmpty = false) (h2 : l.head? ≠ some '#')
    (h3 : isPrefixOf kwNumber l = false) : parseXcfg (l :: ls) = .error .sfe := by
  have h2' : (l.head? == some '#') = false := by simpa using h2
  unfold parseXcfg
  rw [dropTrailingBlank_cons l ls h1, xcfgHeader_noNumber_cons l _ _ rfl (by rw [h1, h2']; rfl) h3]

theorem xcfgHeader_noNumber (lines : List Str) (h : XHdr) (hn : h.n = none)
    (hno : ∀ l ∈ lines, isPrefixOf kwNumber l = false) :
    xcfgHeader lines h = .error .sfe ∨ ∃ h', xcfgHeader lines h = .ok (h', []) ∧ h'.n = none := by
  induction lines with
  | nil => right; exact ⟨h, rfl, hn⟩
  | cons l rest ih =>
    cases hskip : (strip l).isEmpty || l.head? == some '#' with
    | true => rw [xcfgHeader, if_pos hskip]; exact ih (fun l hl => hno l (List.mem_cons_of_mem _ hl))
    | false => left; exact xcfgHeader_noNumber_cons l rest h hn hskip (hno l List.mem_cons_self)

/-- a text without any line starting with `Number of particles =` is rejected by the XCFG reader -/
theorem parseXcfg_reject_noNumber (lines : List Str) (hno : ∀ l ∈ lines, isPrefixOf kwNumber l = false) :
    parseXcfg lines = .error .sfe := by
  unfold parseXcfg
  rcases xcfgHeader_noNumber (dropTrailingBlank lines) ⟨none, none, List.replicate 9 none, false, none, []⟩ rfl
      (fun l hl => hno l (mem_dropTrailingBlank hl)) with e | ⟨h', e, hn⟩
  · rw [e]
  · rw [e]
    simp only [hn]
    split <;> simp_all

end DS.Formats

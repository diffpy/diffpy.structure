import DS.Lemmas.Formats

/-!
# File-level round trip for XCFG (`DS.Model.Formats`)

`roundtrip_xcfg`: `parseXcfg (ofText (toText (writeXcfg d))) = .ok (quantXcfg d)`, the whole written text, for every document
in the representable range.  The reader is followed through the written header record by record
(`xh_*`), then through the data block (`xcfgData_atoms`); `uSel` is the choice of displacement columns
that the writer makes once per file and that names, values and counts all follow.
-/
namespace DS.Formats
open DS.Dec

/-! ## generic helpers -/

theorem strip_cons_nonblank {c : Char} (s : Str) (hc : isWs c = false) : (strip (c :: s)).isEmpty = false := by
  have ht : IsTok [c] := ⟨by simp, by intro d hd; simp at hd; subst hd; exact hc⟩
  have := strip_tok_append (t := [c]) (s := s) ht
  simp only [List.singleton_append] at this
  rw [this]; rfl

theorem firstTok_blank_tok {t s : Str} (ht : IsTok t) : firstTok (' ' :: (t ++ ' ' :: s)) = some t := by
  unfold firstTok
  rw [show (' ' :: (t ++ ' ' :: s)) = [' '] ++ (t ++ ' ' :: s) from rfl, splitWs_allWs_append AllWs_one,
    splitWs_tok_ws ht isWs_space]
  rfl

theorem firstTok_tok {t s : Str} (ht : IsTok t) : firstTok (t ++ ' ' :: s) = some t := by
  unfold firstTok
  rw [splitWs_tok_ws ht isWs_space]
  rfl

theorem firstTok_blank_tok_end {t : Str} (ht : IsTok t) : firstTok (' ' :: t) = some t := by
  unfold firstTok
  rw [show (' ' :: t) = [' '] ++ t from rfl, splitWs_allWs_append AllWs_one, splitWs_tok_end ht]
  rfl

theorem parseInt_natDigits (n : Nat) : parseInt (natDigits n) = some (n : Int) := by
  have := parseInt_fmtIbody_nat n
  have hneg : ¬ ((n : Int) < 0) := by omega
  simpa [fmtIbody, signStr, hneg] using this

theorem natDigits_two : natDigits 2 = ['2'] := by
  unfold natDigits; simp [digitChar]
theorem natDigits_three : natDigits 3 = ['3'] := by
  unfold natDigits; simp [digitChar]

/-! ## XCFG: string literals of the writer and the reader as character lists

A string literal is `String.ofList` of its characters, so `String.toList_ofList` turns `"…".toList` into the character
list without evaluating anything; each `l…` lemma does this for one literal of the model, and the `k…` / `n…`
definitions below name such lists where a statement needs them. -/

theorem lNumEq : "Number of particles = ".toList = ['N', 'u', 'm', 'b', 'e', 'r', ' ', 'o', 'f', ' ', 'p', 'a', 'r', 't', 'i', 'c', 'l', 'e', 's', ' ', '=', ' '] := String.toList_ofList
theorem lNum : "Number of particles =".toList = ['N', 'u', 'm', 'b', 'e', 'r', ' ', 'o', 'f', ' ', 'p', 'a', 'r', 't', 'i', 'c', 'l', 'e', 's', ' ', '='] := String.toList_ofList
theorem lAeq : "A = ".toList = ['A', ' ', '=', ' '] := String.toList_ofList
theorem lA : "A =".toList = ['A', ' ', '='] := String.toList_ofList
theorem lAng : " Angstrom".toList = [' ', 'A', 'n', 'g', 's', 't', 'r', 'o', 'm'] := String.toList_ofList
theorem lH0 : "H0(".toList = ['H', '0', '('] := String.toList_ofList
theorem lH0e : ") = ".toList = [')', ' ', '=', ' '] := String.toList_ofList
theorem lHA : " A".toList = [' ', 'A'] := String.toList_ofList
theorem lNoVel : ".NO_VELOCITY.".toList = ['.', 'N', 'O', '_', 'V', 'E', 'L', 'O', 'C', 'I', 'T', 'Y', '.'] := String.toList_ofList
theorem lEcEq : "entry_count = ".toList = ['e', 'n', 't', 'r', 'y', '_', 'c', 'o', 'u', 'n', 't', ' ', '=', ' '] := String.toList_ofList
theorem lEc : "entry_count =".toList = ['e', 'n', 't', 'r', 'y', '_', 'c', 'o', 'u', 'n', 't', ' ', '='] := String.toList_ofList
theorem lAux : "auxiliary[".toList = ['a', 'u', 'x', 'i', 'l', 'i', 'a', 'r', 'y', '['] := String.toList_ofList
theorem lAuxE : "] = ".toList = [']', ' ', '=', ' '] := String.toList_ofList
theorem lAuxM : "] =".toList = [']', ' ', '='] := String.toList_ofList
theorem lAu : " [au]".toList = [' ', '[', 'a', 'u', ']'] := String.toList_ofList
theorem lOcc : "occupancy".toList = ['o', 'c', 'c', 'u', 'p', 'a', 'n', 'c', 'y'] := String.toList_ofList
theorem lUiso : "Uiso".toList = ['U', 'i', 's', 'o'] := String.toList_ofList
theorem lBiso : "Biso".toList = ['B', 'i', 's', 'o'] := String.toList_ofList
theorem lU11 : "U11".toList = ['U', '1', '1'] := String.toList_ofList
theorem lU22 : "U22".toList = ['U', '2', '2'] := String.toList_ofList
theorem lU33 : "U33".toList = ['U', '3', '3'] := String.toList_ofList
theorem lU12 : "U12".toList = ['U', '1', '2'] := String.toList_ofList
theorem lU13 : "U13".toList = ['U', '1', '3'] := String.toList_ofList
theorem lU23 : "U23".toList = ['U', '2', '3'] := String.toList_ofList
theorem lAuxN : "aux".toList = ['a', 'u', 'x'] := String.toList_ofList

/-! ## XCFG header records -/

def kNum : Str := ['N', 'u', 'm', 'b', 'e', 'r', ' ', 'o', 'f', ' ', 'p', 'a', 'r', 't', 'i', 'c', 'l', 'e', 's', ' ', '=']
def kA : Str := ['A', ' ', '=']
def kH0 : Str := ['H', '0', '(']
def kNoVel : Str := ['.', 'N', 'O', '_', 'V', 'E', 'L', 'O', 'C', 'I', 'T', 'Y', '.']
def kEc : Str := ['e', 'n', 't', 'r', 'y', '_', 'c', 'o', 'u', 'n', 't', ' ', '=']

theorem xcfgHeader_cons (line : Str) (rest : List Str) (h : XHdr) :
    xcfgHeader (line :: rest) h =
    if (strip line).isEmpty || line.head? == some '#' then xcfgHeader rest h
    else if h.n.isNone then
      if !isPrefixOf kNum line then .error .sfe else
      match (firstTok (line.drop 21)).bind parseInt with
      | some n => xcfgHeader rest { h with n := some n }
      | none => .error .sfe
    else if isPrefixOf kA line then
      match (firstTok (line.drop 3)).bind parseDec with
      | some a => xcfgHeader rest { h with a := some a }
      | none => .error .sfe
    else if isPrefixOf kH0 line then
      match (line.drop 3).head?.bind digit1, (line.drop 5).head?.bind digit1, (firstTok (line.drop 10)).bind parseDec with
      | some i, some j, some v =>
        if 1 ≤ i ∧ i ≤ 3 ∧ 1 ≤ j ∧ j ≤ 3 then xcfgHeader rest { h with h0 := h.h0.set ((i - 1) * 3 + (j - 1)) (some v) }
        else .error .unmodelled
      | _, _, _ => .error .sfe
    else if isPrefixOf kNoVel line then xcfgHeader rest { h with noVel := true }
    else if isPrefixOf kEc line then
      match (firstTok (line.drop 13)).bind parseInt with
      | some n => xcfgHeader rest { h with entryCount := some n }
      | none => .error .sfe
    else match auxMatch line with
      | some (idx, r) =>
        match firstTok r with
        | some nm => xcfgHeader rest { h with aux := (h.aux.filter (fun p => p.1 != idx)) ++ [(idx, nm)] }
        | none => .error .sfe
      | none => .ok (h, rest) := by
  rw [xcfgHeader]
  simp only [lNum, lA, lH0, lNoVel, lEc]
  rfl

theorem IsTok_g8 (x : Rat) : IsTok (g8 x) := IsTok_fmtG 8 x
theorem parseDec_g8 (x : Rat) : parseDec (g8 x) = some (roundSig 8 x) := parseDec_fmtG 8 x

def kAux : Str := ['a', 'u', 'x', 'i', 'l', 'i', 'a', 'r', 'y', '[']

theorem auxMatch_eq (line : Str) : auxMatch line =
    if !isPrefixOf kAux line then none else
    if ((line.drop 10).takeWhile isDigit).isEmpty || !isPrefixOf [']', ' ', '='] ((line.drop 10).dropWhile isDigit) then none
    else some (numOf ((line.drop 10).takeWhile isDigit), ((line.drop 10).dropWhile isDigit).drop 3) := by
  simp only [auxMatch, lAux, lAuxM]
  rfl

theorem auxMatch_line (i : Nat) (nm : Str) :
    auxMatch ("auxiliary[".toList ++ natDigits i ++ "] = ".toList ++ nm ++ " [au]".toList) = some (i, ' ' :: (nm ++ " [au]".toList)) := by
  rw [auxMatch_eq, lAux, lAuxE]
  simp only [List.cons_append, List.nil_append, List.append_assoc, List.drop_succ_cons, List.drop_zero]
  have h := takeWhile_digits (natDigits i) (']' :: ' ' :: '=' :: ' ' :: (nm ++ " [au]".toList)) (allDigits_natDigits i)
    (by simp [isDigit])
  rw [h.1, h.2]
  simp [isPrefixOf, kAux, isEmpty_false_of_ne (natDigits_ne_nil i), numOf_natDigits]

/-! One step of the reader on each record the writer emits, with the reader's state spelt out field by
field: only the first record is read while `n` is unset, all others after it is set. -/
section steps
variable {rest : List Str} {n : Int} {a : Option Rat} {h0 : List (Option Rat)} {nv : Bool} {ec : Option Int}
  {aux : List (Nat × Str)}

theorem xh_n (k : Nat) :
    xcfgHeader (("Number of particles = ".toList ++ natDigits k) :: rest) ⟨none, a, h0, nv, ec, aux⟩ =
      xcfgHeader rest ⟨some (k : Int), a, h0, nv, ec, aux⟩ := by
  rw [xcfgHeader_cons, lNumEq]
  simp only [List.cons_append, List.nil_append]
  rw [strip_cons_nonblank _ (by decide)]
  simp only [Option.isNone_none, isPrefixOf, kNum, List.head?_cons, List.take, List.length_cons, List.length_nil,
    List.drop_succ_cons, List.drop_zero]
  rw [firstTok_blank_tok_end (IsTok_natDigits k)]
  simp [parseInt_natDigits]

theorem xh_A (x : Rat) :
    xcfgHeader (("A = ".toList ++ g8 x ++ " Angstrom".toList) :: rest) ⟨some n, a, h0, nv, ec, aux⟩ =
      xcfgHeader rest ⟨some n, some (roundSig 8 x), h0, nv, ec, aux⟩ := by
  rw [xcfgHeader_cons, lAeq, lAng]
  simp only [List.cons_append, List.nil_append]
  rw [strip_cons_nonblank _ (by decide)]
  simp only [Option.isNone_some, isPrefixOf, kA, List.head?_cons, List.take, List.length_cons, List.length_nil,
    List.drop_succ_cons, List.drop_zero]
  rw [firstTok_blank_tok (IsTok_g8 x)]
  simp [parseDec_g8]

theorem xh_H0c (ci cj : Char) (i j : Nat) (hci : digit1 ci = some i) (hcj : digit1 cj = some j)
    (hi : 1 ≤ i ∧ i ≤ 3) (hj : 1 ≤ j ∧ j ≤ 3) (v : Rat) :
    xcfgHeader (('H' :: '0' :: '(' :: ci :: ',' :: cj :: ')' :: ' ' :: '=' :: ' ' :: (g8 v ++ [' ', 'A'])) :: rest)
        ⟨some n, a, h0, nv, ec, aux⟩ =
      xcfgHeader rest ⟨some n, a, h0.set ((i - 1) * 3 + (j - 1)) (some (roundSig 8 v)), nv, ec, aux⟩ := by
  rw [xcfgHeader_cons]
  rw [strip_cons_nonblank _ (by decide)]
  simp only [Option.isNone_some, isPrefixOf, kA, kH0, List.head?_cons, List.take, List.length_cons, List.length_nil,
    List.drop_succ_cons, List.drop_zero]
  rw [firstTok_tok (IsTok_g8 v)]
  simp [parseDec_g8, hci, hcj, hi, hj]

theorem xh_H0 (i j : Nat) (hi : 1 ≤ i ∧ i ≤ 3) (hj : 1 ≤ j ∧ j ≤ 3) (v : Rat) :
    xcfgHeader (("H0(".toList ++ nameI i ++ [','] ++ nameI j ++ ") = ".toList ++ g8 v ++ " A".toList) :: rest)
        ⟨some n, a, h0, nv, ec, aux⟩ =
      xcfgHeader rest ⟨some n, a, h0.set ((i - 1) * 3 + (j - 1)) (some (roundSig 8 v)), nv, ec, aux⟩ := by
  have hd : ∀ k : Nat, 1 ≤ k ∧ k ≤ 3 → ∃ c, nameI k = [c] ∧ digit1 c = some k := by
    intro k hk
    have : k = 1 ∨ k = 2 ∨ k = 3 := by omega
    rcases this with rfl | rfl | rfl
    · exact ⟨'1', natDigits_one, by decide⟩
    · exact ⟨'2', natDigits_two, by decide⟩
    · exact ⟨'3', natDigits_three, by decide⟩
  obtain ⟨ci, e1, hci⟩ := hd i hi
  obtain ⟨cj, e2, hcj⟩ := hd j hj
  rw [e1, e2, lH0, lH0e, lHA]
  simp only [List.cons_append, List.nil_append]
  exact xh_H0c ci cj i j hci hcj hi hj v

theorem xh_novel :
    xcfgHeader (".NO_VELOCITY.".toList :: rest) ⟨some n, a, h0, nv, ec, aux⟩ =
      xcfgHeader rest ⟨some n, a, h0, true, ec, aux⟩ := by
  rw [xcfgHeader_cons, lNoVel]
  rw [strip_cons_nonblank _ (by decide)]
  simp [isPrefixOf, kA, kH0, kNoVel]

theorem xh_novel_opt (c : Bool) :
    xcfgHeader ((if c then [".NO_VELOCITY.".toList] else []) ++ rest) ⟨some n, a, h0, false, ec, aux⟩ =
      xcfgHeader rest ⟨some n, a, h0, c, ec, aux⟩ := by
  cases c
  · rfl
  · exact xh_novel

theorem xh_ec (k : Nat) :
    xcfgHeader (("entry_count = ".toList ++ natDigits k) :: rest) ⟨some n, a, h0, nv, ec, aux⟩ =
      xcfgHeader rest ⟨some n, a, h0, nv, some (k : Int), aux⟩ := by
  rw [xcfgHeader_cons, lEcEq]
  simp only [List.cons_append, List.nil_append]
  rw [strip_cons_nonblank _ (by decide)]
  simp only [Option.isNone_some, isPrefixOf, kA, kH0, kNoVel, kEc, List.head?_cons, List.take, List.length_cons,
    List.length_nil, List.drop_succ_cons, List.drop_zero]
  rw [firstTok_blank_tok_end (IsTok_natDigits k)]
  simp [parseInt_natDigits]

theorem xh_aux (i : Nat) (nm : Str) (hnm : IsTok nm) :
    xcfgHeader (("auxiliary[".toList ++ natDigits i ++ "] = ".toList ++ nm ++ " [au]".toList) :: rest)
        ⟨some n, a, h0, nv, ec, aux⟩ =
      xcfgHeader rest ⟨some n, a, h0, nv, ec, (aux.filter (fun p => p.1 != i)) ++ [(i, nm)]⟩ := by
  have hft : firstTok (' ' :: (nm ++ " [au]".toList)) = some nm := by rw [lAu]; exact firstTok_blank_tok hnm
  rw [xcfgHeader_cons, auxMatch_line]
  simp only [hft]
  rw [lAux]
  simp only [List.cons_append, List.nil_append, List.append_assoc]
  rw [strip_cons_nonblank _ (by decide)]
  simp [isPrefixOf, kA, kH0, kNoVel, kEc]

/-- a line that starts with a digit or a minus sign ends the header (`break`; the line is consumed) -/
theorem xh_break (c : Char) (cs : Str) (hc : isDigit c = true ∨ c = '-') :
    xcfgHeader ((c :: cs) :: rest) ⟨some n, a, h0, nv, ec, aux⟩ = .ok (⟨some n, a, h0, nv, ec, aux⟩, rest) := by
  have hws : isWs c = false := by
    rcases hc with hc | rfl
    · exact isWs_of_isDigit hc
    · decide
  have hne : ∀ k : Char, isDigit k = false → k ≠ '-' → c ≠ k := by
    intro k hk hk2 e; subst e
    rcases hc with hc | hc
    · rw [hk] at hc; cases hc
    · exact hk2 hc
  have h1 := hne '#' (by decide) (by decide)
  have h2 := hne 'A' (by decide) (by decide)
  have h3 := hne 'H' (by decide) (by decide)
  have h4 := hne '.' (by decide) (by decide)
  have h5 := hne 'e' (by decide) (by decide)
  have h6 := hne 'a' (by decide) (by decide)
  rw [xcfgHeader_cons, auxMatch_eq, strip_cons_nonblank _ hws]
  simp [isPrefixOf, kA, kH0, kNoVel, kEc, kAux, h1, h2, h3, h4, h5, h6]

end steps

theorem xh_blank (rest : List Str) (h : XHdr) : xcfgHeader ([] :: rest) h = xcfgHeader rest h := by
  rw [xcfgHeader_cons]
  simp [strip, lstrip, rstrip]

theorem fmtFbody_head (p : Nat) (x : Rat) : ∃ c cs, fmtFbody p x = c :: cs ∧ (isDigit c = true ∨ c = '-') := by
  unfold fmtFbody signStr fixedBody
  obtain ⟨c, cs, hcs, hc⟩ := natDigits_head (scaledAbs p x / 10 ^ p)
  by_cases hx : x < 0
  · refine ⟨'-', natDigits (scaledAbs p x / 10 ^ p) ++ (if p = 0 then [] else '.' :: fixDigits p (scaledAbs p x)), ?_, Or.inr rfl⟩
    simp only [hx, decide_true, if_true, List.singleton_append]
  · refine ⟨c, cs ++ (if p = 0 then [] else '.' :: fixDigits p (scaledAbs p x)), ?_, Or.inl hc⟩
    simp [hx, hcs]

theorem fmtF_zero (p : Nat) (x : Rat) : fmtF 0 p x = fmtFbody p x := by simp [fmtF, padLeft]

theorem xh_mass (m : Rat) (rest : List Str) (n : Int) (a : Option Rat) (h0 : List (Option Rat)) (nv : Bool) (ec : Option Int)
    (aux : List (Nat × Str)) :
    xcfgHeader (fmtF 0 4 m :: rest) ⟨some n, a, h0, nv, ec, aux⟩ = .ok (⟨some n, a, h0, nv, ec, aux⟩, rest) := by
  obtain ⟨c, cs, e, hc⟩ := fmtFbody_head 4 m
  rw [fmtF_zero, e]
  exact xh_break c cs hc

def auxLine (p : Str × Nat) : Str :=
  "auxiliary[".toList ++ natDigits p.2 ++ "] = ".toList ++ p.1 ++ " [au]".toList

/-- index/name pairs the reader collects from the `auxiliary[i] = name` records -/
def auxPairs (l : List Str) (k : Nat) : List (Nat × Str) := (l.zipIdx k).map (fun p => (p.2, p.1))

theorem auxPairs_cons (a : Str) (l : List Str) (k : Nat) : auxPairs (a :: l) k = (k, a) :: auxPairs l (k + 1) := by
  simp [auxPairs, List.zipIdx_cons]

theorem xh_auxes (l : List Str) (n : Int) (a : Option Rat) (h0 : List (Option Rat)) (nv : Bool) (ec : Option Int) :
    ∀ (k : Nat) (aux : List (Nat × Str)) (rest : List Str), (∀ nm ∈ l, IsTok nm) → (∀ p ∈ aux, p.1 < k) →
    xcfgHeader ((l.zipIdx k).map auxLine ++ rest) ⟨some n, a, h0, nv, ec, aux⟩ =
      xcfgHeader rest ⟨some n, a, h0, nv, ec, aux ++ auxPairs l k⟩ := by
  induction l with
  | nil => intro k aux rest _ _; simp [auxPairs]
  | cons x l ih =>
    intro k aux rest htok hlt
    have hf : aux.filter (fun p => p.1 != k) = aux := by
      apply List.filter_eq_self.2
      intro p hp
      have := hlt p hp
      simp only [bne_iff_ne, ne_eq]
      omega
    rw [List.zipIdx_cons, List.map_cons, List.cons_append]
    show xcfgHeader (("auxiliary[".toList ++ natDigits k ++ "] = ".toList ++ x ++ " [au]".toList) :: _) _ = _
    rw [xh_aux k x (htok x (by simp)), hf, ih (k + 1) (aux ++ [(k, x)]) rest (fun nm hnm => htok nm (by simp [hnm]))]
    · simp [auxPairs_cons]
    · intro p hp
      simp only [List.mem_append, List.mem_singleton] at hp
      rcases hp with hp | rfl
      · have := hlt p hp; omega
      · simp

theorem auxPairs_foldl_max (l : List Str) : ∀ (k m : Nat),
    ((auxPairs l k).map (·.1)).foldl max m = if l = [] then m else max m (k + l.length - 1) := by
  induction l with
  | nil => intro k m; simp [auxPairs]
  | cons a l ih =>
    intro k m
    rw [auxPairs_cons, List.map_cons, List.foldl_cons, ih (k + 1) (max m k)]
    by_cases hl : l = []
    · subst hl; simp
    · simp only [hl, if_false, List.length_cons, reduceCtorEq]
      have : 0 < l.length := List.length_pos_iff.2 hl
      omega

theorem auxPairs_isEmpty (l : List Str) (k : Nat) : (auxPairs l k).isEmpty = l.isEmpty := by
  cases l <;> simp [auxPairs]

/-- the reader's count of auxiliaries (`max(keys) + 1`) is the number of names written -/
theorem auxnum_eq (l : List Str) :
    (if (auxPairs l 0).isEmpty then 0 else ((auxPairs l 0).map (·.1)).foldl max 0 + 1) = l.length := by
  rw [auxPairs_isEmpty, auxPairs_foldl_max]
  cases l with
  | nil => rfl
  | cons a l => simp

theorem auxPairs_find (l : List Str) : ∀ (k i : Nat) (hi : i < l.length),
    (auxPairs l k).find? (fun p => p.1 == k + i) = some (k + i, l[i]) := by
  induction l with
  | nil => intro k i hi; simp at hi
  | cons a l ih =>
    intro k i hi
    rw [auxPairs_cons]
    cases i with
    | zero => simp
    | succ i =>
      have hne : (k == k + (i + 1)) = false := by simp
      rw [List.find?_cons]
      simp only [hne]
      have := ih (k + 1) i (by simpa using hi)
      rw [show k + (i + 1) = k + 1 + i by omega]
      simpa using this

theorem auxNames_eq (l : List Str) :
    (List.range l.length).map (fun i =>
      match (auxPairs l 0).find? (fun p => p.1 == i) with
      | some p => p.2
      | none => "aux".toList ++ natDigits i) = l := by
  apply List.ext_getElem
  · simp
  · intro i h1 h2
    have hi : i < l.length := h2
    have := auxPairs_find l 0 i hi
    simp only [Nat.zero_add] at this
    simp [this]

/-! ## XCFG data block -/

/-- the displacement columns a layout selects: none, the isotropic one, or the three diagonal ones and
those off-diagonal ones that some atom uses -/
def uSel {α} (L : XLayout) (iso d1 d2 d3 o12 o13 o23 : α) : List α :=
  if L.uMode = 0 then [] else if L.uMode = 1 then [iso]
  else [d1, d2, d3] ++ (if L.u12 then [o12] else []) ++ (if L.u13 then [o13] else []) ++ (if L.u23 then [o23] else [])

def uCount (L : XLayout) : Nat :=
  if L.uMode = 0 then 0 else if L.uMode = 1 then 1
  else 3 + (if L.u12 then 1 else 0) + (if L.u13 then 1 else 0) + (if L.u23 then 1 else 0)

theorem optCol_sublist {α} (c : Bool) (x : α) : (if c then [x] else []).Sublist [x] := by
  cases c
  · exact List.nil_sublist _
  · exact List.Sublist.refl _

theorem optCol_length {α} (c : Bool) (x : α) : (if c then [x] else []).length = if c then 1 else 0 := by
  cases c <;> rfl

theorem uSel_length {α} (L : XLayout) (iso d1 d2 d3 o12 o13 o23 : α) :
    (uSel L iso d1 d2 d3 o12 o13 o23).length = uCount L := by
  simp only [uSel, uCount, apply_ite List.length, List.length_append, List.length_cons, List.length_nil,
    Nat.zero_add, Nat.reduceAdd]

theorem uSel_sublist {α} (L : XLayout) (iso d1 d2 d3 o12 o13 o23 : α) :
    (uSel L iso d1 d2 d3 o12 o13 o23).Sublist [iso, d1, d2, d3, o12, o13, o23] := by
  unfold uSel
  by_cases m0 : L.uMode = 0
  · rw [if_pos m0]
    exact List.nil_sublist _
  · by_cases m1 : L.uMode = 1
    · rw [if_neg m0, if_pos m1]
      exact List.Sublist.cons_cons _ (List.nil_sublist _)
    · rw [if_neg m0, if_neg m1]
      exact List.Sublist.cons _ ((((List.Sublist.refl [d1, d2, d3]).append (optCol_sublist _ o12)).append
        (optCol_sublist _ o13)).append (optCol_sublist _ o23))

theorem uSel_map {α β} (f : α → β) (L : XLayout) (iso d1 d2 d3 o12 o13 o23 : α) :
    (uSel L iso d1 d2 d3 o12 o13 o23).map f = uSel L (f iso) (f d1) (f d2) (f d3) (f o12) (f o13) (f o23) := by
  simp only [uSel, apply_ite (List.map f), List.map_append, List.map_cons, List.map_nil]

theorem uSel_zip {α β} (L : XLayout) (iso d1 d2 d3 o12 o13 o23 : α) (iso' d1' d2' d3' o12' o13' o23' : β) :
    (uSel L iso d1 d2 d3 o12 o13 o23).zip (uSel L iso' d1' d2' d3' o12' o13' o23') =
      uSel L (iso, iso') (d1, d1') (d2, d2') (d3, d3') (o12, o12') (o13, o13') (o23, o23') :=
  Eq.symm (List.zip_of_prod (uSel_map Prod.fst L _ _ _ _ _ _ _) (uSel_map Prod.snd L _ _ _ _ _ _ _))

theorem optCol_congr {α} (c : Bool) {x y : α} (h : c = true → x = y) : (if c then [x] else []) = if c then [y] else [] := by
  cases c
  · rfl
  · rw [h rfl]

theorem uSel_congr {α} (L : XLayout) {iso d1 d2 d3 o12 o13 o23 iso' d1' d2' d3' o12' o13' o23' : α}
    (h1 : L.uMode = 1 → iso = iso')
    (h2 : L.uMode ≠ 0 → L.uMode ≠ 1 → d1 = d1' ∧ d2 = d2' ∧ d3 = d3' ∧
      (L.u12 = true → o12 = o12') ∧ (L.u13 = true → o13 = o13') ∧ (L.u23 = true → o23 = o23')) :
    uSel L iso d1 d2 d3 o12 o13 o23 = uSel L iso' d1' d2' d3' o12' o13' o23' := by
  unfold uSel
  by_cases m0 : L.uMode = 0
  · rw [if_pos m0, if_pos m0]
  · by_cases m1 : L.uMode = 1
    · rw [if_neg m0, if_neg m0, if_pos m1, if_pos m1, h1 m1]
    · obtain ⟨e1, e2, e3, e12, e13, e23⟩ := h2 m0 m1
      rw [if_neg m0, if_neg m0, if_neg m1, if_neg m1, e1, e2, e3, optCol_congr _ e12, optCol_congr _ e13, optCol_congr _ e23]

/-- the displacement values of an atom in the columns of the layout -/
def usOf (L : XLayout) (a : XAtom) : List Rat :=
  if L.uMode = 0 then [] else if L.uMode = 1 then [a.u.getD 0 0]
  else [a.u.getD 0 0, a.u.getD 4 0, a.u.getD 8 0] ++ (if L.u12 then [a.u.getD 1 0] else []) ++
       (if L.u13 then [a.u.getD 2 0] else []) ++ (if L.u23 then [a.u.getD 5 0] else [])

theorem usOf_eq (L : XLayout) (a : XAtom) :
    usOf L a = uSel L (a.u.getD 0 0) (a.u.getD 0 0) (a.u.getD 4 0) (a.u.getD 8 0) (a.u.getD 1 0) (a.u.getD 2 0)
      (a.u.getD 5 0) := rfl

def velOf (L : XLayout) (a : XAtom) : List Rat :=
  if L.noVel then [] else match a.v with | some v => [v.x, v.y, v.z] | none => []

/-- the numbers of one entry line, in column order -/
def entryVals (L : XLayout) (a : XAtom) : List Rat :=
  xcfgPos L a ++ velOf L a ++ a.aux ++ (if L.occ then [a.occ] else []) ++ usOf L a

theorem xcfgEntry_eq (L : XLayout) (a : XAtom) : xcfgEntry L a = ssv ((entryVals L a).map g8) := rfl

theorem usOf_length (L : XLayout) (a : XAtom) : (usOf L a).length = uCount L := uSel_length L ..

/-- the non-derived stored auxiliaries: the names whose values an atom carries in `aux` -/
def storedOf (d : XcfgS) : List Str := d.storedAux.filter (fun n => !isDerivedAux n)

def nOcc : Str := ['o', 'c', 'c', 'u', 'p', 'a', 'n', 'c', 'y']
def nUiso : Str := ['U', 'i', 's', 'o']
def nU11 : Str := ['U', '1', '1']
def nU22 : Str := ['U', '2', '2']
def nU33 : Str := ['U', '3', '3']
def nU12 : Str := ['U', '1', '2']
def nU13 : Str := ['U', '1', '3']
def nU23 : Str := ['U', '2', '3']

/-- the names of the displacement columns, with the literals as character lists -/
def uNames' (L : XLayout) : List Str :=
  if L.uMode = 0 then [] else if L.uMode = 1 then [nUiso]
  else [nU11, nU22, nU33] ++ (if L.u12 then [nU12] else []) ++ (if L.u13 then [nU13] else []) ++ (if L.u23 then [nU23] else [])

theorem uNames'_eq (L : XLayout) : uNames' L = uSel L nUiso nU11 nU22 nU33 nU12 nU13 nU23 := rfl

def derivedNames (L : XLayout) : List Str := (if L.occ then [nOcc] else []) ++ uNames' L

theorem layout_aux (d : XcfgS) : (xcfgLayout d).aux = storedOf d ++ derivedNames (xcfgLayout d) := by
  have e : (xcfgLayout d).aux = storedOf d ++ (if (xcfgLayout d).occ then ["occupancy".toList] else []) ++
      uSel (xcfgLayout d) "Uiso".toList "U11".toList "U22".toList "U33".toList "U12".toList "U13".toList "U23".toList := rfl
  rw [e, lOcc, lUiso, lU11, lU22, lU33, lU12, lU13, lU23, List.append_assoc]
  rfl

theorem derivedNames_length (L : XLayout) : (derivedNames L).length = (if L.occ then 1 else 0) + uCount L := by
  rw [derivedNames, List.length_append, optCol_length, uNames'_eq, uSel_length]

theorem layout_aux_length (d : XcfgS) :
    (xcfgLayout d).aux.length =
      (storedOf d).length + (if (xcfgLayout d).occ then 1 else 0) + uCount (xcfgLayout d) := by
  rw [layout_aux, List.length_append, derivedNames_length, Nat.add_assoc]

/-- what the reader makes of one written entry line (the atom of `quantXcfg`) -/
def xreadOf (L : XLayout) (aq : Rat) (a : XAtom) : XRead :=
  let pos := xcfgPos L a
  let vel := if L.noVel then none else a.v.map (fun v => v.map (roundSig 8))
  ⟨capitalize a.el, ⟨aq * roundSig 8 (pos.getD 0 0), aq * roundSig 8 (pos.getD 1 0), aq * roundSig 8 (pos.getD 2 0)⟩, vel,
   L.aux.zip ((a.aux ++ (if L.occ then [a.occ] else []) ++ usOf L a).map (roundSig 8))⟩

/-- `quantXcfg` as a function of the layout -/
def quantXcfgL (L : XLayout) (d : XcfgS) : XcfgRead :=
  ⟨d.atoms.length, roundSig 8 (L.a : Rat), d.base.map (roundSig 8), d.atoms.map (xreadOf L (roundSig 8 (L.a : Rat)))⟩

theorem quantXcfg_eq (d : XcfgS) : quantXcfg d = quantXcfgL (xcfgLayout d) d := rfl

theorem splitWs_entry (vs : List Rat) : splitWs (ssv (vs.map g8)) = vs.map g8 := by
  rw [ssv, splitWs_joinSep_pad AllWs_one (by simp) _ _ (forall₂_map_same g8 (fun x => IsTok_fmtG 8 x) vs)]

theorem mapM_parseDec_g8 (vs : List Rat) : (vs.map g8).mapM parseDec = some (vs.map (roundSig 8)) := by
  induction vs with
  | nil => rfl
  | cons v vs ih => simp [parseDec_g8, ih]

/-- the atom the reader makes of the numbers of one entry line -/
def rowRead (aq : Rat) (nv : Bool) (names : List Str) (el : Str) (fs : List Rat) : XRead :=
  ⟨el, ⟨aq * fs.getD 0 0, aq * fs.getD 1 0, aq * fs.getD 2 0⟩,
   if nv then none else some ⟨fs.getD 3 0, fs.getD 4 0, fs.getD 5 0⟩, names.zip (fs.drop (if nv then 3 else 6))⟩

/-- a line of `ec` numbers, at least two, is an entry of the current element -/
theorem xcfgData_row (aq : Rat) (nv : Bool) (ec : Nat) (names : List Str) (el line : Str) (rest : List Str)
    (w0 w1 : Str) (ws : List Str) (fs : List Rat) (hw : splitWs line = w0 :: w1 :: ws)
    (hlen : (w0 :: w1 :: ws).length = ec) (hm : (w0 :: w1 :: ws).mapM parseDec = some fs) :
    xcfgData aq nv ec names (some el) (line :: rest) =
      match xcfgData aq nv ec names (some el) rest with
      | .ok as => .ok (rowRead aq nv names el fs :: as)
      | .error k => .error k := by
  rw [xcfgData]
  simp only [hw, hlen, hm, ne_eq, not_true_eq_false, if_false]
  rfl

theorem rowRead_entry (L : XLayout) (aq : Rat) (a : XAtom) (el : Str) (hv : L.noVel = false → a.v.isSome = true) :
    rowRead aq L.noVel L.aux el ((entryVals L a).map (roundSig 8)) = { xreadOf L aq a with el := el } := by
  have he : entryVals L a = (xcfgPos L a).getD 0 0 :: (xcfgPos L a).getD 1 0 :: (xcfgPos L a).getD 2 0 ::
      (velOf L a ++ (a.aux ++ (if L.occ then [a.occ] else []) ++ usOf L a)) := by
    simp only [entryVals, List.append_assoc]
    rfl
  rw [he]
  unfold rowRead xreadOf velOf
  cases hnv : L.noVel with
  | true => rfl
  | false =>
    obtain ⟨v, hav⟩ := Option.isSome_iff_exists.1 (hv hnv)
    rw [hav]
    rfl

theorem xcfgData_entry (L : XLayout) (aq : Rat) (ec : Nat) (a : XAtom) (el : Str) (rest : List Str)
    (hlen : (entryVals L a).length = ec) (hv : L.noVel = false → a.v.isSome = true) :
    xcfgData aq L.noVel ec L.aux (some el) (xcfgEntry L a :: rest) =
      match xcfgData aq L.noVel ec L.aux (some el) rest with
      | .ok as => .ok ({ xreadOf L aq a with el := el } :: as)
      | .error k => .error k := by
  -- the three position columns are always there, so the line has at least two words
  obtain ⟨w0, w1, ws, he⟩ : ∃ w0 w1 ws, (entryVals L a).map g8 = w0 :: w1 :: ws := ⟨_, _, _, rfl⟩
  have hw : splitWs (xcfgEntry L a) = w0 :: w1 :: ws := by rw [xcfgEntry_eq, splitWs_entry, he]
  rw [xcfgData_row aq L.noVel ec L.aux el _ rest w0 w1 ws _ hw (by rw [← he, List.length_map, hlen])
    (by rw [← he]; exact mapM_parseDec_g8 _), rowRead_entry L aq a el hv]

theorem xcfgData_mass (aq : Rat) (nv : Bool) (ec : Nat) (names : List Str) (pel : Option Str) (m : Rat) (rest : List Str) :
    xcfgData aq nv ec names pel (fmtF 0 4 m :: rest) = xcfgData aq nv ec names pel rest := by
  have ht : IsTok (fmtFbody 4 m) := IsTok_fmtFbody 4 m
  have hf : isFloatTok (fmtFbody 4 m) = true := by simp [isFloatTok, parseDec_fmtFbody]
  rw [xcfgData.eq_def]
  simp only [fmtF_zero, splitWs_tok_end ht, hf, if_true]

theorem xcfgData_el (aq : Rat) (nv : Bool) (ec : Nat) (names : List Str) (pel : Option Str) (el : Str) (rest : List Str)
    (he : elemOk el = true) (hf : isFloatTok el = false) :
    xcfgData aq nv ec names pel (el :: rest) = xcfgData aq nv ec names (some (capitalize el)) rest := by
  have ht : IsTok el := IsTok_of_elemOk he
  have hs : strip el = el := by
    have := strip_pad (a := []) (b := []) (s := el) (by intro c h; cases h) (by intro c h; cases h) ht.2
    simpa using this
  rw [xcfgData.eq_def]
  simp only [splitWs_tok_end ht, hf, hs, Bool.false_eq_true, if_false]

/-- per-atom conditions: the element is one non-numeric token, the atom carries one value per stored
auxiliary, and a velocity when the first atom has one -/
def atomWF (L : XLayout) (nst : Nat) (a : XAtom) : Prop :=
  elemOk a.el = true ∧ isFloatTok a.el = false ∧ a.aux.length = nst ∧ (L.noVel = false → a.v.isSome = true)

theorem velOf_length (L : XLayout) (a : XAtom) (hv : L.noVel = false → a.v.isSome = true) :
    3 + (velOf L a).length = if L.noVel then 3 else 6 := by
  unfold velOf
  cases hnv : L.noVel with
  | true => rfl
  | false =>
    obtain ⟨v, hav⟩ := Option.isSome_iff_exists.1 (hv hnv)
    rw [hav]
    rfl

theorem entryVals_length (L : XLayout) (nst : Nat) (a : XAtom) (ha : atomWF L nst a)
    (hL : L.aux.length = nst + (if L.occ then 1 else 0) + uCount L) :
    (entryVals L a).length = (if L.noVel then 3 else 6) + L.aux.length := by
  have hp : (xcfgPos L a).length = 3 := rfl
  rw [entryVals, List.length_append, List.length_append, List.length_append, List.length_append, hp,
    ha.2.2.1, optCol_length, usOf_length, hL, ← velOf_length L a ha.2.2.2]
  omega

theorem xcfgData_atoms (L : XLayout) (aq : Rat) (nst : Nat)
    (hL : L.aux.length = nst + (if L.occ then 1 else 0) + uCount L) :
    ∀ (as : List XAtom) (e : Str), (∀ a ∈ as, atomWF L nst a) →
      xcfgData aq L.noVel ((if L.noVel then 3 else 6) + L.aux.length) L.aux (some (capitalize e))
        (xcfgAtomLines L (some e) as) = .ok (as.map (xreadOf L aq)) := by
  intro as
  induction as with
  | nil => intro e _; rfl
  | cons a as ih =>
    intro e hwf
    have ha := hwf a (by simp)
    have hlen := entryVals_length L nst a ha hL
    have ihh := ih a.el (fun b hb => hwf b (by simp [hb]))
    have hentry : xcfgData aq L.noVel ((if L.noVel then 3 else 6) + L.aux.length) L.aux (some (capitalize a.el))
        (xcfgEntry L a :: xcfgAtomLines L (some a.el) as) = .ok (xreadOf L aq a :: as.map (xreadOf L aq)) := by
      rw [xcfgData_entry L aq _ a (capitalize a.el) _ hlen ha.2.2.2, ihh]
      rfl
    by_cases he : e = a.el
    · subst he
      simp only [xcfgAtomLines, if_true, List.nil_append, List.map_cons]
      exact hentry
    · have : (some e = some a.el) = False := by simp [he]
      simp only [xcfgAtomLines, this, if_false, List.cons_append, List.nil_append, List.map_cons]
      rw [xcfgData_mass, xcfgData_el _ _ _ _ _ _ _ ha.1 ha.2.1]
      exact hentry

/-! ## XCFG: the whole header -/

theorem list9 {α} (l : List α) (h : l.length = 9) :
    ∃ b0 b1 b2 b3 b4 b5 b6 b7 b8, l = [b0, b1, b2, b3, b4, b5, b6, b7, b8] := by
  match l, h with
  | [b0, b1, b2, b3, b4, b5, b6, b7, b8], _ => exact ⟨b0, b1, b2, b3, b4, b5, b6, b7, b8, rfl⟩

def h0Line (base : List Rat) (k : Nat) : Str :=
  "H0(".toList ++ nameI (k / 3 + 1) ++ [','] ++ nameI (k % 3 + 1) ++ ") = ".toList ++ g8 (base.getD k 0) ++ " A".toList

theorem xh_H0block (base : List Rat) (hb : base.length = 9) (rest : List Str)
    (n : Int) (a : Option Rat) (nv : Bool) (ec : Option Int) (aux : List (Nat × Str)) :
    xcfgHeader ((List.range 9).map (h0Line base) ++ rest) ⟨some n, a, List.replicate 9 none, nv, ec, aux⟩ =
      xcfgHeader rest ⟨some n, a, base.map (fun b => some (roundSig 8 b)), nv, ec, aux⟩ := by
  obtain ⟨b0, b1, b2, b3, b4, b5, b6, b7, b8, rfl⟩ := list9 base hb
  have r9 : List.range 9 = [0, 1, 2, 3, 4, 5, 6, 7, 8] := by decide
  rw [r9]
  simp only [List.map_cons, List.map_nil, List.cons_append, List.nil_append]
  unfold h0Line
  simp only [Nat.reduceDiv, Nat.reduceMod, Nat.reduceAdd]
  rw [xh_H0 1 1 (by omega) (by omega), xh_H0 1 2 (by omega) (by omega), xh_H0 1 3 (by omega) (by omega),
    xh_H0 2 1 (by omega) (by omega), xh_H0 2 2 (by omega) (by omega), xh_H0 2 3 (by omega) (by omega),
    xh_H0 3 1 (by omega) (by omega), xh_H0 3 2 (by omega) (by omega), xh_H0 3 3 (by omega) (by omega)]
  rfl

def numLine (n : Nat) : Str := "Number of particles = ".toList ++ natDigits n
def aLine (x : Rat) : Str := "A = ".toList ++ g8 x ++ " Angstrom".toList
def ecLine (k : Nat) : Str := "entry_count = ".toList ++ natDigits k

/-- `writeXcfg` as a function of the layout, lines right-nested -/
def writeXcfgL (L : XLayout) (d : XcfgS) : List Str :=
  numLine d.atoms.length :: aLine (L.a : Rat) ::
  ((List.range 9).map (h0Line d.base) ++
  ((if L.noVel then [".NO_VELOCITY.".toList] else []) ++
  (ecLine ((if L.noVel then 3 else 6) + L.aux.length) ::
  ((L.aux.zipIdx.map auxLine) ++ ([] :: xcfgAtomLines L none d.atoms)))))

theorem writeXcfgL_eq (L : XLayout) (d : XcfgS) :
    [numLine d.atoms.length, aLine (L.a : Rat)] ++
      (List.range 9).map (h0Line d.base) ++
      (if L.noVel then [".NO_VELOCITY.".toList] else []) ++
      [ecLine ((if L.noVel then 3 else 6) + L.aux.length)] ++
      (L.aux.zipIdx.map auxLine) ++ [[]] ++ xcfgAtomLines L none d.atoms = writeXcfgL L d := by
  simp only [writeXcfgL, List.append_assoc, List.cons_append, List.nil_append]

theorem writeXcfg_eq (d : XcfgS) : writeXcfg d = writeXcfgL (xcfgLayout d) d := by
  rw [← writeXcfgL_eq]
  rfl

theorem IsTok_lit (s : Str) (h : (!s.isEmpty && s.all (fun c => !isWs c)) = true) : IsTok s := by
  simp only [Bool.and_eq_true, Bool.not_eq_true', List.all_eq_true] at h
  refine ⟨?_, fun c hc => ?_⟩
  · intro e; subst e; simp at h
  · simpa using h.2 c hc

theorem derivedNames_subset (L : XLayout) : derivedNames L ⊆ [nOcc, nUiso, nU11, nU22, nU33, nU12, nU13, nU23] := by
  intro nm h
  rcases List.mem_append.1 h with h | h
  · exact List.mem_cons.2 (Or.inl (List.mem_singleton.1 ((optCol_sublist _ _).subset h)))
  · exact List.mem_cons_of_mem _ ((uSel_sublist L ..).subset h)

theorem derivedNames_tok (L : XLayout) : ∀ nm ∈ derivedNames L, IsTok nm := by
  have ht : [nOcc, nUiso, nU11, nU22, nU33, nU12, nU13, nU23].all (fun s => !s.isEmpty && s.all (fun c => !isWs c)) = true := by
    decide
  exact fun nm h => IsTok_lit nm (List.all_eq_true.1 ht nm (derivedNames_subset L h))

theorem layout_aux_tok (d : XcfgS) (hs : d.storedAux.all elemOk = true) : ∀ nm ∈ (xcfgLayout d).aux, IsTok nm := by
  intro nm hnm
  rw [layout_aux] at hnm
  rcases List.mem_append.1 hnm with h | h
  · exact IsTok_of_elemOk (List.all_eq_true.1 hs nm (List.mem_filter.1 h).1)
  · exact derivedNames_tok _ nm h

theorem xcfgAtomLines_snoc (L : XLayout) : ∀ (as : List XAtom) (prev : Option Str), as ≠ [] →
    ∃ pre a, a ∈ as ∧ xcfgAtomLines L prev as = pre ++ [xcfgEntry L a] := by
  intro as
  induction as with
  | nil => intro _ h; exact absurd rfl h
  | cons a as ih =>
    intro prev _
    by_cases has : as = []
    · subst has
      exact ⟨(if prev = some a.el then [] else [fmtF 0 4 a.mass, a.el]), a, by simp, by simp [xcfgAtomLines]⟩
    · obtain ⟨pre, b, hb, e⟩ := ih (some a.el) has
      refine ⟨(if prev = some a.el then [] else [fmtF 0 4 a.mass, a.el]) ++ xcfgEntry L a :: pre, b, by simp [hb], ?_⟩
      simp [xcfgAtomLines, e]

theorem entryVals_ne_nil (L : XLayout) (a : XAtom) : entryVals L a ≠ [] := by
  simp [entryVals, xcfgPos]

theorem xcfgEntry_nonblank (L : XLayout) (a : XAtom) : (strip (xcfgEntry L a)).isEmpty = false := by
  apply strip_ne_of_split
  rw [xcfgEntry_eq, splitWs_entry]
  simpa using entryVals_ne_nil L a

theorem xcfgEntry_ne_nil (L : XLayout) (a : XAtom) : xcfgEntry L a ≠ [] := by
  intro h
  have := xcfgEntry_nonblank L a
  rw [h] at this
  simp [strip, lstrip, rstrip] at this

def hdr0 : XHdr := ⟨none, none, List.replicate 9 none, false, none, []⟩

/-- the header of a written XCFG file, evaluated: the reader's state at the `break`, and the lines left
(the first mass line is consumed by the `break`) -/
theorem xcfgHeader_write (L : XLayout) (d : XcfgS) (a : XAtom) (as : List XAtom) (hat : d.atoms = a :: as)
    (hb : d.base.length = 9) (htok : ∀ nm ∈ L.aux, IsTok nm) :
    xcfgHeader (writeXcfgL L d) hdr0 =
      .ok (⟨some (d.atoms.length : Int), some (roundSig 8 (L.a : Rat)),
            d.base.map (fun b => some (roundSig 8 b)), L.noVel,
            some (((if L.noVel then 3 else 6) + L.aux.length : Nat) : Int),
            auxPairs L.aux 0⟩,
           a.el :: xcfgEntry L a :: xcfgAtomLines L (some a.el) as) := by
  rw [writeXcfgL, hat, xcfgAtomLines, hdr0]
  unfold numLine aLine ecLine
  rw [xh_n, xh_A, xh_H0block d.base hb, xh_novel_opt, xh_ec, xh_auxes _ _ _ _ _ _ 0 [] _ htok (fun _ hp => nomatch hp),
    xh_blank]
  simp only [reduceCtorEq, if_false, List.cons_append, List.nil_append]
  rw [xh_mass]

theorem mapM_id_some {α} (l : List α) (f : α → α) : (l.map (fun b => some (f b))).mapM id = some (l.map f) := by
  induction l with
  | nil => rfl
  | cons a l ih => simp [ih]

theorem writeXcfgL_snoc (L : XLayout) (d : XcfgS) (hne : d.atoms ≠ []) :
    ∃ Y b, b ∈ d.atoms ∧ writeXcfgL L d = Y ++ [xcfgEntry L b] := by
  obtain ⟨pre, b, hb, e⟩ := xcfgAtomLines_snoc L d.atoms none hne
  refine ⟨[numLine d.atoms.length, aLine (L.a : Rat)] ++
      (List.range 9).map (h0Line d.base) ++
      (if L.noVel then [".NO_VELOCITY.".toList] else []) ++
      [ecLine ((if L.noVel then 3 else 6) + L.aux.length)] ++
      (L.aux.zipIdx.map auxLine) ++ [[]] ++ pre, b, hb, ?_⟩
  rw [← writeXcfgL_eq, e, ← List.append_assoc]

/-- line level: `parseLines(toLines(s))` for XCFG, for any layout whose auxiliary list has the
right length -/
theorem parseXcfg_writeXcfgL (L : XLayout) (d : XcfgS) (hne : d.atoms ≠ []) (hb : d.base.length = 9)
    (htok : ∀ nm ∈ L.aux, IsTok nm) (nst : Nat) (hL : L.aux.length = nst + (if L.occ then 1 else 0) + uCount L)
    (hwf : ∀ a ∈ d.atoms, atomWF L nst a) :
    parseXcfg (writeXcfgL L d) = .ok (quantXcfgL L d) := by
  obtain ⟨a, as, hat⟩ : ∃ a as, d.atoms = a :: as := by
    cases h : d.atoms with
    | nil => exact absurd h hne
    | cons a as => exact ⟨a, as, rfl⟩
  have hdrop : dropTrailingBlank (writeXcfgL L d) = writeXcfgL L d := by
    obtain ⟨Y, b, _, e⟩ := writeXcfgL_snoc L d hne
    rw [e]
    exact dropTrailingBlank_snoc Y _ (xcfgEntry_nonblank L b)
  have hdata := xcfgData_atoms L (roundSig 8 (L.a : Rat)) nst hL (a :: as) a.el (by rw [← hat]; exact hwf)
  have hdata' : xcfgData (roundSig 8 (L.a : Rat)) L.noVel ((if L.noVel then 3 else 6) + L.aux.length) L.aux none
      (a.el :: xcfgEntry L a :: xcfgAtomLines L (some a.el) as) = .ok ((a :: as).map (xreadOf L (roundSig 8 (L.a : Rat)))) := by
    have ha := hwf a (by rw [hat]; simp)
    rw [xcfgData_el _ _ _ _ _ _ _ ha.1 ha.2.1]
    simpa [xcfgAtomLines] using hdata
  have hec : ((L.aux.length : Int) + (if L.noVel then 3 else 6)) =
      (((if L.noVel then 3 else 6) + L.aux.length : Nat) : Int) := by
    cases L.noVel <;> simp <;> omega
  unfold parseXcfg
  rw [hdrop]
  have hw := xcfgHeader_write L d a as hat hb htok
  rw [hdr0] at hw
  rw [hw]
  simp only [mapM_id_some, auxnum_eq, hec, Int.toNat_natCast, ne_eq, not_true_eq_false, if_false]
  generalize hg : List.map _ (List.range L.aux.length) = names
  rw [show names = L.aux from hg.symm.trans (auxNames_eq L.aux), hdata']
  simp [quantXcfgL, hat]

/-! ## XCFG: text level -/

theorem NoNL_lit (s : Str) (h : s.all (fun c => !isNL c) = true) : NoNL s := by
  intro c hc
  have := List.all_eq_true.1 h c hc
  simpa using this

theorem NoNL_tok {t : Str} (h : IsTok t) : NoNL t := NoNL_of_NoWs h.2

theorem NoNL_g8 (x : Rat) : NoNL (g8 x) := NoNL_tok (IsTok_g8 x)

theorem NoNL_natDigits (n : Nat) : NoNL (natDigits n) := NoNL_tok (IsTok_natDigits n)

theorem NoNL_xcfgEntry (L : XLayout) (a : XAtom) : NoNL (xcfgEntry L a) := by
  rw [xcfgEntry_eq, ssv]
  apply NoNL_joinSep NoNL_ssvsep
  intro f hf
  obtain ⟨x, _, rfl⟩ := List.mem_map.1 hf
  exact NoNL_g8 x

theorem NoNL_xcfgAtomLines (L : XLayout) : ∀ (as : List XAtom) (prev : Option Str),
    (∀ a ∈ as, elemOk a.el = true) → ∀ l ∈ xcfgAtomLines L prev as, NoNL l := by
  intro as
  induction as with
  | nil => intro _ _ l hl; cases hl
  | cons a as ih =>
    intro prev hel l hl
    simp only [xcfgAtomLines, List.mem_append, List.mem_cons] at hl
    rcases hl with hl | rfl | hl
    · split at hl
      · cases hl
      · simp only [List.mem_cons, List.not_mem_nil, or_false] at hl
        rcases hl with rfl | rfl
        · exact NoNL_fmtF 0 4 a.mass
        · exact NoNL_elem (hel a (by simp))
    · exact NoNL_xcfgEntry L a
    · exact ih (some a.el) (fun b hb => hel b (by simp [hb])) l hl

theorem NoNL_writeXcfgL (L : XLayout) (d : XcfgS) (htok : ∀ nm ∈ L.aux, IsTok nm) (hel : ∀ a ∈ d.atoms, elemOk a.el = true) :
    ∀ l ∈ writeXcfgL L d, NoNL l := by
  intro l hl
  rw [← writeXcfgL_eq] at hl
  simp only [List.mem_append, List.mem_cons, List.not_mem_nil, or_false, List.mem_map, List.mem_range] at hl
  rcases hl with (((((hl | hl) | hl) | hl) | hl) | hl) | hl
  · rcases hl with rfl | rfl
    · unfold numLine; rw [lNumEq]
      exact NoNL_append (NoNL_lit _ (by decide)) (NoNL_natDigits _)
    · unfold aLine; rw [lAeq, lAng]
      exact NoNL_append (NoNL_append (NoNL_lit _ (by decide)) (NoNL_g8 _)) (NoNL_lit _ (by decide))
  · obtain ⟨k, _, rfl⟩ := hl
    unfold h0Line nameI; rw [lH0, lH0e, lHA]
    exact NoNL_append (NoNL_append (NoNL_append (NoNL_append (NoNL_append (NoNL_append (NoNL_lit _ (by decide))
      (NoNL_natDigits _)) (NoNL_lit _ (by decide))) (NoNL_natDigits _)) (NoNL_lit _ (by decide))) (NoNL_g8 _))
      (NoNL_lit _ (by decide))
  · split at hl
    · simp only [List.mem_singleton] at hl; subst hl; rw [lNoVel]; exact NoNL_lit _ (by decide)
    · cases hl
  · subst hl
    unfold ecLine; rw [lEcEq]
    exact NoNL_append (NoNL_lit _ (by decide)) (NoNL_natDigits _)
  · obtain ⟨p, hp, rfl⟩ := hl
    have hnm : IsTok p.1 := htok p.1 (List.fst_mem_of_mem_zipIdx hp)
    unfold auxLine; rw [lAux, lAuxE, lAu]
    exact NoNL_append (NoNL_append (NoNL_append (NoNL_append (NoNL_lit _ (by decide)) (NoNL_natDigits _))
      (NoNL_lit _ (by decide))) (NoNL_tok hnm)) (NoNL_lit _ (by decide))
  · subst hl; exact NoNL_nil
  · exact NoNL_xcfgAtomLines L d.atoms none hel l hl

theorem layout_noVel (d : XcfgS) :
    (xcfgLayout d).noVel = (match d.atoms with | a :: _ => a.v.isNone | [] => true) := rfl

theorem reprXcfg_spec (d : XcfgS) (h : reprXcfg d = true) :
    d.atoms ≠ [] ∧ d.base.length = 9 ∧ d.storedAux.all elemOk = true ∧
    ∀ a ∈ d.atoms, atomWF (xcfgLayout d) (storedOf d).length a := by
  simp only [reprXcfg, rangeXcfg, wfXcfg, Bool.and_eq_true, Bool.not_eq_true', List.all_eq_true, beq_iff_eq,
    Bool.or_eq_true] at h
  obtain ⟨⟨⟨⟨⟨hne, hb⟩, hat⟩, hs⟩, _⟩, hax, hv⟩ := h
  refine ⟨?_, hb, List.all_eq_true.2 hs, ?_⟩
  · intro e; rw [e] at hne; simp at hne
  · intro a ha
    obtain ⟨⟨he, hf⟩, _⟩ := hat a ha
    refine ⟨he, hf, hax a ha, ?_⟩
    intro hnv
    rw [layout_noVel] at hnv
    rcases hv with hv | hv
    · cases hda : d.atoms with
      | nil => rw [hda] at ha; cases ha
      | cons b bs =>
        rw [hda] at hnv hv
        simp only at hnv hv
        rw [hv] at hnv; cases hnv
    · exact hv a ha

/-- string level: `readStr(writeStr("xcfg"), "xcfg")` — the full statement for XCFG -/
theorem roundtrip_xcfg : roundtrip_xcfg_statement := by
  intro d h
  obtain ⟨hne, hb, hs, hwf⟩ := reprXcfg_spec d h
  have htok := layout_aux_tok d hs
  have hel : ∀ a ∈ d.atoms, elemOk a.el = true := fun a ha => (hwf a ha).1
  have hL := layout_aux_length d
  rw [writeXcfg_eq, quantXcfg_eq]
  generalize xcfgLayout d = L at *
  have hne' : writeXcfgL L d ≠ [] := by rw [writeXcfgL]; exact List.cons_ne_nil _ _
  rw [ofText_toText (writeXcfgL L d) hne' (NoNL_writeXcfgL L d htok hel)]
  · exact parseXcfg_writeXcfgL L d hne hb htok _ hL hwf
  · obtain ⟨Y, b, _, e⟩ := writeXcfgL_snoc L d hne
    simp only [e, List.getLast_append_singleton]
    exact xcfgEntry_ne_nil L b

end DS.Formats

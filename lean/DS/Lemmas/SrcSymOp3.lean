import DS.Gen.SrcSymOp
import DS.Lemmas.SrcSymOp2
/-!
`_symop_constant` is the scanner of one constant piece (proof of `getSymOp_eq`): `symop_constant_eq`.  One pass of
the `while` loop at position `|pre|` of `pre ++ s` reads what `_rx_symop_constant` consumes of `s` (`constRest`: optional
sign, literal, `/ literal` when one follows), refuses it unless it carries a sign or stands first, and adds its value
(`stepK`: `partition('/')`, `float`, the zero test); `pieceToks` does the same with `scanQuot`.  The two differ only when
no literal follows a `/`: the pattern then stops before the `/`, and the next pass fails there, as `pieceToks` does at once.
-/
namespace DS.SrcSymOp3
open DS.Rx DS.PyStr DS.SymText DS.Src.SymOp

/-- the part of the loop body after the `bad` check, on the matched text `m`, with the rest of the loop as `k` -/
def stepK (m : List Char) (k : Frac → Except Exn Frac) : Except Exn Frac := do
  let p := partition '/' m
  let nom := p.1
  let den := p.2.2
  let z ← (if !den.isEmpty then (do let d ← float den; pure (decide (d.num = 0))) else pure false)
  if z then .error .structureFormatError else
  let v ← (if !den.isEmpty then (do let a ← float nom; let b ← float den; fdiv a b) else float nom)
  k v

theorem loop_succ (tpart : List Char) (fuel : Nat) (total : Frac) (pos : Nat) :
    symop_constant_loop tpart (fuel+1) total pos =
      if pos < tpart.length then
        match pyMatch rx_symop_constant tpart pos with
        | none => .error .structureFormatError
        | some mx => do
          let bad ← (if 0 < pos then (do let c ← listIndex tpart pos; pure (!(['+', '-'].contains c))) else pure false)
          if bad then .error .structureFormatError else
          stepK (group tpart mx) (fun v => symop_constant_loop tpart fuel (total.add v) mx.2)
      else pure total := by
  rw [symop_constant_loop]; rfl

theorem ok_bind {α β : Type} (a : α) (f : α → Except Exn β) : (Except.ok a >>= f) = f a := rfl
theorem err_bind {α β : Type} (e : Exn) (f : α → Except Exn β) : ((Except.error e : Except Exn α) >>= f) = Except.error e := rfl

/-! ### `partition`, `float` and the value of one matched text -/

theorem partition_none (sep : Char) : ∀ l : List Char, (∀ c ∈ l, c ≠ sep) → partition sep l = (l, [], [])
  | [], _ => rfl
  | c :: l, h => by
    have hc : c ≠ sep := h c (by simp)
    simp only [partition, hc, if_false]
    rw [partition_none sep l (fun d hd => h d (by simp [hd]))]

theorem partition_at (sep : Char) : ∀ (l r : List Char), (∀ c ∈ l, c ≠ sep) →
    partition sep (l ++ sep :: r) = (l, [sep], r)
  | [], r, _ => by simp [partition]
  | c :: l, r, h => by
    have hc : c ≠ sep := h c (by simp)
    simp only [List.cons_append, partition, hc, if_false]
    rw [partition_at sep l r (fun d hd => h d (by simp [hd]))]

/-- a character of a literal -/
def litChar (c : Char) : Prop := c.isDigit = true ∨ c = '.'

theorem litChar_ne {c : Char} (h : litChar c) : c ≠ '/' ∧ c ≠ '+' ∧ c ≠ '-' := by
  refine ⟨?_, ?_, ?_⟩ <;> intro e <;> subst e <;> rcases h with h | h <;> revert h <;> decide

theorem litChar_not_sign {c : Char} (h : litChar c) : isSign c = false := by
  have := litChar_ne h
  simp [isSign, this.2.1, this.2.2]

theorem float_unsigned {c : Char} {l : List Char} (h1 : c ≠ '+') (h2 : c ≠ '-') :
    float (c :: l) = match decimal (c :: l) with | some v => .ok v | none => .error .outside := by
  unfold float
  split
  · rename_i heq; simp at heq; exact absurd heq.1 h1
  · rename_i heq; simp at heq; exact absurd heq.1 h2
  · rfl

/-- the value with the sign prefix applied -/
def sval (sg : List Char) (a : Frac) : Frac := if sg = ['-'] then a.neg else a

theorem float_sg (sg lp : List Char) (a : Frac) (hsg : sg = [] ∨ sg = ['+'] ∨ sg = ['-'])
    (hne : lp ≠ []) (hch : ∀ c ∈ lp, litChar c) (hdec : scanLit lp = some (a, [])) :
    float (sg ++ lp) = .ok (sval sg a) := by
  have hd : decimal lp = some a := by unfold decimal; rw [hdec]
  rcases hsg with rfl | rfl | rfl
  · cases lp with
    | nil => exact absurd rfl hne
    | cons c l =>
      have := litChar_ne (hch c (by simp))
      rw [List.nil_append, float_unsigned this.2.1 this.2.2, hd]; rfl
  · simp [float, hd, sval]
  · simp [float, hd, sval]

theorem stepK_plain (m : List Char) (v : Frac) (k : Frac → Except Exn Frac)
    (hm : ∀ c ∈ m, c ≠ '/') (hf : float m = .ok v) : stepK m k = k v := by
  unfold stepK
  simp only [partition_none '/' m hm, hf]
  rfl

theorem stepK_quot (n d : List Char) (a b : Frac) (k : Frac → Except Exn Frac)
    (hn : ∀ c ∈ n, c ≠ '/') (hd : d ≠ []) (hfa : float n = .ok a) (hfb : float d = .ok b) (hb : 0 ≤ b.num) :
    stepK (n ++ '/' :: d) k = if b.num = 0 then .error .structureFormatError else k (a.div b) := by
  unfold stepK
  have hde : d.isEmpty = false := by cases d with | nil => exact absurd rfl hd | cons _ _ => rfl
  simp only [partition_at '/' n d hn, hfa, hfb, hde]
  simp only [Bool.not_false, if_true, ok_bind, pure_bind]
  by_cases h0 : b.num = 0
  · simp only [h0, decide_true, if_true]
  · have hpos : 0 < b.num := by omega
    simp only [h0, decide_false, if_false, fdiv, hpos, if_true, ok_bind, Bool.false_eq_true]


/-! ### one iteration of the loop -/

theorem pyMatch_const (pre s : List Char) :
    pyMatch rx_symop_constant (pre ++ s) pre.length =
      (constRest s).map (fun rest => (pre.length, (pre ++ s).length - rest.length)) := by
  have hrx : rx_symop_constant = rxConst := rfl
  have hle : pre.length ≤ (pre ++ s).length := by simp
  simp only [pyMatch, hle, if_true, hrx, matchRest_rxConst, List.drop_left]

theorem contains_sign (c : Char) : ['+', '-'].contains c = isSign c := by
  simp [isSign]

theorem group_mid (pre s : List Char) (e : Nat) :
    group (pre ++ s) (pre.length, e) = s.take (e - pre.length) := by
  simp [group]

theorem listIndex_mid (pre : List Char) (c : Char) (rest : List Char) :
    listIndex (pre ++ c :: rest) pre.length = .ok c := by
  simp [listIndex]

theorem loop_step (pre : List Char) (c : Char) (rest : List Char) (fuel : Nat) (total : Frac) :
    symop_constant_loop (pre ++ c :: rest) (fuel+1) total pre.length =
      match constRest (c :: rest) with
      | none => .error .structureFormatError
      | some r =>
        if (isSign c || pre.isEmpty) then
          stepK ((c :: rest).take ((c :: rest).length - r.length))
            (fun v => symop_constant_loop (pre ++ c :: rest) fuel (total.add v) ((pre ++ c :: rest).length - r.length))
        else .error .structureFormatError := by
  rw [loop_succ, pyMatch_const]
  have hlt : pre.length < (pre ++ c :: rest).length := by simp
  simp only [hlt, if_true]
  cases constRest (c :: rest) with
  | none => rfl
  | some r =>
    simp only [Option.map, listIndex_mid, ok_bind, contains_sign, group_mid]
    have hlen : (pre ++ c :: rest).length - r.length - pre.length = (c :: rest).length - r.length := by
      simp only [List.length_append]; omega
    rw [hlen]
    cases pre with
    | nil => rw [List.isEmpty_nil, Bool.or_true, if_pos rfl]; rfl
    | cons p ps =>
      have hpos : 0 < (p :: ps).length := Nat.succ_pos _
      rw [if_pos hpos, List.isEmpty_cons, Bool.or_false]
      cases isSign c <;> rfl

theorem loop_advance (pre m r : List Char) (c : Char) (rest : List Char) (hs : c :: rest = m ++ r)
    (hc : constRest (c :: rest) = some r) (hok : (isSign c || pre.isEmpty) = true) (fuel : Nat) (total : Frac) :
    symop_constant_loop (pre ++ c :: rest) (fuel+1) total pre.length =
      stepK m (fun v => symop_constant_loop ((pre ++ m) ++ r) fuel (total.add v) (pre ++ m).length) := by
  rw [loop_step, hc]
  simp only [hok, if_true]
  rw [take_of_append hs, hs]
  have h2 : (pre ++ (m ++ r)).length - r.length = (pre ++ m).length := by
    simp only [List.length_append]; omega
  rw [h2, List.append_assoc]

/-! ### the model's quotient scanner and the pattern's tail, by cases -/

theorem scanQuot_none_of_lit {t : List Char} (h : scanLit t = none) : scanQuot t = none := by
  unfold scanQuot; rw [h]

theorem scanQuot_plain {t r1 : List Char} {a : Frac} (h : scanLit t = some (a, r1)) (hns : ∀ r', r1 ≠ '/' :: r') :
    scanQuot t = some (a, r1) := by
  unfold scanQuot; rw [h]
  dsimp only
  split
  · exact absurd rfl (hns _)
  · rfl

theorem scanQuot_slash_none {t r' : List Char} {a : Frac} (h : scanLit t = some (a, '/' :: r'))
    (h2 : scanLit r' = none) : scanQuot t = none := by
  unfold scanQuot; rw [h]; simp [h2]

theorem scanQuot_slash_some {t r' r2 : List Char} {a b : Frac} (h : scanLit t = some (a, '/' :: r'))
    (h2 : scanLit r' = some (b, r2)) : scanQuot t = if b.num ≤ 0 then none else some (a.div b, r2) := by
  unfold scanQuot; rw [h]; simp [h2]

theorem slashTail_plain {r1 : List Char} (hns : ∀ r', r1 ≠ '/' :: r') : slashTail r1 = r1 := by
  cases r1 with
  | nil => rfl
  | cons d r =>
    have : d ≠ '/' := fun e => hns r (by rw [e])
    simp [slashTail, this]

theorem slashTail_none {r' : List Char} (h2 : scanLit r' = none) : slashTail ('/' :: r') = '/' :: r' := by
  simp [slashTail, h2]

theorem slashTail_some {r' r2 : List Char} {b : Frac} (h2 : scanLit r' = some (b, r2)) : slashTail ('/' :: r') = r2 := by
  simp [slashTail, h2]

theorem constRest_of_lit {s r1 : List Char} {a : Frac} (h : scanLit (unsign s) = some (a, r1)) :
    constRest s = some (slashTail r1) := by
  simp [constRest, h]

theorem constRest_none {s : List Char} (h : scanLit (unsign s) = none) : constRest s = none := by
  simp [constRest, h]

theorem unsign_split (c : Char) (rest : List Char) :
    ∃ sg, c :: rest = sg ++ unsign (c :: rest) ∧ (sg = [] ∨ sg = ['+'] ∨ sg = ['-']) ∧
      (∀ v, sval sg v = if c = '-' then v.neg else v) := by
  by_cases h1 : c = '+'
  · subst h1; exact ⟨['+'], by simp [unsign, isSign], Or.inr (Or.inl rfl), fun v => by simp [sval]⟩
  · by_cases h2 : c = '-'
    · subst h2; exact ⟨['-'], by simp [unsign, isSign], Or.inr (Or.inr rfl), fun v => by simp [sval]⟩
    · exact ⟨[], by simp [unsign, isSign, h1, h2], Or.inl rfl, fun v => by simp [sval, h2]⟩

theorem sval_div (sg : List Char) (a b : Frac) : (sval sg a).div b = sval sg (a.div b) := by
  unfold sval
  split
  · simp [Frac.div, Frac.neg, Int.neg_mul]
  · rfl

theorem sg_no_slash {sg lp : List Char} (hsg : sg = [] ∨ sg = ['+'] ∨ sg = ['-']) (hch : ∀ c ∈ lp, litChar c) :
    ∀ c ∈ sg ++ lp, c ≠ '/' := by
  intro c hc
  rcases List.mem_append.mp hc with h | h
  · rcases hsg with rfl | rfl | rfl
    · simp at h
    · simp at h; subst h; decide
    · simp at h; subst h; decide
  · exact (litChar_ne (hch c h)).1

theorem finish (total v : Frac) (o : Option (List Tok)) :
    (match o with
      | none => (.error .structureFormatError : Except Exn Frac)
      | some a => .ok ((total.add v).add (rowConst a))) =
    (match o.map (Tok.num v :: ·) with
      | none => .error .structureFormatError
      | some a => .ok (total.add (rowConst a))) := by
  cases o with
  | none => rfl
  | some a => simp [rowConst, Frac.add_assoc]

/-! ### the loop -/

/-- the statement of `loop_eq` at one iteration bound -/
def LoopEq (fuel : Nat) : Prop := ∀ (pre s : List Char) (total : Frac), s.length < fuel →
    symop_constant_loop (pre ++ s) fuel total pre.length =
      match pieceToks fuel (pre.isEmpty) s with
      | none => .error .structureFormatError
      | some a => .ok (total.add (rowConst a))

theorem isEmpty_append_ne {pre m : List Char} (hm : m ≠ []) : (pre ++ m).isEmpty = false := by
  cases m with
  | nil => exact absurd rfl hm
  | cons x xs => cases pre <;> rfl

theorem number_plain {c : Char} {rest r1 : List Char} {a : Frac} (hl : scanLit (unsign (c :: rest)) = some (a, r1)) :
    ∃ m, c :: rest = m ++ r1 ∧ m ≠ [] ∧ ∀ k, stepK m k = k (if c = '-' then a.neg else a) := by
  obtain ⟨sg, hs, hsg, hsv⟩ := unsign_split c rest
  obtain ⟨lp, ht, hne, hch, hdec, _, _⟩ := scanLit_shape hl
  refine ⟨sg ++ lp, hs.trans (by rw [ht, List.append_assoc]), by simp [hne], fun k => ?_⟩
  rw [stepK_plain (sg ++ lp) (sval sg a) k (sg_no_slash hsg hch) (float_sg sg lp a hsg hne hch hdec), hsv]

theorem number_quot {c : Char} {rest r' r2 : List Char} {a b : Frac}
    (hl : scanLit (unsign (c :: rest)) = some (a, '/' :: r')) (hl2 : scanLit r' = some (b, r2)) :
    ∃ m, c :: rest = m ++ r2 ∧ m ≠ [] ∧ ∀ k, stepK m k =
      if b.num = 0 then .error .structureFormatError else k (if c = '-' then (a.div b).neg else a.div b) := by
  obtain ⟨sg, hs, hsg, hsv⟩ := unsign_split c rest
  obtain ⟨lp, ht, hne, hch, hdec, _, _⟩ := scanLit_shape hl
  obtain ⟨lp2, ht2, hne2, hch2, hdec2, hb, _⟩ := scanLit_shape hl2
  refine ⟨(sg ++ lp) ++ '/' :: lp2, hs.trans (by rw [ht, ht2]; simp), by simp, fun k => ?_⟩
  have hfb : float lp2 = .ok b := float_sg [] lp2 b (Or.inl rfl) hne2 hch2 hdec2
  rw [stepK_quot (sg ++ lp) lp2 (sval sg a) b k (sg_no_slash hsg hch) hne2
    (float_sg sg lp a hsg hne hch hdec) hfb hb, sval_div, hsv]

theorem loop_next (fuel : Nat) (ih : LoopEq fuel) {pre m r : List Char} {c : Char} {rest : List Char}
    (hs : c :: rest = m ++ r) (hne : m ≠ []) (hc : constRest (c :: rest) = some r)
    (hok : (isSign c || pre.isEmpty) = true) (hlen : (c :: rest).length < fuel + 1) (total : Frac) :
    symop_constant_loop (pre ++ c :: rest) (fuel+1) total pre.length =
      stepK m (fun v => match pieceToks fuel false r with
        | none => .error .structureFormatError
        | some t => .ok ((total.add v).add (rowConst t))) := by
  rw [loop_advance pre m r c rest hs hc hok]
  have hlt : r.length < fuel := by
    have := length_lt_of_append hs hne
    omega
  congr 1
  funext v
  have := ih (pre ++ m) r (total.add v) hlt
  rw [isEmpty_append_ne hne] at this
  exact this

theorem pieceToks_slash (fuel : Nat) (r' : List Char) : pieceToks fuel false ('/' :: r') = none := by
  cases fuel with
  | zero => rfl
  | succ f => rw [pieceToks_cons]; rfl

theorem loopEq_succ (fuel : Nat) (ih : LoopEq fuel) : LoopEq (fuel + 1) := by
  intro pre s total hlen
  cases s with
  | nil =>
    rw [loop_succ]
    simp [pieceToks, scanRowG, rowConst, Frac.add_zero]
    rfl
  | cons c rest =>
    rw [pieceToks_cons]
    by_cases hok : (isSign c || pre.isEmpty) = true
    · rw [if_pos hok]
      cases hl : scanLit (unsign (c :: rest)) with
      | none => rw [loop_step, constRest_none hl, scanQuot_none_of_lit hl]
      | some p =>
        obtain ⟨a, r1⟩ := p
        obtain ⟨m, hs, hne, hstep⟩ := number_plain hl
        -- without a second literal the pass stops at `r1`, also when `r1` begins with `/`: the next pass fails there
        have plain (hst : slashTail r1 = r1) :
            symop_constant_loop (pre ++ c :: rest) (fuel+1) total pre.length =
              match (pieceToks fuel false r1).map (Tok.num (if c = '-' then a.neg else a) :: ·) with
              | none => .error .structureFormatError
              | some t => .ok (total.add (rowConst t)) := by
          rw [loop_next fuel ih hs hne (by rw [constRest_of_lit hl, hst]) hok hlen, hstep]
          exact finish total _ _
        cases r1 with
        | nil => rw [plain rfl, scanQuot_plain hl (fun _ h => nomatch h)]
        | cons d r' =>
          by_cases hd : d = '/'
          · subst hd
            cases hl2 : scanLit r' with
            | none => rw [plain (slashTail_none hl2), scanQuot_slash_none hl hl2, pieceToks_slash]; rfl
            | some q =>
              obtain ⟨b, r2⟩ := q
              obtain ⟨m2, hs2, hne2, hstep2⟩ := number_quot hl hl2
              obtain ⟨_, _, _, _, _, hb, _⟩ := scanLit_shape hl2
              rw [loop_next fuel ih hs2 hne2 (by rw [constRest_of_lit hl, slashTail_some hl2]) hok hlen, hstep2,
                scanQuot_slash_some hl hl2]
              by_cases h0 : b.num = 0
              · rw [if_pos h0, if_pos (show b.num ≤ 0 by omega)]
              · rw [if_neg h0, if_neg (show ¬b.num ≤ 0 by omega)]
                exact finish total _ _
          · have hns : ∀ r'', d :: r' ≠ '/' :: r'' := fun _ h => hd (List.cons.inj h).1
            rw [plain (slashTail_plain hns), scanQuot_plain hl hns]
    · rw [if_neg hok, loop_step]
      have hok' : (isSign c || pre.isEmpty) = false := by simpa using hok
      simp only [hok', Bool.false_eq_true, if_false]
      cases constRest (c :: rest) <;> rfl

theorem loop_eq : ∀ (fuel : Nat) (pre s : List Char) (total : Frac), s.length < fuel →
    symop_constant_loop (pre ++ s) fuel total pre.length =
      match pieceToks fuel (pre.isEmpty) s with
      | none => .error .structureFormatError
      | some a => .ok (total.add (rowConst a)) := by
  intro fuel
  induction fuel with
  | zero => intro pre s total h; omega
  | succ n ih => exact loopEq_succ n ih

theorem symop_constant_eq (p : List Char) :
    symop_constant p =
      match pieceToks (p.length + 1) true p with
      | none => .error .structureFormatError
      | some a => .ok (rowConst a) := by
  have := loop_eq (p.length + 1) [] p Frac.zero (Nat.lt_succ_self _)
  simp only [List.nil_append, List.length_nil, List.isEmpty_nil, Frac.zero_add] at this
  exact this

end DS.SrcSymOp3

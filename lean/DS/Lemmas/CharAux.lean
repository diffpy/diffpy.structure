/-!
Characters by their codes.  `Char.toLower` / `Char.toUpper` move the 26 letters of one case by 32 and leave every other character
alone (`toNat_toLower`, `toNat_toUpper`); with `Char.toNat_inj` every fact about case folding, digits and signs is then linear
arithmetic on `Char.toNat`.  The text model's own ASCII maps `Dec.toLowerA` / `Dec.toUpperA` are these two functions
(`toLowerA_eq`, `toUpperA_eq` in `Lemmas/Dec`), so the same lemmas serve the formats, the identifier normalisation of the
space-group lookup and the symmetry-operator scanner.  Core Lean only.
-/
namespace DS.CharAux

theorem toNat_toLower (c : Char) :
    c.toLower.toNat = if 65 ≤ c.toNat ∧ c.toNat ≤ 90 then c.toNat + 32 else c.toNat := by
  unfold Char.toLower
  split
  · rename_i h
    have h' : 65 ≤ c.toNat ∧ c.toNat ≤ 90 := h
    rw [if_pos h']
    show (c.val + ('a'.val - 'A'.val)).toNat = _
    rw [UInt32.toNat_add]
    show (c.toNat + 32) % 2 ^ 32 = _
    omega
  · rename_i h
    have h' : ¬(65 ≤ c.toNat ∧ c.toNat ≤ 90) := h
    rw [if_neg h']

theorem toNat_toUpper (c : Char) :
    c.toUpper.toNat = if 97 ≤ c.toNat ∧ c.toNat ≤ 122 then c.toNat - 32 else c.toNat := by
  unfold Char.toUpper
  split
  · rename_i h
    have h' : 97 ≤ c.toNat ∧ c.toNat ≤ 122 := h
    rw [if_pos h']
    show (c.val + ('A'.val - 'a'.val)).toNat = _
    rw [UInt32.toNat_add]
    -- `'A'.val - 'a'.val` wraps around in `UInt32`: it is `2 ^ 32 - 32`
    show (c.toNat + 4294967264) % 2 ^ 32 = _
    omega
  · rename_i h
    have h' : ¬(97 ≤ c.toNat ∧ c.toNat ≤ 122) := h
    rw [if_neg h']

theorem toNat_ofNat_lt {n : Nat} (h : n < 0xd800) : (Char.ofNat n).toNat = n := by
  have hv : n.isValidChar := Or.inl h
  rw [Char.ofNat, dif_pos hv]; rfl

theorem isDigit_iff (c : Char) : c.isDigit = true ↔ 48 ≤ c.toNat ∧ c.toNat ≤ 57 := by
  simp only [Char.isDigit, Bool.and_eq_true, decide_eq_true_eq]; exact Iff.rfl

/-- `toNat_toLower` in the form `omega` reads -/
theorem toLower_code (c : Char) :
    (65 ≤ c.toNat ∧ c.toNat ≤ 90 ∧ c.toLower.toNat = c.toNat + 32) ∨
      (¬(65 ≤ c.toNat ∧ c.toNat ≤ 90) ∧ c.toLower.toNat = c.toNat) := by
  rw [toNat_toLower]; split
  · rename_i h; exact Or.inl ⟨h.1, h.2, rfl⟩
  · rename_i h; exact Or.inr ⟨h, rfl⟩

theorem toUpper_code (c : Char) :
    (97 ≤ c.toNat ∧ c.toNat ≤ 122 ∧ c.toUpper.toNat = c.toNat - 32) ∨
      (¬(97 ≤ c.toNat ∧ c.toNat ≤ 122) ∧ c.toUpper.toNat = c.toNat) := by
  rw [toNat_toUpper]; split
  · rename_i h; exact Or.inl ⟨h.1, h.2, rfl⟩
  · rename_i h; exact Or.inr ⟨h, rfl⟩

/-! Folding twice, and what folding cannot produce: no character below `A` is the image of another one. -/

theorem toLower_toLower (c : Char) : c.toLower.toLower = c.toLower := by
  have h1 := toLower_code c; have h2 := toLower_code c.toLower
  apply Char.toNat_inj.1; omega

theorem toUpper_toUpper (c : Char) : c.toUpper.toUpper = c.toUpper := by
  have h1 := toUpper_code c; have h2 := toUpper_code c.toUpper
  apply Char.toNat_inj.1; omega

theorem toLower_toUpper (c : Char) : c.toUpper.toLower = c.toLower := by
  have h1 := toUpper_code c; have h2 := toLower_code c.toUpper; have h3 := toLower_code c
  apply Char.toNat_inj.1; omega

theorem toUpper_toLower (c : Char) : c.toLower.toUpper = c.toUpper := by
  have h1 := toLower_code c; have h2 := toUpper_code c.toLower; have h3 := toUpper_code c
  apply Char.toNat_inj.1; omega

theorem toLower_eq_iff {c d : Char} (hd : d.toNat < 65) : c.toLower = d ↔ c = d := by
  have := toLower_code c
  rw [← Char.toNat_inj, ← Char.toNat_inj]; omega

theorem toUpper_eq_iff {c d : Char} (hd : d.toNat < 65) : c.toUpper = d ↔ c = d := by
  have := toUpper_code c
  rw [← Char.toNat_inj, ← Char.toNat_inj]; omega

end DS.CharAux

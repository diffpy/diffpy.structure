import DS.Model.SymType
import Mathlib.Tactic.Ring

/-!
Soundness of the screw-order certificate checker `DS.SymType.checkScrew`; the screw order is invariant under an
origin shift (`s = N t` does not change) and along a coset `a·T` of the translations, and it is unique.
-/
namespace DS
namespace SymType

/-! ### componentwise algebra on `Vec3 Int` / `Mat3 Int` -/

theorem m_ext {a b : M}
    (h1 : a.a11 = b.a11) (h2 : a.a12 = b.a12) (h3 : a.a13 = b.a13)
    (h4 : a.a21 = b.a21) (h5 : a.a22 = b.a22) (h6 : a.a23 = b.a23)
    (h7 : a.a31 = b.a31) (h8 : a.a32 = b.a32) (h9 : a.a33 = b.a33) : a = b := by
  cases a; cases b; simp_all

theorem v_ext {u v : V} (h1 : u.x = v.x) (h2 : u.y = v.y) (h3 : u.z = v.z) : u = v := by
  cases u; cases v; simp_all

/-- closes ring identities between `V` expressions, component by component -/
macro "vec_ring" : tactic => `(tactic|
  (apply v_ext <;>
    simp only [Vec3.add, Vec3.sub, Vec3.smul, Vec3.zero, Mat3.mulVec, Mat3.mul, Mat3.add, Mat3.one, Mat3.zero] <;>
    ring))

theorem add_sub_cancel_right (x y : V) : (x.add y).sub y = x := by vec_ring

theorem add_sub_self (v w : V) : v.add (w.sub w) = v := by vec_ring

theorem sub_add_sub_cancel (u a b : V) : (u.sub a).add (a.sub b) = u.sub b := by vec_ring

theorem eq_zero_sub {x y : V} (h : x.add y = Vec3.zero) : x = Vec3.zero.sub y := by
  rw [← h, add_sub_cancel_right]

theorem mulVec_add (A : M) (u v : V) : A.mulVec (u.add v) = (A.mulVec u).add (A.mulVec v) := by vec_ring

theorem mulVec_sub (A : M) (u v : V) : A.mulVec (u.sub v) = (A.mulVec u).sub (A.mulVec v) := by vec_ring

theorem mulVec_zero (A : M) : A.mulVec Vec3.zero = Vec3.zero := by vec_ring

theorem add_mulVec (A B : M) (v : V) : (A.add B).mulVec v = (A.mulVec v).add (B.mulVec v) := by vec_ring

theorem one_mulVec (v : V) : Mat3.one.mulVec v = v := by vec_ring

theorem mulVec_mulVec (A B : M) (v : V) : A.mulVec (B.mulVec v) = (A.mul B).mulVec v := by vec_ring

theorem dot_vecMul (f : V) (N : M) (v : V) : (Mat3.vecMul f N).dot v = f.dot (N.mulVec v) := by
  simp only [Mat3.vecMul, Mat3.mulVec, Vec3.dot]; ring

theorem dot_smul (f : V) (c : Int) (v : V) : f.dot (Vec3.smul c v) = c * f.dot v := by
  simp only [Vec3.smul, Vec3.dot]; ring

/-! ### order of the rotation part, `N = 1 + R + … + R^(n-1)` -/

/-- the sum telescopes -/
theorem sumPow_mulVec_sub (R : M) (u : V) :
    ∀ k, (sumPow R k).mulVec (u.sub (R.mulVec u)) = u.sub ((pow R k).mulVec u)
  | 0 => by
    show Mat3.zero.mulVec (u.sub (R.mulVec u)) = u.sub (Mat3.one.mulVec u)
    vec_ring
  | k + 1 => by
    show ((sumPow R k).add (pow R k)).mulVec (u.sub (R.mulVec u)) = u.sub (((pow R k).mul R).mulVec u)
    rw [add_mulVec, sumPow_mulVec_sub R u k, mulVec_sub, mulVec_mulVec]
    exact sub_add_sub_cancel _ _ _

theorem ordAux_spec (R : M) : ∀ (fuel k : Nat) (P acc : M), 0 < k → P = pow R k → acc = sumPow R k →
    (∀ j, 0 < j → j < k → pow R j ≠ Mat3.one) →
    ∀ n N, ordAux R fuel k P acc = some (n, N) → IsOrd R n ∧ N = sumPow R n
  | 0, _, _, _, _, _, _, _, _, _, h => by simp [ordAux] at h
  | fuel + 1, k, P, acc, hk, hP, hacc, hmin, n, N, h => by
    unfold ordAux at h
    split at h
    · rename_i hone
      simp only [Option.some.injEq, Prod.mk.injEq] at h
      obtain ⟨rfl, rfl⟩ := h
      exact ⟨⟨hk, hP ▸ hone, hmin⟩, hacc⟩
    · rename_i hne
      refine ordAux_spec R fuel (k + 1) (P.mul R) (acc.add P) (Nat.succ_pos k) ?_ ?_ ?_ n N h
      · rw [hP]; rfl
      · rw [hP, hacc]; rfl
      · intro j hj hjk
        rcases Nat.lt_succ_iff_lt_or_eq.1 hjk with hlt | rfl
        · exact hmin j hj hlt
        · rw [← hP]; exact hne

theorem ordSum_spec {R : M} {n : Nat} {N : M} (h : ordSum R = some (n, N)) : IsOrd R n ∧ N = sumPow R n := by
  refine ordAux_spec R 6 1 R Mat3.one Nat.one_pos ?_ ?_ ?_ n N h
  · show R = Mat3.one.mul R
    cases R; simp [Mat3.mul, Mat3.one]
  · show Mat3.one = Mat3.zero.add Mat3.one
    simp [Mat3.add, Mat3.one, Mat3.zero]
  · intro j hj hj1; omega

theorem isOrd_unique {R : M} {n n' : Nat} (h : IsOrd R n) (h' : IsOrd R n') : n = n' := by
  rcases Nat.lt_trichotomy n n' with hlt | heq | hgt
  · exact absurd h.2.1 (h'.2.2 n h.1 hlt)
  · exact heq
  · exact absurd h'.2.1 (h.2.2 n' h'.1 hgt)

theorem ordOf_spec {R : M} {n : Nat} (h : IsOrd R n) (hn : ordSum R ≠ none) : ordOf R = n := by
  unfold ordOf
  cases hs : ordSum R with
  | none => exact absurd hs hn
  | some p =>
    obtain ⟨k, N⟩ := p
    exact isOrd_unique (ordSum_spec hs).1 h

/-! ### the span of the generators -/

theorem span_add {gens : List V} {v w : V} (hv : Span gens v) (hw : Span gens w) : Span gens (v.add w) := by
  induction hw with
  | zero => rw [show v.add Vec3.zero = v by vec_ring]; exact hv
  | @add w g _ hg ih => rw [show v.add (w.add g) = (v.add w).add g by vec_ring]; exact Span.add ih hg
  | @sub w g _ hg ih => rw [show v.add (w.sub g) = (v.add w).sub g by vec_ring]; exact Span.sub ih hg

theorem span_sub {gens : List V} {v w : V} (hv : Span gens v) (hw : Span gens w) : Span gens (v.sub w) := by
  induction hw with
  | zero => rw [show v.sub Vec3.zero = v by vec_ring]; exact hv
  | @add w g _ hg ih => rw [show v.sub (w.add g) = (v.sub w).sub g by vec_ring]; exact Span.sub ih hg
  | @sub w g _ hg ih => rw [show v.sub (w.sub g) = (v.sub w).add g by vec_ring]; exact Span.add ih hg

theorem span_neg {gens : List V} {v : V} (hv : Span gens v) : Span gens (Vec3.zero.sub v) :=
  span_sub Span.zero hv

theorem span_smul {gens : List V} {v : V} (hv : Span gens v) (c : Int) : Span gens (Vec3.smul c v) := by
  induction c using Int.induction_on with
  | zero => rw [show Vec3.smul 0 v = Vec3.zero by vec_ring]; exact Span.zero
  | succ i ih =>
    rw [show Vec3.smul ((i : Int) + 1) v = (Vec3.smul (i : Int) v).add v by vec_ring]
    exact span_add ih hv
  | pred i ih =>
    rw [show Vec3.smul (-(i : Int) - 1) v = (Vec3.smul (-(i : Int)) v).sub v by vec_ring]
    exact span_sub ih hv

theorem span_lincomb {gens : List V} : ∀ (cs : List Int) (vs : List V), (∀ v ∈ vs, v ∈ gens) →
    Span gens (lincomb cs vs)
  | [], _, _ => by unfold lincomb; exact Span.zero
  | _ :: _, [], _ => by unfold lincomb; exact Span.zero
  | c :: cs, v :: vs, h =>
    have hv : Span gens v := by
      rw [show v = Vec3.zero.add v by vec_ring]; exact Span.add Span.zero (h v List.mem_cons_self)
    span_add (span_smul hv c) (span_lincomb cs vs fun w hw => h w (List.mem_cons_of_mem _ hw))

theorem span_dvd {gens : List V} {N : M} {f : V} {q : Int}
    (h : ∀ g ∈ gens, q ∣ (Mat3.vecMul f N).dot g) {l : V} (hl : Span gens l) : q ∣ f.dot (N.mulVec l) := by
  rw [← dot_vecMul]
  generalize Mat3.vecMul f N = φ at h ⊢
  induction hl with
  | zero => exact ⟨0, by simp [Vec3.dot, Vec3.zero]⟩
  | @add v g _ hg ih =>
    rw [show φ.dot (v.add g) = φ.dot v + φ.dot g by simp only [Vec3.dot, Vec3.add]; ring]
    exact Int.dvd_add ih (h g hg)
  | @sub v g _ hg ih =>
    rw [show φ.dot (v.sub g) = φ.dot v - φ.dot g by simp only [Vec3.dot, Vec3.sub]; ring]
    exact Int.dvd_sub ih (h g hg)

/-! ### what the screw order depends on: origin, representative of the coset -/

/-- Two operations with the same rotation part have the same screw order as soon as the multiples of their
`s = N t` lie in `N(L)` together. -/
theorem isScrewOrder_congr {gens : List V} {a b : Op} (hr : rot b = rot a)
    (h : ∀ n, pow (rot a) n = Mat3.one → ∀ k : Nat,
      InNL gens (sumPow (rot a) n) (Vec3.smul (k : Int) (screwVec b n)) ↔
        InNL gens (sumPow (rot a) n) (Vec3.smul (k : Int) (screwVec a n))) (m : Nat) :
    IsScrewOrder gens b m ↔ IsScrewOrder gens a m := by
  unfold IsScrewOrder
  rw [hr]
  refine exists_congr fun n => and_congr_right fun hn => ?_
  simp only [h n hn.2.1]

/-- Conjugating `(R, t)` by the translation `u` changes `t` to `t + (1 - R) u` and leaves `s = N t` unchanged,
because `N (1 - R) = 0` when `R^n = 1`. -/
theorem sumPow_shift {R : M} {n : Nat} (h : pow R n = Mat3.one) (t u : V) :
    (sumPow R n).mulVec (t.add (u.sub (R.mulVec u))) = (sumPow R n).mulVec t := by
  rw [mulVec_add, sumPow_mulVec_sub, h, one_mulVec, add_sub_self]

theorem rot_shift (a : Op) (u : V) : rot (shift a u) = rot a := rfl

theorem tr_shift (a : Op) (u : V) : tr (shift a u) = (tr a).add (u.sub ((rot a).mulVec u)) := rfl

theorem screwVec_shift {a : Op} {n : Nat} (h : pow (rot a) n = Mat3.one) (u : V) :
    screwVec (shift a u) n = screwVec a n :=
  sumPow_shift h (tr a) u

/-- the screw order does not depend on the choice of origin -/
theorem isScrewOrder_shift (gens : List V) (a : Op) (u : V) (m : Nat) :
    IsScrewOrder gens (shift a u) m ↔ IsScrewOrder gens a m :=
  isScrewOrder_congr (rot_shift a u) (fun n hn k => by rw [screwVec_shift hn]) m

theorem inNL_translate {gens : List V} {N : M} {s l : V} (hl : Span gens l) (k : Nat) :
    InNL gens N (Vec3.smul (k : Int) (s.add (N.mulVec l))) ↔ InNL gens N (Vec3.smul (k : Int) s) := by
  have hk := span_smul hl k
  rw [show Vec3.smul (k : Int) (s.add (N.mulVec l))
      = (Vec3.smul (k : Int) s).add (N.mulVec (Vec3.smul (k : Int) l)) by vec_ring]
  constructor
  · rintro ⟨l', hl', hx⟩
    refine ⟨l'.sub (Vec3.smul (k : Int) l), span_sub hl' hk, ?_⟩
    rw [mulVec_sub, ← hx, add_sub_cancel_right]
  · rintro ⟨l', hl', hx⟩
    exact ⟨l'.add (Vec3.smul (k : Int) l), span_add hl' hk, by rw [mulVec_add, ← hx]⟩

theorem rot_translate (a : Op) (l : V) : rot (translate a l) = rot a := rfl

theorem screwVec_translate (a : Op) (l : V) (n : Nat) :
    screwVec (translate a l) n = (screwVec a n).add ((sumPow (rot a) n).mulVec l) :=
  mulVec_add (sumPow (rot a) n) (tr a) l

/-- all operations of a coset `a·T` (translation part changed by a lattice vector) have the same screw order -/
theorem isScrewOrder_translate {gens : List V} (a : Op) {l : V} (hl : Span gens l) (m : Nat) :
    IsScrewOrder gens (translate a l) m ↔ IsScrewOrder gens a m :=
  isScrewOrder_congr (rot_translate a l) (fun n _ k => by rw [screwVec_translate]; exact inNL_translate hl k) m

/-! ### the certificate checker -/

theorem checkNonOne_sound {N : M} {gens : List V} {s : V} {m' : Nat} {f : V} {q : Nat}
    (h : checkNonOne N gens s m' f q = true) : ¬ InNL gens N (Vec3.smul (m' : Int) s) := by
  simp only [checkNonOne, Bool.and_eq_true, List.all_eq_true, decide_eq_true_eq, Bool.not_eq_true',
    decide_eq_false_iff_not] at h
  obtain ⟨hg, hs⟩ := h
  rintro ⟨l, hl, hx⟩
  apply hs
  have hd : (q : Int) ∣ f.dot (N.mulVec l) :=
    span_dvd (fun g hg' => Int.dvd_of_emod_eq_zero (hg g hg')) hl
  rw [← hx, dot_smul] at hd
  exact Int.emod_eq_zero_of_dvd hd

theorem checkNon_sound {N : M} {gens : List V} {s : V} {m : Nat} :
    ∀ (certs : List (V × Nat)) (m' : Nat), checkNon N gens s m m' certs = true →
      ∀ k, m' ≤ k → k < m → ¬ InNL gens N (Vec3.smul (k : Int) s)
  | [], m', h => by
    simp only [checkNon, decide_eq_true_eq] at h
    intro k hk hkm; omega
  | (f, q) :: rest, m', h => by
    simp only [checkNon, Bool.or_eq_true, Bool.and_eq_true, decide_eq_true_eq] at h
    intro k hk hkm
    rcases h with h | ⟨h1, h2⟩
    · omega
    · rcases Nat.eq_or_lt_of_le hk with rfl | hlt
      · exact checkNonOne_sound h1
      · exact checkNon_sound rest (m' + 1) h2 k hlt hkm

theorem mem_latGens_all (gens : List V) : ∀ v ∈ gens, v ∈ gens := fun _ h => h

/-- (a) the witness gives membership, (b) the functionals exclude membership for all integer combinations:
an accepted certificate names the screw order of the operation. -/
theorem checkOp_sound {gens : List V} {a : Op} {c : OpCert} (h : checkOp gens a c = true) :
    IsScrewOrder gens a c.m := by
  unfold checkOp at h
  split at h
  · exact absurd h (by simp)
  · rename_i n N hs
    obtain ⟨hord, rfl⟩ := ordSum_spec hs
    simp only [Bool.and_eq_true, decide_eq_true_eq] at h
    obtain ⟨⟨hm, hw⟩, hnon⟩ := h
    refine ⟨n, hord, hm, ⟨Vec3.zero.sub (lincomb c.a gens), span_neg (span_lincomb c.a gens fun _ h => h), ?_⟩,
      checkNon_sound c.non 1 hnon⟩
    rw [mulVec_sub, mulVec_zero]
    exact eq_zero_sub hw

theorem checkOps_sound {gens : List V} : ∀ (ops : List Op) (cs : List OpCert), checkOps gens ops cs = true →
    OrdersAre gens ops (cs.map (·.m))
  | [], [], _ => OrdersAre.nil
  | [], _ :: _, h => by simp [checkOps] at h
  | _ :: _, [], h => by simp [checkOps] at h
  | a :: as, c :: cs, h => by
    simp only [checkOps, Bool.and_eq_true] at h
    exact OrdersAre.cons (checkOp_sound h.1) (checkOps_sound as cs h.2)

theorem checkCensus_sound {ks : List Key} {ref : List (Key × Nat)} {nc : Nat}
    (h : checkCensus ks ref nc = true) : CensusIs ks ref nc := by
  simp only [checkCensus, Bool.and_eq_true, List.all_eq_true, decide_eq_true_eq, List.elem_eq_mem] at h
  exact ⟨h.1.1, h.1.2, h.2⟩

/-- If the checker accepts, then for every operation the claimed `m` really is the least `m ≥ 1` with
`m·(N t) ∈ N(L)`, `L` the ℤ-span of the unit and centring translations, and the census of
(det, trace, m) is the reference census of `number % 1000`. -/
theorem checkScrew_sound {g : SG} {c : List OpCert} (h : checkScrew g c = true) :
    TypeOK g (c.map (·.m)) := by
  simp only [checkScrew, checkTypeOps, checkTypeCensus, Bool.and_eq_true] at h
  exact ⟨checkOps_sound _ _ h.1, checkCensus_sound h.2⟩

theorem isScrewOrder_unique {gens : List V} {a : Op} {m m' : Nat}
    (h : IsScrewOrder gens a m) (h' : IsScrewOrder gens a m') : m = m' := by
  obtain ⟨n, hn, hm, hin, hl⟩ := h
  obtain ⟨n', hn', hm', hin', hl'⟩ := h'
  obtain rfl := isOrd_unique hn hn'
  rcases Nat.lt_trichotomy m m' with hlt | heq | hgt
  · exact absurd hin (hl' m hm hlt)
  · exact heq
  · exact absurd hin' (hl m' hm' hgt)

/-- hence the orders found by the checker are the only ones: any other list of screw orders coincides -/
theorem orders_unique {gens : List V} : ∀ {ops : List Op} {ms ms' : List Nat},
    OrdersAre gens ops ms → OrdersAre gens ops ms' → ms = ms'
  | _, _, _, OrdersAre.nil, OrdersAre.nil => rfl
  | _, _, _, OrdersAre.cons h t, OrdersAre.cons h' t' => by
    rw [isScrewOrder_unique h h', orders_unique t t']

end SymType
end DS

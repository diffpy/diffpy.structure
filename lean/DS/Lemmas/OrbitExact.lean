import DS.Lemmas.Orbit

/-!
What `expandPosition` (literal model `Orbit.expand`) computes.  Let `c` be a relation that, on the
images of the site, coincides with the loop's own test "box distance at most `E`" and is transitive
there (`Closeness`).  Then the loop lists the first image of every class of `c` and groups the
operations by class (`result_classes`).  For images that are pairwise equal or farther apart than
`E` (`Sep`) the classes are the fibres of `g ↦ g·x` (`result_exact`).
-/
namespace DS
namespace Orbit

/-! ### the periodic difference is the distance to the lattice `D·ℤ` -/

theorem pdiff1_def (D u v : Int) :
    pdiff1 D u v = if 2 * ((u - v) % D) > D then D - (u - v) % D else (u - v) % D := rfl

theorem pdiff1_le_abs {D : Int} (hD : 0 < D) (u v n : Int) : pdiff1 D u v ≤ |u - v + D * n| := by
  have h0 := Int.emod_nonneg (u - v) hD.ne'
  have h1 := Int.emod_lt_of_pos (u - v) hD
  have e : u - v + D * n = (u - v) % D + D * ((u - v) / D + n) := by
    rw [Int.mul_add, ← Int.add_assoc, Int.add_left_inj, Int.add_comm]
    exact (Int.mul_ediv_add_emod (u - v) D).symm
  rw [e, pdiff1_def]
  rcases Int.lt_or_le ((u - v) / D + n) 0 with hm | hm
  · have := Int.mul_le_mul_of_nonneg_left (show (u - v) / D + n ≤ -1 by omega) hD.le
    rw [abs_of_neg (by omega)]
    split <;> omega
  · have := Int.mul_nonneg hD.le hm
    rw [abs_of_nonneg (by omega)]
    split <;> omega

theorem pdiff1_eq_abs {D : Int} (hD : 0 < D) (u v : Int) : ∃ n, pdiff1 D u v = |u - v + D * n| := by
  have h0 := Int.emod_nonneg (u - v) hD.ne'
  have h1 := Int.emod_lt_of_pos (u - v) hD
  have e := Int.mul_ediv_add_emod (u - v) D
  rw [pdiff1_def]
  split
  · refine ⟨-((u - v) / D) - 1, ?_⟩
    rw [abs_of_neg (by rw [Int.mul_sub, Int.mul_neg]; omega), Int.mul_sub, Int.mul_neg]; omega
  · refine ⟨-((u - v) / D), ?_⟩
    rw [abs_of_nonneg (by rw [Int.mul_neg]; omega), Int.mul_neg]; omega

theorem pdiff1_nonneg {D : Int} (hD : 0 < D) (u v : Int) : 0 ≤ pdiff1 D u v := by
  obtain ⟨n, hn⟩ := pdiff1_eq_abs hD u v
  rw [hn]; exact abs_nonneg _

theorem pdiff1_comm {D : Int} (hD : 0 < D) (u v : Int) : pdiff1 D u v = pdiff1 D v u := by
  have key : ∀ u v, pdiff1 D u v ≤ pdiff1 D v u := by
    intro u v
    obtain ⟨n, hn⟩ := pdiff1_eq_abs hD v u
    rw [hn, ← abs_neg]
    have := pdiff1_le_abs hD u v (-n)
    rwa [show u - v + D * -n = -(v - u + D * n) by rw [Int.mul_neg]; omega] at this
  exact Int.le_antisymm (key u v) (key v u)

theorem pdiff1_triangle {D : Int} (hD : 0 < D) (u v w : Int) :
    pdiff1 D u w ≤ pdiff1 D u v + pdiff1 D v w := by
  obtain ⟨n, hn⟩ := pdiff1_eq_abs hD u v
  obtain ⟨m, hm⟩ := pdiff1_eq_abs hD v w
  calc pdiff1 D u w ≤ |u - w + D * (n + m)| := pdiff1_le_abs hD u w (n + m)
    _ = |(u - v + D * n) + (v - w + D * m)| := by congr 1; rw [Int.mul_add]; omega
    _ ≤ _ := by rw [hn, hm]; exact abs_add_le _ _

theorem pdiff1_self {D : Int} (hD : 0 ≤ D) (u : Int) : pdiff1 D u u = 0 := by
  rw [pdiff1_def, Int.sub_self, Int.zero_emod, if_neg (by omega)]

theorem pdiff1_le_half {D u v : Int} (hu : 0 ≤ u ∧ u < D) (hv : 0 ≤ v ∧ v < D) :
    2 * pdiff1 D u v ≤ D := by
  have h1 := Int.emod_lt_of_pos (u - v) (show 0 < D by omega)
  rw [pdiff1_def]
  split <;> omega

theorem pdiff1_eq_zero {D u v : Int} (hu : 0 ≤ u ∧ u < D) (hv : 0 ≤ v ∧ v < D)
    (h : pdiff1 D u v = 0) : u = v := by
  have h1 := Int.emod_lt_of_pos (u - v) (show 0 < D by omega)
  have hd : (u - v) % D = 0 := by
    rw [pdiff1_def] at h
    split at h <;> omega
  have := Int.eq_zero_of_abs_lt_dvd (Int.dvd_of_emod_eq_zero hd) (abs_lt.2 ⟨by omega, by omega⟩)
  omega

/-! ### the box distance is a metric on the cell -/

def InCell (D : Int) (p : P3) : Prop :=
  (0 ≤ p.1 ∧ p.1 < D) ∧ (0 ≤ p.2.1 ∧ p.2.1 < D) ∧ (0 ≤ p.2.2 ∧ p.2.2 < D)

theorem InCell.pos {D : Int} {p : P3} (hp : InCell D p) : 0 < D := by
  have := hp.1; omega

theorem img_inCell (a : Op) {k : Int} (hk : 0 < k) (off x : P3) : InCell (24 * k) (img a k off x) := by
  have hD : (0 : Int) < 24 * k := by omega
  exact ⟨⟨Int.emod_nonneg _ hD.ne', Int.emod_lt_of_pos _ hD⟩,
         ⟨Int.emod_nonneg _ hD.ne', Int.emod_lt_of_pos _ hD⟩,
         ⟨Int.emod_nonneg _ hD.ne', Int.emod_lt_of_pos _ hD⟩⟩

theorem boxDist_le_iff {D t : Int} {p q : P3} : boxDist D p q ≤ t ↔
    pdiff1 D p.1 q.1 ≤ t ∧ pdiff1 D p.2.1 q.2.1 ≤ t ∧ pdiff1 D p.2.2 q.2.2 ≤ t := by
  simp only [boxDist, max_le_iff]

theorem pdiff1_le_boxDist (D : Int) (p q : P3) :
    pdiff1 D p.1 q.1 ≤ boxDist D p q ∧ pdiff1 D p.2.1 q.2.1 ≤ boxDist D p q ∧
      pdiff1 D p.2.2 q.2.2 ≤ boxDist D p q :=
  boxDist_le_iff.1 (Int.le_refl _)

theorem boxDist_comm {D : Int} (hD : 0 < D) (p q : P3) : boxDist D p q = boxDist D q p := by
  unfold boxDist
  rw [pdiff1_comm hD p.1, pdiff1_comm hD p.2.1, pdiff1_comm hD p.2.2]

theorem boxDist_self {D : Int} {p : P3} (hp : InCell D p) : boxDist D p p = 0 := by
  unfold boxDist
  rw [pdiff1_self hp.pos.le, pdiff1_self hp.pos.le, pdiff1_self hp.pos.le]
  rfl

theorem boxDist_nonneg {D : Int} (hD : 0 < D) (p q : P3) : 0 ≤ boxDist D p q :=
  (pdiff1_nonneg hD p.1 q.1).trans (pdiff1_le_boxDist D p q).1

theorem boxDist_eq_zero {D : Int} {p q : P3} (hp : InCell D p) (hq : InCell D q)
    (h : boxDist D p q = 0) : p = q := by
  obtain ⟨h1, h2, h3⟩ := boxDist_le_iff.1 h.le
  have e := fun u v hu hv (hle : pdiff1 D u v ≤ 0) =>
    pdiff1_eq_zero (D := D) (u := u) (v := v) hu hv (Int.le_antisymm hle (pdiff1_nonneg hp.pos u v))
  exact Prod.ext (e _ _ hp.1 hq.1 h1) (Prod.ext (e _ _ hp.2.1 hq.2.1 h2) (e _ _ hp.2.2 hq.2.2 h3))

theorem boxDist_triangle {D : Int} (hD : 0 < D) (p q r : P3) :
    boxDist D p r ≤ boxDist D p q + boxDist D q r := by
  obtain ⟨a1, a2, a3⟩ := pdiff1_le_boxDist D p q
  obtain ⟨b1, b2, b3⟩ := pdiff1_le_boxDist D q r
  exact boxDist_le_iff.2
    ⟨(pdiff1_triangle hD _ _ _).trans (Int.add_le_add a1 b1),
     (pdiff1_triangle hD _ _ _).trans (Int.add_le_add a2 b2),
     (pdiff1_triangle hD _ _ _).trans (Int.add_le_add a3 b3)⟩

theorem sub_lt_of_ediv_eq {E a b : Int} (hE : 0 < E) (h : a / E = b / E) : a - b < E := by
  have h1 := Int.emod_lt_of_pos a hE
  have h2 := Int.emod_nonneg b (Int.ne_of_gt hE)
  have h5 := Int.mul_ediv_add_emod a E
  have h6 := Int.mul_ediv_add_emod b E
  rw [h] at h5
  omega

theorem boxDist_lt_of_bucket_eq {D E : Int} (hD : 0 < D) (hE : 0 < E) {p q : P3}
    (h : bucket E p = bucket E q) : boxDist D p q < E := by
  simp only [bucket, Prod.mk.injEq] at h
  have key : ∀ u v : Int, u / E = v / E → pdiff1 D u v < E := fun u v e =>
    (pdiff1_le_abs hD u v 0).trans_lt (by
      have := sub_lt_of_ediv_eq hE e
      have := sub_lt_of_ediv_eq hE e.symm
      rw [Int.mul_zero, Int.add_zero, abs_lt]; omega)
  simp only [boxDist, max_lt_iff]
  exact ⟨key _ _ h.1, key _ _ h.2.1, key _ _ h.2.2⟩

/-! ### de-duplication up to a relation -/

/-- keep the first element of every class of `c` (analogue of `dedupFirst`) -/
def dedupBy {α : Type} (c : α → α → Bool) : List α → List α
  | [] => []
  | p :: ps => p :: (dedupBy c ps).filter (fun q => !c p q)

theorem mem_of_mem_dedupBy {α : Type} {c : α → α → Bool} {l : List α} {p : α}
    (h : p ∈ dedupBy c l) : p ∈ l := by
  induction l with
  | nil => simp [dedupBy] at h
  | cons q qs ih =>
    simp only [dedupBy, List.mem_cons, List.mem_filter] at h
    rcases h with h | ⟨h, _⟩
    · exact h ▸ List.mem_cons_self
    · exact List.mem_cons_of_mem _ (ih h)

theorem pairwise_dedupBy {α : Type} (c : α → α → Bool) (l : List α) :
    (dedupBy c l).Pairwise (fun p q => c p q = false) := by
  induction l with
  | nil => simp [dedupBy]
  | cons q qs ih =>
    simp only [dedupBy, List.pairwise_cons, List.mem_filter]
    refine ⟨fun a ha => by simpa using ha.2, ih.filter _⟩

theorem dedupBy_append {α : Type} (c : α → α → Bool) (l : List α) (p : α) :
    dedupBy c (l ++ [p]) = if l.any (fun q => c q p) then dedupBy c l else dedupBy c l ++ [p] := by
  induction l with
  | nil => simp [dedupBy]
  | cons q qs ih =>
    simp only [List.cons_append, dedupBy, ih, List.any_cons]
    by_cases h1 : qs.any (fun q => c q p) = true
    · simp [h1]
    · by_cases h2 : c q p = true
      · simp [h1, h2, List.filter_append]
      · simp [h1, h2, List.filter_append]

theorem dedupBy_congr {α : Type} {c c' : α → α → Bool} {l : List α}
    (h : ∀ p ∈ l, ∀ q ∈ l, c p q = c' p q) : dedupBy c l = dedupBy c' l := by
  induction l with
  | nil => rfl
  | cons a as ih =>
    simp only [dedupBy]
    rw [← ih (fun p hp q hq => h p (List.mem_cons_of_mem _ hp) q (List.mem_cons_of_mem _ hq))]
    congr 1
    apply List.filter_congr
    intro q hq
    rw [h a List.mem_cons_self q (List.mem_cons_of_mem _ (mem_of_mem_dedupBy hq))]

theorem dedupBy_map {α β : Type} (c : β → β → Bool) (f : α → β) (l : List α) :
    dedupBy c (l.map f) = (dedupBy (fun a b => c (f a) (f b)) l).map f := by
  induction l with
  | nil => rfl
  | cons a as ih =>
    simp only [List.map_cons, dedupBy, ih, List.filter_map]
    rfl

theorem dedupFirst_eq_dedupBy (l : List P3) : dedupFirst l = dedupBy (fun p q => p == q) l := by
  induction l with
  | nil => rfl
  | cons a as ih =>
    simp only [dedupFirst, dedupBy, ih]
    congr 1
    apply List.filter_congr
    intro q _
    show (!(q == a)) = !(a == q)
    rw [Bool.beq_comm]

theorem head?_dedupBy {α : Type} (c : α → α → Bool) (l : List α) : (dedupBy c l).head? = l.head? := by
  cases l <;> rfl

/-! ### bucket table under appending -/

theorem lookupKey_append (m : List (P3 × Nat)) (t : P3) (i : Nat) (b : P3) :
    lookupKey (m ++ [(t, i)]) b =
      match lookupKey m b with
      | some j => some j
      | none => if t = b then some i else none := by
  simp only [lookupKey, List.find?_append]
  cases h : m.find? (fun e => e.1 == b) with
  | some e => simp
  | none =>
    by_cases e : t = b
    · simp [e]
    · simp [e]

theorem lookupKey_nil (b : P3) : lookupKey [] b = none := rfl

/-! ### the nearest listed position: a valid index, minimising the box distance -/

theorem nearestIdx_go_lt (D : Int) (p : P3) :
    ∀ (rest : List P3) (i best : Nat) (bd : Int), best < i → nearestIdx.go D p rest i best bd < i + rest.length
  | [], i, best, bd, h => by simpa [nearestIdx.go] using h
  | q :: qs, i, best, bd, h => by
    simp only [nearestIdx.go, List.length_cons]
    split
    · have := nearestIdx_go_lt D p qs (i + 1) i (boxDist D q p) (by omega)
      omega
    · have := nearestIdx_go_lt D p qs (i + 1) best bd (by omega)
      omega

theorem nearestIdx_lt (D : Int) (ps : List P3) (p : P3) (h : ps ≠ []) : nearestIdx D ps p < ps.length := by
  cases ps with
  | nil => exact absurd rfl h
  | cons q qs =>
    simp only [nearestIdx, List.length_cons]
    have := nearestIdx_go_lt D p qs 1 0 (boxDist D q p) (by omega)
    omega

theorem nearestIdx_go_min (D : Int) (p : P3) :
    ∀ (rest pre : List P3) (best : Nat) (bd : Int), best < pre.length →
      bd = boxDist D ((pre ++ rest).getD best p) p →
      (∀ q ∈ pre, bd ≤ boxDist D q p) →
      ∀ q ∈ pre ++ rest,
        boxDist D ((pre ++ rest).getD (nearestIdx.go D p rest pre.length best bd) p) p ≤ boxDist D q p
  | [], pre, best, bd, _, hbd, hmin => by
    intro q hq
    simp only [List.append_nil] at hq hbd ⊢
    simp only [nearestIdx.go]
    rw [← hbd]; exact hmin q hq
  | r :: rs, pre, best, bd, hb, hbd, hmin => by
    have happ : pre ++ r :: rs = (pre ++ [r]) ++ rs := by simp
    have hlen : (pre ++ [r]).length = pre.length + 1 := by simp
    have hget : ((pre ++ [r]) ++ rs).getD pre.length p = r := by simp
    simp only [nearestIdx.go]
    rw [happ]
    split
    · next hlt =>
      have := nearestIdx_go_min D p rs (pre ++ [r]) pre.length (boxDist D r p) (by simp)
        (by rw [hget])
        (by
          intro q hq
          rcases List.mem_append.1 hq with h | h
          · have := hmin q h; omega
          · simp only [List.mem_singleton] at h; subst h; exact Int.le_refl _)
      rw [hlen] at this
      exact this
    · next hge =>
      have := nearestIdx_go_min D p rs (pre ++ [r]) best bd (by simp; omega)
        (by rw [← happ]; exact hbd)
        (by
          intro q hq
          rcases List.mem_append.1 hq with h | h
          · exact hmin q h
          · simp only [List.mem_singleton] at h; subst h; omega)
      rw [hlen] at this
      exact this

theorem nearestIdx_min (D : Int) (ps : List P3) (p : P3) :
    ∀ q ∈ ps, boxDist D (ps.getD (nearestIdx D ps p) p) p ≤ boxDist D q p := by
  cases ps with
  | nil => intro q hq; cases hq
  | cons r rs =>
    exact nearestIdx_go_min D p rs [r] 0 (boxDist D r p) Nat.zero_lt_one rfl
      (by intro q hq; rw [List.mem_singleton.1 hq])

/-! ### the four ways through one iteration of the loop -/
section stepOp
variable {k E : Int} {off x : P3} {s : St} {a : Op}

theorem stepOp_known {i : Nat} (h : lookupKey s.keymap (bucket E (img a k off x)) = some i) :
    stepOp k E off x s a = { s with classes := addToClass s.classes i a } := by
  simp only [stepOp, h]

theorem stepOp_first (h : lookupKey s.keymap (bucket E (img a k off x)) = none) (hp : s.positions = []) :
    stepOp k E off x s a =
      { positions := [img a k off x], keymap := [(bucket E (img a k off x), 0)], classes := [[a]] } := by
  simp [stepOp, h, hp]

/-- the new bucket becomes an alias of class `i` -/
theorem stepOp_alias {i : Nat} (h : lookupKey s.keymap (bucket E (img a k off x)) = none) (hp : s.positions ≠ [])
    (hd : boxDist (24 * k) (s.positions.getD (nearestIdx (24 * k) s.positions (img a k off x)) (img a k off x))
      (img a k off x) ≤ E)
    (hi : lookupKey s.keymap (bucket E (s.positions.getD (nearestIdx (24 * k) s.positions (img a k off x))
      (img a k off x))) = some i) :
    stepOp k E off x s a =
      { s with keymap := s.keymap ++ [(bucket E (img a k off x), i)], classes := addToClass s.classes i a } := by
  simp only [stepOp, h, List.isEmpty_eq_false_iff.2 hp, Bool.false_eq_true, if_false, if_pos hd, hi]

theorem stepOp_new (h : lookupKey s.keymap (bucket E (img a k off x)) = none) (hp : s.positions ≠ [])
    (hd : ¬ boxDist (24 * k) (s.positions.getD (nearestIdx (24 * k) s.positions (img a k off x)) (img a k off x))
      (img a k off x) ≤ E) :
    stepOp k E off x s a =
      { positions := s.positions ++ [img a k off x],
        keymap := s.keymap ++ [(bucket E (img a k off x), s.positions.length)],
        classes := s.classes ++ [[a]] } := by
  simp only [stepOp, h, List.isEmpty_eq_false_iff.2 hp, Bool.false_eq_true, if_false, if_neg hd]

end stepOp

/-! ### classes of operations by closeness to the listed positions -/

/-- operations of `done` grouped by the listed position their image is related to -/
def classesBy (c : P3 → P3 → Bool) (f : Op → P3) (ps : List P3) (done : List Op) : List (List Op) :=
  ps.map (fun p => done.filter (fun g => c p (f g)))

theorem classesBy_snoc_mem {c : P3 → P3 → Bool} {f : Op → P3} {ps : List P3} {done : List Op} {a : Op}
    {i : Nat} (hi : i < ps.length) (hia : c ps[i] (f a) = true)
    (hother : ∀ j (hj : j < ps.length), j ≠ i → c ps[j] (f a) = false) :
    addToClass (classesBy c f ps done) i a = classesBy c f ps (done ++ [a]) := by
  apply List.ext_getElem
  · simp [addToClass, classesBy]
  · intro j h1 h2
    have hj : j < ps.length := by simpa [classesBy] using h2
    simp only [addToClass, classesBy, List.getElem_modify, List.getElem_map, List.filter_append]
    by_cases hij : i = j
    · subst hij
      simp [hia]
    · have := hother j hj (fun e => hij e.symm)
      simp [hij, this]

theorem classesBy_snoc_new {c : P3 → P3 → Bool} {f : Op → P3} {ps : List P3} {done : List Op} {a : Op}
    (hps : ∀ p ∈ ps, c p (f a) = false) (hdone : ∀ b ∈ done, c (f a) (f b) = false)
    (hself : c (f a) (f a) = true) :
    classesBy c f ps done ++ [[a]] = classesBy c f (ps ++ [f a]) (done ++ [a]) := by
  have h1 : classesBy c f ps (done ++ [a]) = classesBy c f ps done := by
    simp only [classesBy, List.filter_append]
    apply List.map_congr_left
    intro p hp
    simp [hps p hp]
  have h2 : done.filter (fun g => c (f a) (f g)) = [] := by
    rw [List.filter_eq_nil_iff]
    intro b hb
    simp [hdone b hb]
  simp only [classesBy, List.map_append, List.map_cons, List.map_nil, List.filter_append] at h1 ⊢
  rw [h1, h2]
  simp [hself]

/-! ### relations the loop can decide -/

/-- on the images of the site under `ops` the relation `c` is the loop's own test
(`equalPositions`: box distance at most `E`), and it is transitive there -/
structure Closeness (c : P3 → P3 → Bool) (k E : Int) (off x : P3) (ops : List Op) : Prop where
  iff_within : ∀ a ∈ ops, ∀ b ∈ ops, c (img a k off x) (img b k off x) = true ↔
    boxDist (24 * k) (img a k off x) (img b k off x) ≤ E
  trans : ∀ a ∈ ops, ∀ b ∈ ops, ∀ d ∈ ops, c (img a k off x) (img b k off x) = true →
    c (img b k off x) (img d k off x) = true → c (img a k off x) (img d k off x) = true

section closeness
variable {c : P3 → P3 → Bool} {k E : Int} {off x : P3} {ops : List Op}

theorem Closeness.refl (hc : Closeness c k E off x ops) (hk : 0 < k) (hE : 0 < E) {a : Op} (ha : a ∈ ops) :
    c (img a k off x) (img a k off x) = true :=
  (hc.iff_within a ha a ha).2 (by rw [boxDist_self (img_inCell a hk off x)]; exact hE.le)

theorem Closeness.symm (hc : Closeness c k E off x ops) (hk : 0 < k) {a b : Op} (ha : a ∈ ops) (hb : b ∈ ops)
    (h : c (img a k off x) (img b k off x) = true) : c (img b k off x) (img a k off x) = true :=
  (hc.iff_within b hb a ha).2 (by
    rw [boxDist_comm (by omega)]; exact (hc.iff_within a ha b hb).1 h)

theorem Closeness.of_bucket_eq (hc : Closeness c k E off x ops) (hk : 0 < k) (hE : 0 < E) {a b : Op}
    (ha : a ∈ ops) (hb : b ∈ ops) (h : bucket E (img a k off x) = bucket E (img b k off x)) :
    c (img a k off x) (img b k off x) = true :=
  (hc.iff_within a ha b hb).2 (boxDist_lt_of_bucket_eq (by omega) hE h).le

end closeness

/-! ### the loop invariant -/

/-- invariant of the loop of `expandPosition` after the operations `done`, for a relation `c`:
* `pos`  — the listed positions are the first image of each class of `c` met so far;
* `keys_sound` — every registered bucket is the bucket of an image met so far;
* `keys_complete` — the bucket of every image met so far is registered and maps to the index of a
  listed position related to that image (the representative of its class);
* `cls` — `classes[i]` are the operations of `done` whose image is related to `positions[i]`, in order -/
structure ClassInv (c : P3 → P3 → Bool) (k E : Int) (off x : P3) (done : List Op) (s : St) : Prop where
  pos : s.positions = dedupBy c (done.map (fun g => img g k off x))
  keys_sound : ∀ b i, lookupKey s.keymap b = some i → ∃ g ∈ done, bucket E (img g k off x) = b
  keys_complete : ∀ g ∈ done, ∃ i p, s.positions[i]? = some p ∧
    lookupKey s.keymap (bucket E (img g k off x)) = some i ∧ c p (img g k off x) = true
  cls : s.classes = classesBy c (fun g => img g k off x) s.positions done

theorem classInv_init (c : P3 → P3 → Bool) (k E : Int) (off x : P3) :
    ClassInv c k E off x [] { positions := [], keymap := [], classes := [] } :=
  ⟨by simp [dedupBy], (by intro b i h; simp [lookupKey] at h), (by intro g hg; cases hg), by simp [classesBy]⟩

section step
variable {c : P3 → P3 → Bool} {k E : Int} {off x : P3} {ops done : List Op} {s : St}

theorem ClassInv.mem_positions (hinv : ClassInv c k E off x done s) {p : P3} (hp : p ∈ s.positions) :
    ∃ h ∈ done, img h k off x = p := by
  rw [hinv.pos] at hp
  exact List.mem_map.1 (mem_of_mem_dedupBy hp)

theorem ClassInv.index_unique (hc : Closeness c k E off x ops) (hk : 0 < k) (hsub : done ⊆ ops)
    (hinv : ClassInv c k E off x done s) {i j : Nat}
    (hi : i < s.positions.length) (hj : j < s.positions.length)
    (h : c s.positions[i] s.positions[j] = true) : i = j := by
  have hP := pairwise_dedupBy c (done.map (fun g => img g k off x))
  rw [← hinv.pos, List.pairwise_iff_getElem] at hP
  rcases Nat.lt_trichotomy i j with hlt | heq | hgt
  · have := hP i j hi hj hlt
    rw [h] at this; cases this
  · exact heq
  · have := hP j i hj hi hgt
    obtain ⟨a, ha, ea⟩ := hinv.mem_positions (List.getElem_mem hi)
    obtain ⟨b, hb, eb⟩ := hinv.mem_positions (List.getElem_mem hj)
    rw [← ea, ← eb] at h this
    rw [hc.symm hk (hsub ha) (hsub hb) h] at this; cases this

theorem ClassInv.class_unique (hc : Closeness c k E off x ops) (hk : 0 < k) (hsub : done ⊆ ops)
    (hinv : ClassInv c k E off x done s) {a : Op} (ha : a ∈ ops) {i j : Nat} {p q : P3}
    (hp : s.positions[i]? = some p) (hq : s.positions[j]? = some q)
    (hpa : c p (img a k off x) = true) (hqa : c q (img a k off x) = true) : i = j := by
  obtain ⟨hi, rfl⟩ := List.getElem?_eq_some_iff.1 hp
  obtain ⟨hj, rfl⟩ := List.getElem?_eq_some_iff.1 hq
  obtain ⟨b, hb, eb⟩ := hinv.mem_positions (List.getElem_mem hi)
  obtain ⟨d, hd, ed⟩ := hinv.mem_positions (List.getElem_mem hj)
  apply hinv.index_unique hc hk hsub hi hj
  rw [← eb] at hpa ⊢
  rw [← ed] at hqa ⊢
  exact hc.trans b (hsub hb) a ha d (hsub hd) hpa (hc.symm hk (hsub hd) ha hqa)

/-- the step that attributes the new operation to the existing class `i` (bucket hit, or a new
bucket aliased to a listed position): the invariant is preserved for any bucket table `km'` that
extends the old one by at most the bucket of the new image and sends that bucket to `i` -/
theorem classInv_attach (hc : Closeness c k E off x ops) (hk : 0 < k) (hsub : done ⊆ ops)
    (hinv : ClassInv c k E off x done s) {a : Op} (ha : a ∈ ops) {i : Nat} {p : P3} {km' : List (P3 × Nat)}
    (hp : s.positions[i]? = some p) (hpa : c p (img a k off x) = true)
    (hold : ∀ b j, lookupKey s.keymap b = some j → lookupKey km' b = some j)
    (hnew : ∀ b j, lookupKey km' b = some j → lookupKey s.keymap b = some j ∨ b = bucket E (img a k off x))
    (hia : lookupKey km' (bucket E (img a k off x)) = some i) :
    ClassInv c k E off x (done ++ [a])
      { positions := s.positions, keymap := km', classes := addToClass s.classes i a } := by
  obtain ⟨hi, hpi⟩ := List.getElem?_eq_some_iff.1 hp
  refine ⟨?_, ?_, ?_, ?_⟩
  · show s.positions = _
    rw [List.map_append, List.map_singleton, dedupBy_append, if_pos, ← hinv.pos]
    obtain ⟨h, hh, eh⟩ := hinv.mem_positions (hpi ▸ List.getElem_mem hi)
    rw [List.any_eq_true]
    exact ⟨p, List.mem_map.2 ⟨h, hh, eh⟩, hpa⟩
  · intro b j hb
    rcases hnew b j hb with h | h
    · obtain ⟨g, hg, e⟩ := hinv.keys_sound b j h
      exact ⟨g, List.mem_append_left _ hg, e⟩
    · exact ⟨a, by simp, h.symm⟩
  · intro g hg
    rcases List.mem_append.1 hg with h | h
    · obtain ⟨j, q, h1, h2, h3⟩ := hinv.keys_complete g h
      exact ⟨j, q, h1, hold _ _ h2, h3⟩
    · simp only [List.mem_singleton] at h
      subst h
      exact ⟨i, p, hp, hia, hpa⟩
  · show addToClass s.classes i a = _
    rw [hinv.cls]
    apply classesBy_snoc_mem hi (by rw [hpi]; exact hpa)
    intro j hj hji
    cases hcj : c s.positions[j] (img a k off x) with
    | false => rfl
    | true =>
      exact absurd (hinv.class_unique hc hk hsub ha (List.getElem?_eq_getElem hj) hp hcj hpa) hji

theorem ClassInv.no_close_done (hc : Closeness c k E off x ops) (hsub : done ⊆ ops)
    (hinv : ClassInv c k E off x done s) {a : Op} (ha : a ∈ ops)
    (hnone : ∀ p ∈ s.positions, c p (img a k off x) = false) :
    ∀ g ∈ done, c (img g k off x) (img a k off x) = false := by
  intro g hg
  cases hcg : c (img g k off x) (img a k off x) with
  | false => rfl
  | true =>
    obtain ⟨i, p, h1, _, h3⟩ := hinv.keys_complete g hg
    obtain ⟨hi, hpi⟩ := List.getElem?_eq_some_iff.1 h1
    have hpm : p ∈ s.positions := hpi ▸ List.getElem_mem hi
    obtain ⟨h, hh, eh⟩ := hinv.mem_positions hpm
    have := hnone p hpm
    rw [← eh] at this h3
    rw [hc.trans h (hsub hh) g (hsub hg) a ha h3 hcg] at this
    cases this

theorem classInv_new (hc : Closeness c k E off x ops) (hk : 0 < k) (hE : 0 < E) (hsub : done ⊆ ops)
    (hinv : ClassInv c k E off x done s) {a : Op} (ha : a ∈ ops)
    (hlook : lookupKey s.keymap (bucket E (img a k off x)) = none)
    (hnone : ∀ p ∈ s.positions, c p (img a k off x) = false) :
    ClassInv c k E off x (done ++ [a])
      { positions := s.positions ++ [img a k off x],
        keymap := s.keymap ++ [(bucket E (img a k off x), s.positions.length)],
        classes := s.classes ++ [[a]] } := by
  have hdone := hinv.no_close_done hc hsub ha hnone
  refine ⟨?_, ?_, ?_, ?_⟩
  · show s.positions ++ _ = _
    rw [List.map_append, List.map_singleton, dedupBy_append, if_neg, ← hinv.pos]
    rw [List.any_eq_true]
    rintro ⟨q, hq, hqa⟩
    obtain ⟨g, hg, rfl⟩ := List.mem_map.1 hq
    rw [hdone g hg] at hqa; cases hqa
  · intro b j hb
    simp only [lookupKey_append] at hb
    cases h : lookupKey s.keymap b with
    | some j' =>
      obtain ⟨g, hg, e⟩ := hinv.keys_sound b j' h
      exact ⟨g, List.mem_append_left _ hg, e⟩
    | none =>
      rw [h] at hb
      by_cases e : bucket E (img a k off x) = b
      · exact ⟨a, by simp, e⟩
      · simp [e] at hb
  · intro g hg
    rcases List.mem_append.1 hg with h | h
    · obtain ⟨j, q, h1, h2, h3⟩ := hinv.keys_complete g h
      obtain ⟨hj, _⟩ := List.getElem?_eq_some_iff.1 h1
      refine ⟨j, q, ?_, ?_, h3⟩
      · show (s.positions ++ _)[j]? = _
        rw [List.getElem?_append_left hj]; exact h1
      · show lookupKey (s.keymap ++ _) _ = _
        rw [lookupKey_append, h2]
    · simp only [List.mem_singleton] at h
      subst h
      refine ⟨s.positions.length, img g k off x, ?_, ?_, hc.refl hk hE ha⟩
      · show (s.positions ++ _)[_]? = _
        simp
      · show lookupKey (s.keymap ++ _) _ = _
        rw [lookupKey_append, hlook]; simp
  · show s.classes ++ [[a]] = _
    rw [hinv.cls]
    apply classesBy_snoc_new hnone
    · intro b hb
      cases hab : c (img a k off x) (img b k off x) with
      | false => rfl
      | true =>
        have := hdone b hb
        rw [hc.symm hk ha (hsub hb) hab] at this; cases this
    · exact hc.refl hk hE ha

theorem ClassInv.empty_of_positions_nil (hinv : ClassInv c k E off x done s) (h : s.positions = []) :
    done = [] ∧ s.keymap = [] ∧ s.classes = [] := by
  have hd : done = [] := by
    cases hdn : done with
    | nil => rfl
    | cons g gs =>
      obtain ⟨i, p, h1, _, _⟩ := hinv.keys_complete g (by rw [hdn]; exact List.mem_cons_self)
      rw [h] at h1; simp at h1
  refine ⟨hd, ?_, ?_⟩
  · cases hkm : s.keymap with
    | nil => rfl
    | cons e m =>
      obtain ⟨g, hg, _⟩ := hinv.keys_sound e.1 e.2 (by simp [lookupKey, hkm])
      rw [hd] at hg; cases hg
  · rw [hinv.cls, h]; rfl

theorem classInv_step (hc : Closeness c k E off x ops) (hk : 0 < k) (hE : 0 < E) (hsub : done ⊆ ops)
    {a : Op} (ha : a ∈ ops) (hinv : ClassInv c k E off x done s) :
    ClassInv c k E off x (done ++ [a]) (stepOp k E off x s a) := by
  cases hlook : lookupKey s.keymap (bucket E (img a k off x)) with
  | some i =>
    -- bucket hit: the registered image in that bucket is related to the new one
    rw [stepOp_known hlook]
    obtain ⟨g, hg, eg⟩ := hinv.keys_sound _ _ hlook
    obtain ⟨i', p, h1, h2, h3⟩ := hinv.keys_complete g hg
    rw [eg, hlook] at h2
    obtain rfl : i = i' := by simpa using h2
    obtain ⟨hi, hpi⟩ := List.getElem?_eq_some_iff.1 h1
    obtain ⟨h, hh, eh⟩ := hinv.mem_positions (hpi ▸ List.getElem_mem hi)
    have hpa : c p (img a k off x) = true := by
      rw [← eh] at h3 ⊢
      exact hc.trans h (hsub hh) g (hsub hg) a ha h3 (hc.of_bucket_eq hk hE (hsub hg) ha eg)
    exact classInv_attach hc hk hsub hinv ha h1 hpa (fun _ _ h => h) (fun _ _ h => Or.inl h) hlook
  | none =>
    by_cases hempty : s.positions = []
    · -- very first operation
      obtain ⟨_, hkm, hcl⟩ := hinv.empty_of_positions_nil hempty
      have := classInv_new hc hk hE hsub hinv ha hlook (by rw [hempty]; intro p hp; cases hp)
      rw [hempty, hkm, hcl] at this
      rw [stepOp_first hlook hempty]
      exact this
    · have hj := nearestIdx_lt (24 * k) s.positions (img a k off x) hempty
      have hnear : s.positions.getD (nearestIdx (24 * k) s.positions (img a k off x)) (img a k off x)
          = s.positions[nearestIdx (24 * k) s.positions (img a k off x)] :=
        List.getD_eq_getElem (l := s.positions) (d := img a k off x) hj
      have hmin := nearestIdx_min (24 * k) s.positions (img a k off x)
      rw [hnear] at hmin
      obtain ⟨h, hh, eh⟩ := hinv.mem_positions (List.getElem_mem hj)
      have hiff := hc.iff_within h (hsub hh) a ha
      rw [eh] at hiff
      by_cases hwithin : boxDist (24 * k) s.positions[nearestIdx (24 * k) s.positions (img a k off x)]
          (img a k off x) ≤ E
      · -- the loop's test succeeds: the nearest listed position is related to the new image;
        -- its bucket is registered under its own index
        obtain ⟨i', p, h1, h2, h3⟩ := hinv.keys_complete h hh
        obtain ⟨hi', hpi'⟩ := List.getElem?_eq_some_iff.1 h1
        have hii : i' = nearestIdx (24 * k) s.positions (img a k off x) := by
          apply hinv.index_unique hc hk hsub hi' hj
          rw [hpi', ← eh]; exact h3
        rw [eh, hii] at h2
        rw [stepOp_alias hlook hempty (by rw [hnear]; exact hwithin) (by rw [hnear]; exact h2)]
        refine classInv_attach hc hk hsub hinv ha (List.getElem?_eq_getElem hj) (hiff.2 hwithin) ?_ ?_ ?_
        · intro b j hb; rw [lookupKey_append, hb]
        · intro b j hb
          rw [lookupKey_append] at hb
          cases hcb : lookupKey s.keymap b with
          | some j' => rw [hcb] at hb; exact Or.inl hb
          | none =>
            rw [hcb] at hb
            by_cases e : bucket E (img a k off x) = b
            · exact Or.inr e.symm
            · simp [e] at hb
        · rw [lookupKey_append, hlook]; simp
      · -- the test fails for the nearest listed position, hence for every listed position
        have hnone : ∀ p ∈ s.positions, c p (img a k off x) = false := by
          intro p hp
          cases hcp : c p (img a k off x) with
          | false => rfl
          | true =>
            obtain ⟨g, hg, eg⟩ := hinv.mem_positions hp
            rw [← eg] at hcp
            have := (hc.iff_within g (hsub hg) a ha).1 hcp
            rw [eg] at this
            exact absurd ((hmin p hp).trans this) hwithin
        rw [stepOp_new hlook hempty (by rw [hnear]; exact hwithin)]
        exact classInv_new hc hk hE hsub hinv ha hlook hnone

end step

theorem classInv_foldl {c : P3 → P3 → Bool} {k E : Int} {off x : P3} {ops : List Op}
    (hc : Closeness c k E off x ops) (hk : 0 < k) (hE : 0 < E) :
    ∀ (rest done : List Op) (s : St), done ++ rest ⊆ ops → ClassInv c k E off x done s →
      ClassInv c k E off x (done ++ rest) (rest.foldl (stepOp k E off x) s)
  | [], done, s, _, h => by simpa using h
  | a :: rest, done, s, hsub, h => by
    have hstep := classInv_step hc hk hE (fun g hg => hsub (List.mem_append_left _ hg))
      (hsub (List.mem_append_right _ List.mem_cons_self)) h
    have := classInv_foldl hc hk hE rest (done ++ [a]) _ (by simpa using hsub) hstep
    simpa using this

theorem expand_classInv {c : P3 → P3 → Bool} {k E : Int} {off x : P3} {ops : List Op}
    (hc : Closeness c k E off x ops) (hk : 0 < k) (hE : 0 < E) :
    ClassInv c k E off x ops (expand ops k E off x) := by
  have := classInv_foldl hc hk hE ops [] _ (by simp) (classInv_init c k E off x)
  simpa [expand] using this

/-- **what `expandPosition` returns**: the first image (in table order) of every class of `c`, for
each of them the operations whose image is related to it, and the number of classes -/
theorem result_classes {c : P3 → P3 → Bool} {k E : Int} {off x : P3} {ops : List Op}
    (hc : Closeness c k E off x ops) (hk : 0 < k) (hE : 0 < E) :
    result ops k E off x =
      (dedupBy c (ops.map (fun g => img g k off x)),
       (dedupBy c (ops.map (fun g => img g k off x))).map
          (fun p => ops.filter (fun g => c p (img g k off x))),
       (dedupBy c (ops.map (fun g => img g k off x))).length) := by
  have hinv := expand_classInv hc hk hE
  set s := expand ops k E off x with hs
  simp only [result, ← hs, ← hinv.pos, Prod.mk.injEq, true_and, and_true]
  apply List.ext_getElem
  · simp
  · intro i h1 h2
    have hi : i < s.positions.length := by simpa using h1
    simp only [List.getElem_map]
    have hlook : lookupKey s.keymap (bucket E s.positions[i]) = some i := by
      obtain ⟨h, hh, eh⟩ := hinv.mem_positions (List.getElem_mem hi)
      obtain ⟨i', p, a1, a2, a3⟩ := hinv.keys_complete h hh
      obtain ⟨hi', hpi'⟩ := List.getElem?_eq_some_iff.1 a1
      have : i' = i := by
        apply hinv.index_unique hc hk (fun _ h => h) hi' hi
        rw [hpi', ← eh]; exact a3
      rw [eh, this] at a2
      exact a2
    rw [hlook]
    simp only [hinv.cls, classesBy]
    rw [List.getD_eq_getElem
      (l := List.map (fun p => List.filter (fun g => c p (img g k off x)) ops) s.positions)
      (d := ([] : List Op)) (by simpa using hi)]
    simp

/-- the input site (reduced into the cell) is listed first when the identity is the first operation -/
theorem result_head {c : P3 → P3 → Bool} {k E : Int} {off x : P3} {ops : List Op}
    (hc : Closeness c k E off x ops) (hk : 0 < k) (hE : 0 < E) (h1 : ops.head? = some Op.one) :
    (result ops k E off x).1.head? = some (red k x) := by
  rw [result_classes hc hk hE, head?_dedupBy, List.head?_map, h1, Option.map_some, img_one]

/-- **every operation occurs in exactly one class**: the class of the listed position its image is
related to -/
theorem result_attribution {c : P3 → P3 → Bool} {k E : Int} {off x : P3} {ops : List Op}
    (hc : Closeness c k E off x ops) (hk : 0 < k) (hE : 0 < E) (g : Op) (hg : g ∈ ops) :
    ∃ i, ∃ (hi : i < (result ops k E off x).1.length),
      c (result ops k E off x).1[i] (img g k off x) = true ∧
      g ∈ (result ops k E off x).2.1.getD i [] ∧
      ∀ j (_ : j < (result ops k E off x).1.length), g ∈ (result ops k E off x).2.1.getD j [] → j = i := by
  have hinv := expand_classInv hc hk hE
  have hpos := hinv.pos
  obtain ⟨i, p, a1, _, a3⟩ := hinv.keys_complete g hg
  rw [result_classes hc hk hE]
  rw [hpos] at a1
  obtain ⟨hi, hpi⟩ := List.getElem?_eq_some_iff.1 a1
  refine ⟨i, hi, by rw [hpi]; exact a3, ?_, ?_⟩
  · rw [List.getD_eq_getElem (l := (dedupBy c _).map _) (d := ([] : List Op)) (by simpa using hi)]
    simp [hpi, hg, a3]
  · intro j hj hgj
    rw [List.getD_eq_getElem (l := (dedupBy c _).map _) (d := ([] : List Op)) (by simpa using hj)] at hgj
    simp only [List.getElem_map, List.mem_filter] at hgj
    exact hinv.class_unique hc hk (fun _ h => h) hg (by rw [hpos]; exact List.getElem?_eq_getElem hj)
      (by rw [hpos]; exact a1) hgj.2 a3

/-! ### separated images: the classes are the fibres of `g ↦ g·x` -/

/-- for separated images the loop's test decides equality -/
theorem closeness_of_sep {k E : Int} (hk : 0 < k) (hE : 0 < E) {off x : P3} {ops : List Op}
    (hsep : Sep ops k E off x) : Closeness (fun p q => p == q) k E off x ops where
  iff_within a ha b hb := by
    rw [beq_iff_eq]
    constructor
    · intro e
      rw [e, boxDist_self (img_inCell b hk off x)]; exact hE.le
    · intro hle
      rcases hsep a ha b hb with e | far
      · exact e
      · omega
  trans _ _ _ _ _ _ h1 h2 := by
    rw [beq_iff_eq] at h1 h2 ⊢
    exact h1.trans h2

/-- **`expandPosition` returns the exact orbit**: the positions are the distinct images in
first-occurrence order, the operation lists are the fibres of `g ↦ g·x`, the multiplicity is the
number of distinct images. -/
theorem result_exact {k E : Int} (hk : 0 < k) (hE : 0 < E) {off x : P3} {ops : List Op}
    (hsep : Sep ops k E off x) :
    result ops k E off x =
      (dedupFirst (ops.map (fun g => img g k off x)),
       (dedupFirst (ops.map (fun g => img g k off x))).map
          (fun p => ops.filter (fun g => decide (img g k off x = p))),
       (dedupFirst (ops.map (fun g => img g k off x))).length) := by
  rw [result_classes (closeness_of_sep hk hE hsep) hk hE, ← dedupFirst_eq_dedupBy]
  have : ∀ p q : P3, (p == q) = decide (q = p) := fun p q => by
    rw [Bool.beq_comm, beq_eq_decide]
  simp only [this]

end Orbit
end DS

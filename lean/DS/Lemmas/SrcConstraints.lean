import DS.Model.ConReal
import DS.Model.Constraints
import DS.Model.Partition
import DS.Lemmas.SrcSym
import DS.Lemmas.Partition
import DS.Lemmas.Dec
import Mathlib.Data.Rat.Floor
import Mathlib.Tactic.Ring
import Mathlib.Tactic.Linarith
import Mathlib.Tactic.NormNum
import Mathlib.Tactic.NormNum.OfScientific

/-!
Lemmas for the source tie of the constraint code (`DS/Props/SrcConstraints.lean`).  Nothing here mentions the transliteration
`DS.Src.Constraints`, so this file does not change when the source does: facts about the Python/numpy primitives of
`DS/Model/ConReal.lean` (loops, lists, dictionaries, the set of independent indices, `re.sub`) and about model functions
of `DS/Model/Constraints.lean` / `Partition.lean`.
-/
namespace DS.ConTie
open DS
set_option linter.unusedSectionVars false
set_option linter.unusedVariables false

/-! ### Python loops, lists -/
section py
variable {β σ κ : Type}

@[simp] theorem forM_nil (s : σ) (body : σ → β → Option σ) : Py.forM [] s body = some s := rfl

@[simp] theorem forM_cons (x : β) (xs : List β) (s : σ) (body : σ → β → Option σ) :
    Py.forM (x :: xs) s body = (body s x).bind fun s' => Py.forM xs s' body := by
  simp [Py.forM, List.foldlM_cons]

theorem forM_append (xs ys : List β) (s : σ) (body : σ → β → Option σ) :
    Py.forM (xs ++ ys) s body = (Py.forM xs s body).bind fun s' => Py.forM ys s' body := by
  induction xs generalizing s with
  | nil => simp
  | cons x xs ih =>
    simp only [List.cons_append, forM_cons]
    cases body s x with
    | none => rfl
    | some s' => simp [ih]

theorem forM_total (l : List β) (s : σ) (body : σ → β → Option σ) (f : σ → β → σ) (h : ∀ s x, body s x = some (f s x)) :
    Py.forM l s body = some (l.foldl f s) := by
  induction l generalizing s with
  | nil => rfl
  | cons x xs ih => simp [h, ih]

theorem forM_congr (l : List β) (s : σ) (f g : σ → β → Option σ) (h : ∀ x ∈ l, ∀ s, f s x = g s x) :
    Py.forM l s f = Py.forM l s g := by
  induction l generalizing s with
  | nil => rfl
  | cons x xs ih =>
    rw [forM_cons, forM_cons, h x (List.mem_cons_self ..)]
    cases g s x with
    | none => rfl
    | some s' => exact ih s' (fun y hy => h y (List.mem_cons_of_mem _ hy))

theorem forM_map {γ : Type} (g : γ → β) (l : List γ) (s : σ) (body : σ → β → Option σ) :
    Py.forM (l.map g) s body = Py.forM l s (fun s x => body s (g x)) :=
  List.foldlM_map

/-- `for i in range(len(L)): x = L[i]; …` is `for x in L: …` -/
theorem forM_range_getElem (L : List β) (s : σ) (f : σ → β → Option σ) :
    Py.forM (List.range L.length) s (fun s i => (L[i]?).bind (f s)) = Py.forM L s f := by
  induction L using List.reverseRecOn generalizing s with
  | nil => rfl
  | append_singleton L x ih =>
    rw [List.length_append, List.length_singleton, List.range_succ, forM_append, forM_append]
    have h1 : Py.forM (List.range L.length) s (fun s i => ((L ++ [x])[i]?).bind (f s)) =
        Py.forM (List.range L.length) s (fun s i => (L[i]?).bind (f s)) := by
      apply forM_congr
      intro i hi s
      rw [List.getElem?_append_left (List.mem_range.1 hi)]
    rw [h1, ih]
    cases Py.forM L s f with
    | none => rfl
    | some s' => simp

theorem forM_accum {ι γ : Type} (mk : (ι → List γ) → σ) (g : β → ι → List γ) (body : σ → β → Option σ) :
    ∀ (l : List β) (F : ι → List γ), (∀ e ∈ l, ∀ F, body (mk F) e = some (mk fun i => F i ++ g e i)) →
      Py.forM l (mk F) body = some (mk fun i => F i ++ l.flatMap fun e => g e i)
  | [], F, _ => by simp
  | e :: l, F, h => by
    rw [forM_cons, h e (List.mem_cons_self ..), Option.bind_some,
      forM_accum mk g body l _ (fun e' he' => h e' (List.mem_cons_of_mem _ he'))]
    simp only [List.flatMap_cons, List.append_assoc]

/-- `for i in range(3): fs[i] += g(i, fs[i])` on a list of three strings -/
theorem forM_range3 {γ : Type} (body : List (List γ) → Nat → Option (List (List γ))) (g : Nat → List γ → List γ)
    (h : ∀ (fs : List (List γ)) (i : Nat) (hi : i < 3) (hl : fs.length = 3),
      body fs i = some (fs.set i (fs[i]'(hl ▸ hi) ++ g i (fs[i]'(hl ▸ hi))))) (a0 a1 a2 : List γ) :
    Py.forM (List.range 3) [a0, a1, a2] body = some [a0 ++ g 0 a0, a1 ++ g 1 a1, a2 ++ g 2 a2] := by
  rw [show List.range 3 = [0, 1, 2] from rfl,
    forM_cons, h _ 0 (by decide) rfl, Option.bind_some,
    forM_cons, h _ 1 (by decide) rfl, Option.bind_some,
    forM_cons, h _ 2 (by decide) rfl, Option.bind_some, forM_nil]
  rfl

@[simp] theorem forBreak_nil (s : σ) (body : σ → β → σ × Bool) : Py.forBreak [] s body = s := rfl

theorem forBreak_cons (x : β) (xs : List β) (s : σ) (body : σ → β → σ × Bool) :
    Py.forBreak (x :: xs) s body = if (body s x).2 then (body s x).1 else Py.forBreak xs (body s x).1 body := rfl

theorem getIdx_zero (l : List β) : Py.getIdx l (0 : Int) = l.head? := by
  cases l <;> simp [Py.getIdx]

theorem getIdx_nat (l : List β) (i : Nat) : Py.getIdx l (Int.ofNat i) = l[i]? := by
  simp [Py.getIdx]

theorem listSet_eq (l : List β) (i : Nat) (v : β) (h : i < l.length) : Py.listSet l i v = some (l.set i v) := by
  simp [Py.listSet, h]

theorem mapOpt_total {γ : Type} (f : β → Option γ) (g : β → γ) (l : List β) (h : ∀ x ∈ l, f x = some (g x)) :
    Py.mapOpt f l = some (l.map g) := by
  induction l with
  | nil => rfl
  | cons x xs ih =>
    rw [Py.mapOpt, h x (List.mem_cons_self ..), ih (fun y hy => h y (List.mem_cons_of_mem _ hy))]
    rfl

theorem mapOpt_cons_eq_some {γ : Type} {f : β → Option γ} {x : β} {xs : List β} {r : List γ} :
    Py.mapOpt f (x :: xs) = some r ↔ ∃ y ys, f x = some y ∧ Py.mapOpt f xs = some ys ∧ y :: ys = r := by
  simp only [Py.mapOpt, Option.bind_eq_some_iff, Option.some.injEq]
  exact ⟨fun ⟨y, hy, ys, hys, e⟩ => ⟨y, ys, hy, hys, e⟩, fun ⟨y, ys, hy, hys, e⟩ => ⟨y, hy, ys, hys, e⟩⟩

theorem mapOpt_length {γ : Type} (f : β → Option γ) : ∀ (l : List β) (r : List γ), Py.mapOpt f l = some r → r.length = l.length
  | [], r, h => by cases h; rfl
  | x :: xs, r, h => by
    obtain ⟨y, ys, -, hxs, rfl⟩ := mapOpt_cons_eq_some.1 h
    rw [List.length_cons, List.length_cons, mapOpt_length f xs ys hxs]

theorem mapOpt_mem {γ : Type} (f : β → Option γ) : ∀ (l : List β) (r : List γ), Py.mapOpt f l = some r →
    ∀ y ∈ r, ∃ x ∈ l, f x = some y
  | [], r, h, y, hy => by cases h; cases hy
  | x :: xs, r, h, y, hy => by
    obtain ⟨z, zs, hx, hxs, rfl⟩ := mapOpt_cons_eq_some.1 h
    rcases List.mem_cons.1 hy with rfl | hy'
    · exact ⟨x, List.mem_cons_self .., hx⟩
    · obtain ⟨x', hx', e⟩ := mapOpt_mem f xs zs hxs y hy'
      exact ⟨x', List.mem_cons_of_mem _ hx', e⟩

theorem mapOpt_some_of_all {γ : Type} (f : β → Option γ) : ∀ (l : List β), (∀ x ∈ l, (f x).isSome) → ∃ r, Py.mapOpt f l = some r
  | [], _ => ⟨[], rfl⟩
  | x :: xs, h => by
    obtain ⟨y, hy⟩ := Option.isSome_iff_exists.1 (h x (List.mem_cons_self ..))
    obtain ⟨ys, hys⟩ := mapOpt_some_of_all f xs (fun z hz => h z (List.mem_cons_of_mem _ hz))
    exact ⟨y :: ys, mapOpt_cons_eq_some.2 ⟨y, ys, hy, hys, rfl⟩⟩

/-- `for x in l: y = f(x); s = step(s, y)` runs `step` over `mapOpt f l`, and raises when some `f(x)` does -/
theorem forM_bind_mapOpt {γ : Type} (f : β → Option γ) (step : σ → γ → σ) : ∀ (l : List β) (s : σ),
    Py.forM l s (fun s x => (f x).bind fun y => some (step s y)) = (Py.mapOpt f l).map fun ys => ys.foldl step s
  | [], s => rfl
  | x :: l, s => by
    rw [forM_cons, Py.mapOpt]
    cases f x with
    | none => rfl
    | some y =>
      rw [Option.bind_some, Option.bind_some, forM_bind_mapOpt f step l]
      cases Py.mapOpt f l <;> rfl

theorem foldl_append_map {γ δ : Type} (g : γ → δ) : ∀ (ys : List γ) (acc : List δ),
    ys.foldl (fun acc y => acc ++ [g y]) acc = acc ++ ys.map g
  | [], acc => (List.append_nil acc).symm
  | y :: ys, acc => by rw [List.foldl_cons, foldl_append_map g ys, List.append_assoc]; rfl

/-! ### dictionaries (insertion order) -/
variable [BEq κ] [LawfulBEq κ]

theorem dictGet_append_ne (d : List (κ × β)) (k k' : κ) (v : β) (h : k' ≠ k) :
    Py.dictGet (d ++ [(k', v)]) k = Py.dictGet d k := by
  unfold Py.dictGet
  rw [List.find?_append]
  cases hf : d.find? (fun e => e.1 == k) with
  | some e => simp
  | none => simp [h]

theorem dictHas_append_ne (d : List (κ × β)) (k k' : κ) (v : β) (h : k' ≠ k) :
    Py.dictHas (d ++ [(k', v)]) k = Py.dictHas d k := by
  unfold Py.dictHas
  rw [dictGet_append_ne d k k' v h]

theorem index?_of_mem (l : List κ) (x : κ) (h : x ∈ l) : ∃ j, Py.index? l x = some j ∧ j < l.length := by
  have hlt : l.findIdx (fun y => y == x) < l.length := List.findIdx_lt_length_of_exists ⟨x, h, beq_self_eq_true x⟩
  exact ⟨_, if_pos hlt, hlt⟩

theorem dictGet_append_self (d : List (κ × β)) (k : κ) (v : β) (h : Py.dictHas d k = false) :
    Py.dictGet (d ++ [(k, v)]) k = some v := by
  unfold Py.dictHas at h
  unfold Py.dictGet at h ⊢
  rw [List.find?_append]
  cases hf : d.find? (fun e => e.1 == k) with
  | some e => simp [hf] at h
  | none => simp

theorem dictSet_fresh (d : List (κ × β)) (k : κ) (v : β) (h : Py.dictHas d k = false) :
    Py.dictSet d k v = d ++ [(k, v)] := by
  simp [Py.dictSet, h]

theorem mem_of_ite {S : List β} {c : Prop} [Decidable c] {a n : β} {r : Option β} (ha : a ∈ S) (hr : r = some n → n ∈ S)
    (h : (if c then some a else r) = some n) : n ∈ S := by
  split at h
  · cases h; exact ha
  · exact hr h

theorem dictHas_iff_mem_keys (d : List (κ × β)) (k : κ) : Py.dictHas d k = (d.map (·.1)).contains k := by
  unfold Py.dictHas Py.dictGet
  rw [Bool.eq_iff_iff, Option.isSome_map, List.find?_isSome, List.contains_iff_mem, List.mem_map]
  exact ⟨fun ⟨e, he, hk⟩ => ⟨e, he, eq_of_beq hk⟩, fun ⟨e, he, hk⟩ => ⟨e, he, beq_iff_eq.2 hk⟩⟩

theorem dictUpd_last (d : List (κ × β)) (k : κ) (v : β) (f : β → β) (h : Py.dictHas d k = false) :
    Py.dictUpd (d ++ [(k, v)]) k f = some (d ++ [(k, f v)]) := by
  have hk : ∀ e ∈ d, (e.1 == k) = false := by
    intro e he
    rw [dictHas_iff_mem_keys] at h
    by_contra hc
    simp only [Bool.not_eq_false, beq_iff_eq] at hc
    have : k ∈ d.map (·.1) := by rw [← hc]; exact List.mem_map_of_mem he
    simp [this] at h
  unfold Py.dictUpd
  rw [dictGet_append_self d k v h]
  simp only [Option.map_some, Py.dictSet]
  have : Py.dictHas (d ++ [(k, v)]) k = true := by
    unfold Py.dictHas; rw [dictGet_append_self d k v h]; rfl
  rw [if_pos this, List.map_append]
  congr 2
  · rw [List.map_congr_left (g := id)]
    · simp
    · intro e he; simp [hk e he]
  · simp

theorem dictUpd_map (keys : List κ) (F : κ → β) (k : κ) (hk : k ∈ keys) (f : β → β) :
    Py.dictUpd (keys.map fun s => (s, F s)) k f = some (keys.map fun s => (s, if s == k then f (F s) else F s)) := by
  have hget : Py.dictGet (keys.map fun s => (s, F s)) k = some (F k) := by
    induction keys with
    | nil => cases hk
    | cons a keys ih =>
      rw [List.map_cons, Py.dictGet, List.find?_cons]
      by_cases ha : a = k
      · subst ha; simp
      · have hak : (a == k) = false := by simpa using ha
        simp only [hak]
        exact ih ((List.mem_cons.1 hk).resolve_left (Ne.symm ha))
  unfold Py.dictUpd Py.dictSet Py.dictHas
  rw [hget, Option.map_some, Option.isSome_some, if_pos rfl, List.map_map]
  congr 1
  apply List.map_congr_left
  intro s _
  by_cases h : s = k
  · subst h; simp
  · simp [h]

end py

/-! ### the set of independent indices: a sorted list -/

theorem insertNat_of_le_all (x : Nat) (l : List Nat) (h : ∀ y ∈ l, x ≤ y) : Py.insertNat x l = x :: l := by
  cases l with
  | nil => rfl
  | cons y ys => simp [Py.insertNat, h y (List.mem_cons_self ..)]

theorem sortedNat_of_sorted (l : List Nat) (h : l.Pairwise (· ≤ ·)) : Py.sortedNat l = l := by
  induction l with
  | nil => rfl
  | cons x xs ih =>
    rw [List.pairwise_cons] at h
    show Py.insertNat x (Py.sortedNat xs) = x :: xs
    rw [ih h.2, insertNat_of_le_all x xs h.1]

theorem sortedNat_of_lt (l : List Nat) (h : l.Pairwise (· < ·)) : Py.sortedNat l = l :=
  sortedNat_of_sorted l (h.imp Nat.le_of_lt)

theorem setRemove_mem (s : List Nat) (x : Nat) (h : x ∈ s) : Py.setRemove s x = some (s.filter fun y => y != x) := by
  simp [Py.setRemove, h]

/-! ### `numpy.where` -/

/-- `numpy.where(mask)[0]` from index `s` on -/
def whereFrom (s : Nat) (m : List Bool) : List Nat :=
  ((List.range' s m.length).zip m).filterMap fun p => if p.2 then some p.1 else none

theorem whereFrom_cons (s : Nat) (b : Bool) (m : List Bool) :
    whereFrom s (b :: m) = (if b then [s] else []) ++ whereFrom (s + 1) m := by
  unfold whereFrom
  rw [List.length_cons, List.range'_succ, List.zip_cons_cons, List.filterMap_cons]
  cases b <;> simp

theorem whereL_eq (m : List Bool) : Np.whereL m = whereFrom 0 m := by
  unfold Np.whereL whereFrom
  rw [List.range_eq_range']

/-- `for i in numpy.where(flat)[0]: body` runs the body at the indices of the non-zero entries, in order -/
theorem forM_whereNZ {α σ : Type} [DecidableEq α] [OfNat α 0] (f : σ → Nat → Option σ) (flat : List α) (st : σ) :
    Py.forM (Np.whereNZ flat) st f = Py.forM flat.zipIdx st (fun st p => if p.1 = 0 then some st else f st p.2) := by
  have from_ : ∀ (flat : List α) (s : Nat) (st : σ), Py.forM (whereFrom s (flat.map fun x => decide (x ≠ 0))) st f =
      Py.forM (flat.zipIdx s) st (fun st p => if p.1 = 0 then some st else f st p.2) := by
    intro flat
    induction flat with
    | nil => intro s st; rfl
    | cons x flat ih =>
      intro s st
      rw [List.map_cons, whereFrom_cons, forM_append, List.zipIdx_cons, forM_cons]
      by_cases hx : x = 0
      · rw [if_pos hx, decide_eq_false (not_not.2 hx), if_neg Bool.false_ne_true, forM_nil, Option.bind_some, Option.bind_some]
        exact ih (s + 1) st
      · rw [if_neg hx, decide_eq_true hx, if_pos rfl, forM_cons]
        cases f st s with
        | none => rfl
        | some st' => exact ih (s + 1) st'
  rw [Np.whereNZ, whereL_eq]
  exact from_ flat 0 st

/-! ### `dict(zip(keys, values))` with distinct keys -/
section dictzip
variable {κ β : Type} [BEq κ] [LawfulBEq κ]

theorem dictFold_fresh : ∀ (l : List (κ × β)) (d : List (κ × β)), (l.map (·.1)).Nodup →
    (∀ e ∈ l, Py.dictHas d e.1 = false) → l.foldl (fun d e => Py.dictSet d e.1 e.2) d = d ++ l
  | [], d, _, _ => by simp
  | e :: l, d, hnd, hd => by
    rw [List.map_cons, List.nodup_cons] at hnd
    rw [List.foldl_cons, dictSet_fresh d e.1 e.2 (hd e (List.mem_cons_self ..)),
      dictFold_fresh l _ hnd.2, List.append_assoc]
    · rfl
    · intro e' he'
      rw [dictHas_append_ne d e'.1 e.1 e.2 (fun h => hnd.1 (h ▸ List.mem_map_of_mem he'))]
      exact hd e' (List.mem_cons_of_mem _ he')

theorem map_fst_zip_sublist : ∀ (a : List κ) (b : List β), ((a.zip b).map (·.1)).Sublist a
  | [], _ => by simp
  | _ :: _, [] => by simp
  | x :: xs, y :: ys => by
    rw [List.zip_cons_cons, List.map_cons]
    exact (map_fst_zip_sublist xs ys).cons_cons x

theorem dictZip_nodup (a : List κ) (b : List β) (h : a.Nodup) : Py.dictZip a b = a.zip b := by
  unfold Py.dictZip
  rw [dictFold_fresh (a.zip b) [] _ (fun _ _ => rfl), List.nil_append]
  exact (map_fst_zip_sublist a b).nodup h

theorem dictFromKeys_nodup (keys : List κ) (v : β) (h : keys.Nodup) : Py.dictFromKeys keys v = keys.map fun k => (k, v) := by
  have hk : (keys.map fun k => (k, v)).map (·.1) = keys := by rw [List.map_map]; exact List.map_id' keys
  unfold Py.dictFromKeys
  rw [← List.foldl_map (f := fun k => (k, v)) (g := fun d e => Py.dictSet d e.1 e.2),
    dictFold_fresh _ [] (hk.symm ▸ h) (fun _ _ => rfl), List.nil_append]

theorem dictGet_zip (a : List κ) (b : List β) (h : a.Nodup) (i : Nat) (hi : i < a.length) (hb : i < b.length) :
    Py.dictGet (a.zip b) a[i] = some b[i] := by
  induction a generalizing b i with
  | nil => simp at hi
  | cons x xs ih =>
    cases b with
    | nil => simp at hb
    | cons y ys =>
      rw [List.nodup_cons] at h
      cases i with
      | zero => simp [Py.dictGet]
      | succ i =>
        have hi' : i < xs.length := by simpa using hi
        have hne : (x == xs[i]) = false := by
          have : xs[i] ∈ xs := List.getElem_mem _
          have : x ≠ xs[i] := fun e => h.1 (e ▸ this)
          simpa using this
        simp only [List.zip_cons_cons, List.getElem_cons_succ, Py.dictGet, List.find?_cons, hne]
        exact ih ys h.2 i (by simpa using hi) (by simpa using hb)

theorem dictGet_dictZip_isSome (a : List κ) (b : List β) (h : a.Nodup) (hl : a.length ≤ b.length) (c : κ) (hc : c ∈ a) :
    (Py.dictGet (Py.dictZip a b) c).isSome = true := by
  obtain ⟨i, hi, rfl⟩ := List.getElem_of_mem hc
  rw [dictZip_nodup a b h, dictGet_zip a b h i hi (by omega)]
  rfl

end dictzip

/-! ### `re.sub` on printed formula strings -/

/-- pieces of a printed formula string: literal text (numbers, signs, `*`, blanks) and parameter symbols `head ++ str(index)` -/
inductive FTok where
  | lit (s : List Char)
  | sym (head : List Char) (idx : Nat)
deriving DecidableEq, Repr

def FTok.render : FTok → List Char
  | FTok.lit s => s
  | FTok.sym h i => h ++ Py.strNat i

def renderAll (ts : List FTok) : List Char := ts.flatMap FTok.render

/-- the patterns of `positionFormulas` (`m = 0`) and `UFormulas` (`m = 2`): `\b[C]\d{m}\d+` -/
def symPat (C : List Char) (m : Nat) : List RxAtom :=
  RxAtom.wordB :: RxAtom.cls C :: (List.replicate m RxAtom.digit ++ [RxAtom.digits1])

def nonWordPrev (prev : Option Char) : Bool :=
  match prev with
  | some c => !Rx.isWord c
  | none => true

def startsNonDigit (s : List Char) : Bool :=
  match s with
  | c :: _ => !Dec.isDigit c
  | [] => true

/-- well-formed token lists for a class `C` of symbol letters and `m` fixed digits: literal text contains no letter of `C`;
a symbol is `c :: ds ++ str(i)` with `c ∈ C` a word character, `ds` exactly `m` digits; it is preceded by a non-word character
(or the start of the string) and followed by a non-digit (or the end) -/
def WFToks (C : List Char) (m : Nat) : Option Char → List FTok → Prop
  | _, [] => True
  | prev, FTok.lit s :: rest => (∀ c ∈ s, c ∉ C) ∧ WFToks C m (if s = [] then prev else s.getLast?) rest
  | prev, FTok.sym h i :: rest =>
    nonWordPrev prev = true ∧
    (∃ c ds, h = c :: ds ∧ c ∈ C ∧ Rx.isWord c = true ∧ ds.length = m ∧ Dec.allDigits ds = true) ∧
    startsNonDigit (renderAll rest) = true ∧ WFToks C m (h ++ Py.strNat i).getLast? rest

def tokSub (fn : List Char → Option (List Char)) : FTok → Option (List Char)
  | FTok.lit s => some s
  | FTok.sym h i => fn (h ++ Py.strNat i)

theorem takeDigits_all (ds tail : List Char) (hd : Dec.allDigits ds = true) (ht : startsNonDigit tail = true) :
    Rx.takeDigits (ds ++ tail) = (ds, tail) := by
  induction ds with
  | nil =>
    cases tail with
    | nil => rfl
    | cons c cs =>
      simp only [startsNonDigit, Bool.not_eq_true'] at ht
      simp [Rx.takeDigits, ht]
  | cons d ds ih =>
    simp only [Dec.allDigits, List.all_cons, Bool.and_eq_true] at hd
    have := ih (by simpa [Dec.allDigits] using hd.2)
    simp [Rx.takeDigits, hd.1, this]

theorem matchAt_digits (m : Nat) : ∀ (ds digs tail : List Char) (prev : Option Char), ds.length = m → Dec.allDigits ds = true →
    digs ≠ [] → Dec.allDigits digs = true → startsNonDigit tail = true →
    Rx.matchAt (List.replicate m RxAtom.digit ++ [RxAtom.digits1]) prev (ds ++ digs ++ tail) = some (ds ++ digs, tail) := by
  induction m with
  | zero =>
    intro ds digs tail prev hl _ hne hd ht
    have : ds = [] := List.length_eq_zero_iff.1 hl
    subst this
    simp only [List.replicate_zero, List.nil_append, Rx.matchAt, takeDigits_all digs tail hd ht]
    cases digs with
    | nil => exact absurd rfl hne
    | cons _ _ => rfl
  | succ m ih =>
    intro ds digs tail prev hl hds hne hd ht
    cases ds with
    | nil => simp at hl
    | cons d ds =>
      simp only [Dec.allDigits, List.all_cons, Bool.and_eq_true] at hds
      simp only [List.replicate_succ, List.cons_append, Rx.matchAt, hds.1, if_true]
      rw [ih ds digs tail (some d) (by simpa using hl) (by simpa [Dec.allDigits] using hds.2) hne hd ht]
      rfl

theorem strNat_digits (i : Nat) : Py.strNat i ≠ [] ∧ Dec.allDigits (Py.strNat i) = true :=
  ⟨Dec.natDigits_ne_nil i, Dec.allDigits_natDigits i⟩

theorem matchAt_sym (C : List Char) (m : Nat) (prev : Option Char) (c : Char) (ds : List Char) (i : Nat) (tail : List Char)
    (hp : nonWordPrev prev = true) (hc : c ∈ C) (hw : Rx.isWord c = true) (hl : ds.length = m) (hd : Dec.allDigits ds = true)
    (ht : startsNonDigit tail = true) :
    Rx.matchAt (symPat C m) prev ((c :: ds) ++ Py.strNat i ++ tail) = some ((c :: ds) ++ Py.strNat i, tail) := by
  have hcc : C.contains c = true := by simpa using hc
  have hm := matchAt_digits m ds (Py.strNat i) tail (some c) hl hd (strNat_digits i).1 (strNat_digits i).2 ht
  cases prev with
  | none =>
    simp only [symPat, List.cons_append, Rx.matchAt, hw, hcc, if_true, bne_iff_ne, ne_eq, Bool.false_eq_true,
      not_false_eq_true, hm, Option.map_some]
  | some p =>
    have hpw : Rx.isWord p = false := by simpa [nonWordPrev] using hp
    simp only [symPat, List.cons_append, Rx.matchAt, hw, hcc, hpw, if_true, bne_iff_ne, ne_eq, Bool.false_eq_true,
      not_false_eq_true, hm, Option.map_some]

theorem matchAt_nonletter (C : List Char) (m : Nat) (prev : Option Char) (c : Char) (cs : List Char) (hc : c ∉ C) :
    Rx.matchAt (symPat C m) prev (c :: cs) = none := by
  have hcc : C.contains c = false := by simpa using hc
  simp only [symPat, Rx.matchAt, hcc, Bool.false_eq_true, if_false]
  simp

theorem subAux_lit (C : List Char) (m : Nat) (fn : List Char → Option (List Char)) :
    ∀ (s tail : List Char) (fuel : Nat) (prev : Option Char), (∀ c ∈ s, c ∉ C) → s.length ≤ fuel →
      Rx.subAux (symPat C m) fn fuel prev (s ++ tail) =
        (Rx.subAux (symPat C m) fn (fuel - s.length) (if s = [] then prev else s.getLast?) tail).map fun r => s ++ r
  | [], tail, fuel, prev, _, _ => by simp
  | c :: s, tail, fuel, prev, h, hf => by
    cases fuel with
    | zero => simp at hf
    | succ fuel =>
      simp only [List.cons_append, Rx.subAux, matchAt_nonletter C m prev c (s ++ tail) (h c (List.mem_cons_self ..))]
      rw [subAux_lit C m fn s tail fuel (some c) (fun d hd => h d (List.mem_cons_of_mem _ hd)) (by simpa using hf)]
      have e1 : fuel + 1 - (c :: s).length = fuel - s.length := by simp
      have e2 : (if s = [] then some c else s.getLast?) = (c :: s).getLast? := by
        cases s with
        | nil => rfl
        | cons d s => simp [List.getLast?_cons_cons]
      rw [e1, if_neg (List.cons_ne_nil c s), ← e2]
      cases Rx.subAux (symPat C m) fn (fuel - s.length) (if s = [] then some c else s.getLast?) tail <;> rfl

theorem renderAll_cons (t : FTok) (ts : List FTok) : renderAll (t :: ts) = t.render ++ renderAll ts := by
  simp [renderAll]

/-- **`re.sub` on a well-formed token list** replaces every symbol token by `fn(symbol)` and copies the literal text -/
theorem subAux_tokens (C : List Char) (m : Nat) (fn : List Char → Option (List Char)) :
    ∀ (ts : List FTok) (fuel : Nat) (prev : Option Char), WFToks C m prev ts → (renderAll ts).length < fuel →
      Rx.subAux (symPat C m) fn fuel prev (renderAll ts) = (Py.mapOpt (tokSub fn) ts).map List.flatten
  | [], fuel, prev, _, hf => by
    cases fuel with
    | zero => simp at hf
    | succ fuel => rfl
  | FTok.lit s :: rest, fuel, prev, hwf, hf => by
    obtain ⟨hs, hrest⟩ := hwf
    rw [renderAll_cons] at hf ⊢
    simp only [FTok.render, List.length_append] at hf
    rw [FTok.render, subAux_lit C m fn s _ fuel prev hs (by omega),
      subAux_tokens C m fn rest _ _ hrest (by omega), Py.mapOpt]
    simp only [tokSub, Option.bind_some]
    cases Py.mapOpt (tokSub fn) rest <;> simp
  | FTok.sym h i :: rest, fuel, prev, hwf, hf => by
    obtain ⟨hp, ⟨c, ds, rfl, hc, hw, hl, hd⟩, hnd, hrest⟩ := hwf
    rw [renderAll_cons] at hf ⊢
    simp only [FTok.render, List.length_append] at hf
    cases fuel with
    | zero => simp at hf
    | succ fuel =>
      have hm := matchAt_sym C m prev c ds i (renderAll rest) hp hc hw hl hd hnd
      simp only [FTok.render, List.cons_append, List.append_assoc] at hm ⊢
      simp only [Rx.subAux, hm]
      have hne : ((c :: (ds ++ Py.strNat i)).isEmpty) = false := rfl
      simp only [hne, Bool.false_eq_true, if_false, Py.mapOpt, tokSub, List.cons_append]
      cases fn (c :: (ds ++ Py.strNat i)) with
      | none => rfl
      | some rep =>
        simp only [Option.bind_some]
        rw [subAux_tokens C m fn rest fuel _ (by simpa using hrest) (by simp at hf; omega)]
        cases Py.mapOpt (tokSub fn) rest <;> simp

theorem sub_tokens (C : List Char) (m : Nat) (fn : List Char → Option (List Char)) (ts : List FTok) (hwf : WFToks C m none ts) :
    Rx.sub (symPat C m) fn (renderAll ts) = (Py.mapOpt (tokSub fn) ts).map List.flatten :=
  subAux_tokens C m fn ts _ none hwf (Nat.lt_succ_self _)

/-- no prefix confusion: a symbol is determined by its letters and its index (`x1` is not `x10`) -/
theorem symKey_inj (h h' : List Char) (i i' : Nat) (hl : h.length = h'.length)
    (e : h ++ Py.strNat i = h' ++ Py.strNat i') : h = h' ∧ i = i' := by
  have := List.append_inj e hl
  refine ⟨this.1, ?_⟩
  have h2 := congrArg Dec.numOf this.2
  simpa [Py.strNat, Dec.numOf_natDigits] using h2

section orbit
open DS.Orbit

/-! ### the adoption test of `positionFormula` on exact positions = "same orbit" -/

theorem pdiff1_emod_right (D u v : Int) : pdiff1 D u (v % D) = pdiff1 D u v := by
  unfold pdiff1
  have : (u - v % D) % D = (u - v) % D := by
    rw [Int.sub_emod, Int.emod_emod_of_dvd _ (dvd_refl D), ← Int.sub_emod]
  simp only [this]

theorem boxDist_red_right (k : Int) (p q : P3) : boxDist (24 * k) p (red k q) = boxDist (24 * k) p q := by
  simp only [boxDist, red, pdiff1_emod_right]

/-- **adoption = same orbit.**  Let the images of `p` be pairwise equal or farther apart than `E` (`Sep`, as in C02) and let the
listed position `q` coincide (modulo lattice translations) with an image of `p` or be farther than `E` from every image.  Then the
test of `positionFormula` — the nearest of the equivalent positions of `p` is within the box distance `E` of `q` — holds exactly when
`q` lies in the orbit of `p` (`Partition.inOrbit`, the relation of `DS.Props.C05Partition`). -/
theorem adoption_iff_inOrbit {k E : Int} (hk : 0 < k) (hE : 0 < E) {ops : List Op} {p q : P3} (hne : ops ≠ [])
    (hsep : Sep ops k E (0, 0, 0) p)
    (hfar : ∀ a ∈ ops, img a k (0, 0, 0) p = red k q ∨ E < boxDist (24 * k) (img a k (0, 0, 0) p) (red k q)) :
    boxDist (24 * k) ((result ops k E (0, 0, 0) p).1.getD (nearestIdx (24 * k) (result ops k E (0, 0, 0) p).1 q) q) q ≤ E ↔
      Partition.inOrbit ops k p q = true := by
  rw [result_exact hk hE hsep]
  simp only
  set ps := dedupFirst (ops.map fun g => img g k (0, 0, 0) p) with hps
  have hpsne : ps ≠ [] := by
    cases ops with
    | nil => exact absurd rfl hne
    | cons a rest =>
      intro h
      have : img a k (0, 0, 0) p ∈ ps := by rw [hps, mem_dedupFirst]; simp
      rw [h] at this; simp at this
  have hlt := nearestIdx_lt (24 * k) ps q hpsne
  have hgd : ps.getD (nearestIdx (24 * k) ps q) q = ps[nearestIdx (24 * k) ps q] :=
    List.getD_eq_getElem _ _ hlt
  rw [Partition.inOrbit_iff]
  constructor
  · intro h
    have hmem : ps[nearestIdx (24 * k) ps q] ∈ ps := List.getElem_mem hlt
    obtain ⟨a, ha, hax⟩ := List.mem_map.1 (mem_dedupFirst.1 hmem)
    rw [hgd, ← hax, ← boxDist_red_right] at h
    rcases hfar a ha with he | hf
    · exact ⟨a, ha, he⟩
    · omega
  · rintro ⟨g, hg, hgq⟩
    have hmem : img g k (0, 0, 0) p ∈ ps := by
      rw [hps, mem_dedupFirst, List.mem_map]; exact ⟨g, hg, rfl⟩
    have hmin := nearestIdx_min (24 * k) ps q _ hmem
    have hcell := img_inCell g hk (0, 0, 0) p
    have h0 : boxDist (24 * k) (img g k (0, 0, 0) p) q = 0 := by
      have e1 : boxDist (24 * k) (img g k (0, 0, 0) p) q = boxDist (24 * k) (img g k (0, 0, 0) p) (red k q) :=
        (boxDist_red_right k _ q).symm
      have e2 : red k q = img g k (0, 0, 0) p := hgq.symm
      rw [e1, e2]
      exact boxDist_self hcell
    omega

/-! ### the names of the position parameters are distinct -/

theorem posNamesAux_spec : ∀ (rows : List (Vec3 Con.Q)) (used names : List (List Char)),
    Con.posNamesAux used rows = some names →
      names.length = rows.length ∧ names.Nodup ∧ (∀ c ∈ names, c ∉ used) ∧
      ∀ c ∈ names, c ∈ ([['x'], ['y'], ['z']] : List (List Char))
  | [], used, names, h => by
    simp only [Con.posNamesAux, Option.some.injEq] at h
    subst h; simp
  | v :: rows, used, names, h => by
    simp only [Con.posNamesAux, Option.bind_eq_some_iff, Option.map_eq_some_iff] at h
    obtain ⟨idx, -, c, hh, cs, hr, rfl⟩ := h
    obtain ⟨h1, h2, h3, h4⟩ := posNamesAux_spec rows (used ++ [c]) cs hr
    have hcm := List.mem_filter.1 (List.mem_of_mem_head? hh)
    have hcu : c ∉ used := by simpa using hcm.2
    refine ⟨by simp [h1], List.nodup_cons.2 ⟨fun hc => (h3 c hc) (by simp), h2⟩, ?_, ?_⟩
    · intro d hd
      rcases List.mem_cons.1 hd with rfl | hd
      · exact hcu
      · intro hdu; exact h3 d hd (by simp [hdu])
    · intro d hd
      rcases List.mem_cons.1 hd with rfl | hd
      · exact List.mem_of_mem_drop hcm.1
      · exact h4 d hd

/-- Hence the symbols `x<i>`, `y<i>`, `z<i>` of a generator denote different parameters, and the formula pieces of `Con.posPieces`
can be evaluated by `Con.evalFormula` with one value per free direction. -/
theorem posNames_spec (rows : List (Vec3 Con.Q)) (names : List (List Char)) (h : Con.posNames rows = some names) :
    names.length = rows.length ∧ names.Nodup ∧ ∀ c ∈ names, c ∈ ([['x'], ['y'], ['z']] : List (List Char)) := by
  obtain ⟨h1, h2, _, h4⟩ := posNamesAux_spec rows [] names h
  exact ⟨h1, h2, h4⟩

end orbit

end DS.ConTie

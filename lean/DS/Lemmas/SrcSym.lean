import DS.Model.SymReal
import DS.Lemmas.OrbitGap
import Mathlib.Algebra.Order.Floor.Ring
import Mathlib.Tactic.FieldSimp
import Mathlib.Tactic.Ring
import Mathlib.Tactic.Linarith
import Mathlib.Tactic.NormNum
import Mathlib.Tactic.NormNum.OfScientific

/-!
Lemmas for the source tie of `expandPosition` (`DS/Props/SrcSym.lean`); nothing here mentions the transliteration
`DS.Src.Sym`, so this file does not change when the source does.

* arithmetic of the grid `X ↦ X/D` (`D = 24k`) in a linearly ordered field with floor: floor, fold into the cell,
  periodic difference, box distance, `argmin`, `int(·/eps)`;
* the dictionary of list objects (`RefDict`): `d[k] = v` followed by `d[b]`;
* well-formedness of the loop state of `Orbit.expand` for ANY input (`WF`);
* the simulation `Sim` between the loop state with list OBJECTS and the state of `Orbit.expand`, preserved by each way.
-/
namespace DS.SymTie
set_option linter.unusedSectionVars false
set_option linter.unusedVariables false
variable {α : Type} [Field α] [LinearOrder α] [IsStrictOrderedRing α] [FloorRing α]

/-- the `floor` of the transliterated source is read as `Int.floor` of the ordered field -/
instance (priority := 100) floorOrd : FloorOrd α := ⟨Int.floor⟩

theorem floor_div (X Y : Int) (hY : 0 < Y) : ⌊(X : α) / (Y : α)⌋ = X / Y := by
  have hY' : (0 : α) < (Y : α) := Int.cast_pos.2 hY
  rw [Int.floor_eq_iff, le_div_iff₀ hY', div_lt_iff₀ hY', ← Int.cast_one (R := α), ← Int.cast_add,
    ← Int.cast_mul, ← Int.cast_mul, Int.cast_le, Int.cast_lt]
  exact ⟨Int.ediv_mul_le X hY.ne', Int.lt_ediv_add_one_mul_self X hY⟩

/-- the grid point `X/D`, `D = 24 k` -/
def sc (k X : Int) : α := (X : α) / ((24 * k : Int) : α)

/-! `sc k` embeds the integers, with their order, sums and integer multiples, into the field;
`D = 24 k` goes to `1` -/

section
variable {k : Int}

theorem sc_zero : (sc k 0 : α) = 0 := by rw [sc, Int.cast_zero, zero_div]

theorem sc_add (X Y : Int) : (sc k X : α) + sc k Y = sc k (X + Y) := by
  rw [sc, sc, sc, Int.cast_add, add_div]

theorem sc_sub (X Y : Int) : (sc k X : α) - sc k Y = sc k (X - Y) := by
  rw [sc, sc, sc, Int.cast_sub, sub_div]

theorem sc_mul (r X : Int) : (r : α) * sc k X = sc k (r * X) := by
  rw [sc, sc, Int.cast_mul r X, mul_div_assoc]

variable (hk : 0 < k)
include hk

theorem D_pos : (0 : α) < ((24 * k : Int) : α) := Int.cast_pos.2 (by omega)

theorem sc_le (X Y : Int) : (sc k X : α) ≤ sc k Y ↔ X ≤ Y := by
  rw [sc, sc, div_le_div_iff_of_pos_right (D_pos hk), Int.cast_le]

theorem sc_lt (X Y : Int) : (sc k X : α) < sc k Y ↔ X < Y := by
  rw [← not_le, ← not_le, sc_le hk]

theorem sc_inj (X Y : Int) : (sc k X : α) = sc k Y ↔ X = Y := by
  rw [le_antisymm_iff, le_antisymm_iff, sc_le hk, sc_le hk]

theorem sc_D : (sc k (24 * k) : α) = 1 := div_self (D_pos hk).ne'

theorem sc_t (t : Int) : (t : α) / 24 = sc k (k * t) := by
  have hk' : (k : α) ≠ 0 := Int.cast_ne_zero.2 hk.ne'
  rw [sc, Int.cast_mul, Int.cast_mul, Int.cast_ofNat, mul_comm (24 : α), mul_div_mul_left _ _ hk']

theorem half_lt_sc (m : Int) : (0.5 : α) < sc k m ↔ 24 * k < 2 * m := by
  have : (sc k (12 * k) : α) = 0.5 := by rw [Int.mul_comm, ← sc_t hk]; norm_num
  rw [← this, sc_lt hk]; omega

theorem floor_sc (X : Int) : ⌊(sc k X : α)⌋ = X / (24 * k) := floor_div X (24 * k) (by omega)

theorem sc_sub_floor (X : Int) : (sc k X : α) - ((⌊(sc k X : α)⌋ : Int) : α) = sc k (X % (24 * k)) := by
  rw [floor_sc hk, Int.emod_def, ← sc_sub, sc, sc, Int.cast_mul (24 * k),
    mul_div_cancel_left₀ _ (D_pos hk).ne']

theorem sc_div_sc (P E : Int) : (sc k P : α) / sc k E = (P : α) / (E : α) :=
  div_div_div_cancel_right₀ (D_pos hk).ne' _ _
end

theorem pyInt_nonneg {y : α} (hy : 0 ≤ y) : Py.int y = ⌊y⌋ := by
  unfold Py.int
  rw [if_neg (not_lt.2 hy)]
  rfl

theorem pyInt_sc {k : Int} (hk : 0 < k) {P E : Int} (hP : 0 ≤ P) (hE : 0 < E) :
    Py.int ((sc k P : α) / sc k E) = P / E := by
  have h0 : (0 : α) ≤ (P : α) / (E : α) :=
    Int.floor_nonneg.1 (by rw [floor_div P E hE]; exact Int.ediv_nonneg hP hE.le)
  rw [sc_div_sc hk, pyInt_nonneg h0, floor_div P E hE]


/-! ### scalar forms of the transliterated helpers -/

/-- one coordinate of the fold into the cell in the loop of `expandPosition`:
`mask = pos < 0.0 or pos >= 1.0; pos[mask] -= floor(pos[mask]); pos[pos >= 1.0] = 0.0` -/
def foldCell (p : α) : α :=
  let q := if (decide (p < (0.0 : α)) || decide (p ≥ (1.0 : α))) = true then p - Np.floorS p else p
  if decide (q ≥ (1.0 : α)) = true then (0.0 : α) else q

/-- one coordinate of `positionDifference` -/
def pdiffS (u v : α) : α :=
  let d := u - v
  let d := d - Np.floorS d
  if decide (d > (0.5 : α)) = true then (1.0 : α) - d else d

omit [IsStrictOrderedRing α] in
theorem floorS_eq (x : α) : Np.floorS x = ((⌊x⌋ : Int) : α) := rfl

section
variable {k : Int} (hk : 0 < k)
include hk

theorem sc_lt_one (X : Int) (h : X < 24 * k) : (sc k X : α) < 1 := by
  rw [← sc_D (α := α) hk]; exact (sc_lt hk _ _).2 h

/-- the line `pos[pos >= 1.0] = 0.0` never fires in exact arithmetic: the result is `X mod D` whichever way -/
theorem foldCell_sc (X : Int) : foldCell (sc k X : α) = sc k (X % (24 * k)) := by
  have hD : (0 : Int) < 24 * k := by omega
  have hm := Int.emod_lt_of_pos X hD
  have hm0 := Int.emod_nonneg X (ne_of_gt hD)
  have h1 : ¬ ((sc k (X % (24 * k)) : α) ≥ 1) := not_le.2 (sc_lt_one hk _ hm)
  unfold foldCell
  have e0 : (0.0 : α) = 0 := by norm_num
  have e1 : (1.0 : α) = 1 := by norm_num
  simp only [e0, e1, floorS_eq, Bool.or_eq_true, decide_eq_true_eq]
  by_cases hc : (sc k X : α) < 0 ∨ (sc k X : α) ≥ 1
  · rw [if_pos hc, sc_sub_floor hk, if_neg h1]
  · rw [if_neg hc]
    have hX : 0 ≤ X ∧ X < 24 * k := by
      rw [not_or, not_lt, ge_iff_le, not_le, ← sc_zero (α := α) (k := k), ← sc_D (α := α) hk, sc_le hk, sc_lt hk] at hc
      exact hc
    have : X % (24 * k) = X := Int.emod_eq_of_lt hX.1 hX.2
    rw [this] at h1 ⊢
    rw [if_neg h1]

theorem pdiffS_sc (U V : Int) : pdiffS (sc k U : α) (sc k V) = sc k (Orbit.pdiff1 (24 * k) U V) := by
  unfold pdiffS Orbit.pdiff1
  have e1 : (1.0 : α) = 1 := by norm_num
  simp only [floorS_eq, sc_sub, sc_sub_floor hk, gt_iff_lt, half_lt_sc hk, decide_eq_true_eq, e1]
  by_cases h : 24 * k < 2 * ((U - V) % (24 * k))
  · rw [if_pos h, if_pos h, ← sc_D (α := α) hk, sc_sub]
  · rw [if_neg h, if_neg h]

theorem max2_sc (a b : Int) : Np.max2 (sc k a : α) (sc k b) = sc k (max a b) := by
  unfold Np.max2
  rw [Int.max_def]
  by_cases h : a ≤ b
  · rw [if_pos ((sc_le hk a b).2 h), if_pos h]
  · rw [if_neg (fun h' => h ((sc_le hk a b).1 h')), if_neg h]

/-- the box distance of two grid points, as the transliteration computes it (`max(max(d1, d2), d3)`) -/
theorem boxS_sc (q p : P3) :
    Np.max2 (Np.max2 (pdiffS (sc k q.1 : α) (sc k p.1)) (pdiffS (sc k q.2.1) (sc k p.2.1))) (pdiffS (sc k q.2.2) (sc k p.2.2))
      = sc k (Orbit.boxDist (24 * k) q p) := by
  rw [pdiffS_sc hk, pdiffS_sc hk, pdiffS_sc hk, max2_sc hk, max2_sc hk, Orbit.boxDist, max_assoc]

theorem argmin_go_sc (p : P3) :
    ∀ (rest : List P3) (i best : Nat) (bd : Int),
      Np.argmin.go (rest.map fun q => (sc k (Orbit.boxDist (24 * k) q p) : α)) i best (sc k bd) =
        Orbit.nearestIdx.go (24 * k) p rest i best bd
  | [], i, best, bd => by simp [Np.argmin.go, Orbit.nearestIdx.go]
  | q :: qs, i, best, bd => by
    simp only [List.map_cons, Np.argmin.go, Orbit.nearestIdx.go, sc_lt hk]
    split
    · exact argmin_go_sc p qs (i + 1) i _
    · exact argmin_go_sc p qs (i + 1) best bd

theorem argmin_sc (p : P3) (ps : List P3) (h : ps ≠ []) :
    Np.argmin (ps.map fun q => (sc k (Orbit.boxDist (24 * k) q p) : α)) = some (Orbit.nearestIdx (24 * k) ps p) := by
  cases ps with
  | nil => exact absurd rfl h
  | cons q qs =>
    simp only [List.map_cons, Np.argmin, Orbit.nearestIdx]
    rw [argmin_go_sc hk]
end

/-! ### the dictionary of list objects -/
section dict
variable {κ : Type} [BEq κ] [LawfulBEq κ]

theorem lookup_append (m : List (κ × Nat)) (t : κ) (i : Nat) (b : κ) :
    RefDict.lookup (m ++ [(t, i)]) b =
      match RefDict.lookup m b with
      | some j => some j
      | none => if b == t then some i else none := by
  simp only [RefDict.lookup, List.find?_append]
  cases h : m.find? (fun e => e.1 == b) with
  | some e => simp
  | none =>
    by_cases e : b = t
    · simp [e]
    · have : ¬ t = b := fun h => e h.symm
      simp [e, this]

theorem lookup_cons (a : κ) (i : Nat) (m : List (κ × Nat)) (b : κ) :
    RefDict.lookup ((a, i) :: m) b = if a == b then some i else RefDict.lookup m b := by
  simp only [RefDict.lookup, List.find?_cons]
  cases a == b <;> rfl

theorem lookup_map_set (k : κ) (v : Nat) (b : κ) : ∀ m : List (κ × Nat),
    RefDict.lookup (m.map fun e => if e.1 == k then (e.1, v) else e) b =
      if b == k then (RefDict.lookup m k).map (fun _ => v) else RefDict.lookup m b
  | [] => by simp [RefDict.lookup]
  | (a, i) :: m => by
    have ih := lookup_map_set k v b m
    rw [List.map_cons]
    by_cases hk : a = k
    · subst hk
      simp only [beq_self_eq_true, if_true, lookup_cons, Option.map_some]
      by_cases hb : b = a
      · subst hb; simp
      · have : ¬ a = b := fun h => hb h.symm
        simp only [beq_iff_eq, this, hb, if_false] at ih ⊢
        exact ih
    · simp only [beq_iff_eq, hk, if_false, lookup_cons]
      by_cases hb : b = k
      · subst hb
        simp only [beq_self_eq_true, if_true, beq_iff_eq, hk, if_false] at ih ⊢
        exact ih
      · simp only [beq_iff_eq, hb, if_false] at ih ⊢
        rw [ih]

/-- `d[k] = v` then `d[b]` -/
theorem lookup_assocSet (m : List (κ × Nat)) (k : κ) (v : Nat) (b : κ) :
    RefDict.lookup (RefDict.assocSet m k v) b = if b == k then some v else RefDict.lookup m b := by
  unfold RefDict.assocSet
  cases h : RefDict.lookup m k with
  | none =>
    simp only [lookup_append]
    by_cases hb : b = k
    · subst hb; simp [h]
    · simp only [beq_iff_eq, hb, if_false]
      cases RefDict.lookup m b <;> rfl
  | some j =>
    simp only [lookup_map_set, h, Option.map_some]

end dict

theorem lookup_eq_lookupKey (m : List (P3 × Nat)) (b : P3) : RefDict.lookup m b = Orbit.lookupKey m b := rfl

/-! ### well-formedness of the loop state of `Orbit.expand` (any input, no separation hypothesis) -/

open Orbit in
structure WF (D E : Int) (o : Orbit.St) : Prop where
  len : o.positions.length = o.classes.length
  keys_lt : ∀ b i, lookupKey o.keymap b = some i → i < o.classes.length
  reg : ∀ p ∈ o.positions, ∃ i, lookupKey o.keymap (bucket E p) = some i
  incell : ∀ p ∈ o.positions, InCell D p
  nil : o.positions = [] → o.keymap = []

theorem wf_init (D E : Int) : WF D E { positions := [], keymap := [], classes := [] } :=
  ⟨rfl, (by intro b i h; simp [Orbit.lookupKey] at h), (by intro p hp; cases hp), (by intro p hp; cases hp), fun _ => rfl⟩

open Orbit in
theorem wf_step {k E : Int} (hk : 0 < k) (off x : P3) {o : Orbit.St} (a : Op) (h : WF (24 * k) E o) :
    WF (24 * k) E (stepOp k E off x o a) := by
  obtain ⟨hlen, hlt, hreg, hin, hnil⟩ := h
  -- the bucket table after the bucket of the new image has been registered under an index `j < n`
  have hlt' : ∀ {j n : Nat}, (∀ b i, lookupKey o.keymap b = some i → i < n) → j < n →
      ∀ b i, lookupKey (o.keymap ++ [(bucket E (img a k off x), j)]) b = some i → i < n := by
    intro j n hold hj b i hb
    rw [lookupKey_append] at hb
    cases hb' : lookupKey o.keymap b with
    | some j' => rw [hb'] at hb; cases hb; exact hold b _ hb'
    | none =>
      rw [hb'] at hb
      simp only at hb
      split at hb
      · cases hb; exact hj
      · cases hb
  have hreg' : ∀ j, ∀ p ∈ o.positions,
      ∃ i, lookupKey (o.keymap ++ [(bucket E (img a k off x), j)]) (bucket E p) = some i := by
    intro j p hp
    obtain ⟨i, hi⟩ := hreg p hp
    exact ⟨i, by rw [lookupKey_append, hi]⟩
  have hmod : ∀ i, (addToClass o.classes i a).length = o.classes.length := fun i => List.length_modify ..
  cases hl : lookupKey o.keymap (bucket E (img a k off x)) with
  | some i =>
    rw [stepOp_known hl]
    exact ⟨hlen.trans (hmod i).symm, fun b j h => (hmod i).symm ▸ hlt b j h, hreg, hin, hnil⟩
  | none =>
    by_cases hp : o.positions = []
    · rw [stepOp_first hl hp]
      refine ⟨rfl, ?_, ?_, ?_, fun h => by cases h⟩
      · have := hlt' (j := 0) (n := 1) (fun b i hb => by rw [hnil hp] at hb; cases hb) Nat.zero_lt_one
        rwa [hnil hp] at this
      · intro p hp'
        rw [List.mem_singleton.1 hp']
        exact ⟨0, by rw [← List.nil_append [(_, 0)], lookupKey_append]; simp [lookupKey_nil]⟩
      · intro p hp'
        rw [List.mem_singleton.1 hp']
        exact img_inCell a hk off x
    · have hmem : o.positions.getD (nearestIdx (24 * k) o.positions (img a k off x)) (img a k off x)
          ∈ o.positions := by
        have hj := nearestIdx_lt (24 * k) o.positions (img a k off x) hp
        rw [List.getD_eq_getElem (l := o.positions) (d := img a k off x) hj]
        exact List.getElem_mem hj
      by_cases hd : boxDist (24 * k)
          (o.positions.getD (nearestIdx (24 * k) o.positions (img a k off x)) (img a k off x)) (img a k off x) ≤ E
      · obtain ⟨i, hi⟩ := hreg _ hmem
        rw [stepOp_alias hl hp hd hi]
        exact ⟨hlen.trans (hmod i).symm, fun b j h => (hmod i).symm ▸ hlt' hlt (hlt _ _ hi) b j h,
          hreg' i, hin, fun e => absurd e hp⟩
      · rw [stepOp_new hl hp hd]
        refine ⟨by rw [List.length_append, List.length_append, hlen]; rfl, ?_, ?_, ?_,
          fun e => absurd e (List.append_ne_nil_of_right_ne_nil _ (List.cons_ne_nil _ _))⟩
        · intro b i hb
          rw [List.length_append, List.length_singleton]
          exact hlt' (fun b i hb => Nat.lt_succ_of_lt (hlt b i hb)) (by omega) b i hb
        · intro p hp'
          rcases List.mem_append.1 hp' with hp' | hp'
          · exact hreg' _ p hp'
          · rw [List.mem_singleton.1 hp']
            exact ⟨o.positions.length, by rw [lookupKey_append, hl]; simp⟩
        · intro p hp'
          rcases List.mem_append.1 hp' with hp' | hp'
          · exact hin p hp'
          · rw [List.mem_singleton.1 hp']
            exact img_inCell a hk off x

theorem wf_foldl {k E : Int} (hk : 0 < k) (off x : P3) : ∀ (ops : List Op) (o : Orbit.St), WF (24 * k) E o →
    WF (24 * k) E (ops.foldl (Orbit.stepOp k E off x) o)
  | [], _, h => h
  | a :: ops, o, h => wf_foldl hk off x ops _ (wf_step hk off x a h)

/-! ### the grid embedding -/

/-- the position with integer coordinates `p` (units `1/D`) as a fractional position -/
def castP (k : Int) (p : P3) : V3 α := (sc k p.1, sc k p.2.1, sc k p.2.2)

/-- a tabulated operation as a `SymOp`: integer rotation entries, translation `t/24` -/
def toSym (a : Op) : SymOp α :=
  ⟨(((a.r11 : α), (a.r12 : α), (a.r13 : α)), ((a.r21 : α), (a.r22 : α), (a.r23 : α)), ((a.r31 : α), (a.r32 : α), (a.r33 : α))),
   ((a.t1 : α) / 24, (a.t2 : α) / 24, (a.t3 : α) / 24)⟩

theorem castP_inj {k : Int} (hk : 0 < k) (p q : P3) : (castP k p : V3 α) = castP k q ↔ p = q := by
  obtain ⟨p1, p2, p3⟩ := p
  obtain ⟨q1, q2, q3⟩ := q
  simp only [castP, Prod.mk.injEq, sc_inj hk]

/-- what `expandPosition` returns, on the grid -/
def castResult (k : Int) (r : List P3 × List (List Op) × Nat) : List (V3 α) × List (List (SymOp α)) × Nat :=
  (r.1.map (castP k), r.2.1.map (List.map toSym), r.2.2)

/-! ### simulation between the loop states -/

/-- simulation between the transliterated loop state and the state of `Orbit.expand`: same positions; the same
keys, bound to corresponding list objects (`ρ` renames class indices to object identities, injectively — two keys
share a list object exactly when they share a class); corresponding contents.  Unreferenced list objects (the
`[]` left behind when a key is re-bound) are not constrained. -/
structure Sim (k : Int) (s : LoopSt α) (o : Orbit.St) (ρ : Nat → Nat) : Prop where
  pos : s.positions = o.positions.map (castP k)
  keys : ∀ b, RefDict.lookup s.site_symops.keys b = (Orbit.lookupKey o.keymap b).map ρ
  objs : ∀ i, i < o.classes.length → s.site_symops.objs[ρ i]? = (o.classes[i]?).map (List.map toSym)
  inj : ∀ i j, i < o.classes.length → j < o.classes.length → ρ i = ρ j → i = j

theorem sim_init (k : Int) : Sim (α := α) k ⟨[], RefDict.empty⟩ { positions := [], keymap := [], classes := [] } id :=
  ⟨rfl, fun b => rfl, (by intro i hi; cases hi), (by intro i j hi; cases hi)⟩

theorem Sim.objs_lt {k : Int} {s : LoopSt α} {o : Orbit.St} {ρ : Nat → Nat} (h : Sim k s o ρ) {i : Nat}
    (hi : i < o.classes.length) : ρ i < s.site_symops.objs.length := by
  have := h.objs i hi
  rw [List.getElem?_eq_getElem hi, Option.map_some] at this
  by_contra hc
  rw [List.getElem?_eq_none (by omega)] at this
  cases this

section
variable {k : Int} {s : LoopSt α} {o : Orbit.St} {ρ : Nat → Nat}

/-- `site_symops[tpl].append(symop)` on a known key -/
theorem sim_known (hs : Sim k s o ρ) {i : Nat} (hi : i < o.classes.length) (a : Op) :
    Sim k ⟨s.positions, { s.site_symops with objs := s.site_symops.objs.modify (ρ i) (fun l => l ++ [toSym a]) }⟩
      { o with classes := o.classes.modify i (fun l => l ++ [a]) } ρ := by
  obtain ⟨hpos, hkeys, hobjs, hinj⟩ := hs
  refine ⟨hpos, hkeys, ?_, ?_⟩
  · intro j hj
    simp only [List.length_modify] at hj
    simp only [List.getElem?_modify]
    by_cases hij : i = j
    · subst hij
      rw [hobjs i hi, List.getElem?_eq_getElem hi]
      simp
    · have : ρ i ≠ ρ j := fun h => hij (hinj i j hi hj h)
      simp only [this, hij, if_false]
      simpa using hobjs j hj
  · intro i' j' hi' hj'
    simp only [List.length_modify] at hi' hj'
    exact hinj i' j' hi' hj'

/-- a new list object under a new key, a new position -/
theorem sim_new (hs : Sim k s o ρ) (hlen : o.positions.length = o.classes.length)
    (hlt : ∀ b i, Orbit.lookupKey o.keymap b = some i → i < o.classes.length)
    {tpl : P3} (hl : Orbit.lookupKey o.keymap tpl = none) (pos : P3) (a : Op) :
    Sim k ⟨s.positions ++ [castP k pos], ⟨RefDict.assocSet s.site_symops.keys tpl s.site_symops.objs.length,
        (s.site_symops.objs ++ [[]]).modify s.site_symops.objs.length (fun l => l ++ [toSym a])⟩⟩
      { positions := o.positions ++ [pos], keymap := o.keymap ++ [(tpl, o.positions.length)], classes := o.classes ++ [[a]] }
      (fun j => if j = o.classes.length then s.site_symops.objs.length else ρ j) := by
  have hsim := hs
  obtain ⟨hpos, hkeys, hobjs, hinj⟩ := hs
  refine ⟨by simp [hpos], ?_, ?_, ?_⟩
  · intro b
    simp only [lookup_assocSet, Orbit.lookupKey_append, beq_iff_eq]
    by_cases hb : b = tpl
    · subst hb
      simp [hl, hlen]
    · have hb' : ¬ tpl = b := fun h => hb h.symm
      rw [if_neg hb, hkeys]
      cases hlb : Orbit.lookupKey o.keymap b with
      | none => simp [hb']
      | some j =>
        have := hlt b j hlb
        simp only [Option.map_some]
        rw [if_neg (by omega)]
  · intro j hj
    simp only [List.length_append, List.length_singleton] at hj
    simp only
    by_cases hjL : j = o.classes.length
    · subst hjL
      simp
    · have hj' : j < o.classes.length := by omega
      have := hsim.objs_lt hj'
      have hne : ¬ s.site_symops.objs.length = ρ j := by omega
      rw [if_neg hjL, List.getElem?_modify, List.getElem?_append_left this,
        List.getElem?_append_left hj', hobjs j hj']
      simp only [hne, if_false]
      simp
  · intro i j hi hj
    simp only [List.length_append, List.length_singleton] at hi hj
    by_cases hiL : i = o.classes.length <;> by_cases hjL : j = o.classes.length
    · intro _; omega
    · have := hsim.objs_lt (i := j) (by omega)
      rw [if_pos hiL, if_neg hjL]; intro h; omega
    · have := hsim.objs_lt (i := i) (by omega)
      rw [if_neg hiL, if_pos hjL]; intro h; omega
    · rw [if_neg hiL, if_neg hjL]
      exact hinj i j (by omega) (by omega)

/-- a new key bound to the list object of an existing class; the fresh `[]` stays unreferenced -/
theorem sim_alias (hs : Sim k s o ρ) {tpl : P3} (hl : Orbit.lookupKey o.keymap tpl = none) {i : Nat}
    (hi : i < o.classes.length) (a : Op) :
    Sim k ⟨s.positions, ⟨RefDict.assocSet (RefDict.assocSet s.site_symops.keys tpl s.site_symops.objs.length) tpl (ρ i),
        (s.site_symops.objs ++ [[]]).modify (ρ i) (fun l => l ++ [toSym a])⟩⟩
      { o with keymap := o.keymap ++ [(tpl, i)], classes := o.classes.modify i (fun l => l ++ [a]) } ρ := by
  have hsim := hs
  obtain ⟨hpos, hkeys, hobjs, hinj⟩ := hs
  refine ⟨hpos, ?_, ?_, ?_⟩
  · intro b
    simp only [lookup_assocSet, Orbit.lookupKey_append, beq_iff_eq]
    by_cases hb : b = tpl
    · subst hb
      simp [hl]
    · have hb' : ¬ tpl = b := fun h => hb h.symm
      rw [if_neg hb, if_neg hb, hkeys]
      cases hlb : Orbit.lookupKey o.keymap b with
      | none => simp [hb']
      | some j => simp
  · intro j hj
    simp only [List.length_modify] at hj
    have hρj := hsim.objs_lt hj
    simp only [List.getElem?_modify, List.getElem?_append_left hρj]
    by_cases hij : i = j
    · subst hij
      rw [hobjs i hi, List.getElem?_eq_getElem hi]
      simp
    · have : ρ i ≠ ρ j := fun h => hij (hinj i j hi hj h)
      simp only [this, hij, if_false]
      simpa using hobjs j hj
  · intro i' j' hi' hj'
    simp only [List.length_modify] at hi' hj'
    exact hinj i' j' hi' hj'

end

end DS.SymTie

import DS.Model.Lattice
import DS.Lemmas.RealElem
import Mathlib.Tactic.Positivity

/-!
The lattice model `DS.Lattice` (`lattice.py`).  For every scalar type: `setLatPar` / `setLatBase` as
assignment sequences are `ofPar` / `ofBase` of the stored parameters.  Over ℝ: a valid cell (`ValidCS`,
`Valid` with a proper rotation) has the closed form `S0` for `stdbase`, from which `metrics = base·baseᵀ`,
`base·recbase = 1`, the row lengths and angles, the reciprocal quantities and the Euclidean meaning of
`dot`/`norm`/`dist`/`angle` follow; `ofBase` of a right-handed base is `ofCS` of the recovered valid data;
`WF` (the object is `ofPar` of its own valid parameters) is preserved by every operation of the update
machine, by `reciprocal` and by copying.
-/

set_option linter.unusedSectionVars false

namespace DS
namespace Lattice
section generic
variable {α : Type} [Add α] [Mul α] [Sub α] [Neg α] [Div α] [OfNat α 0] [OfNat α 1] [OfNat α 2]
  [OfNat α 3] [OfNat α 90] [Max α] [Min α] [Elem α]

/-- lines 333–374 of `setLatPar`: everything is recomputed from the seven stored values -/
theorem refresh_eq (L : Lattice α) :
    L.refresh = ofPar L.a L.b L.c L.alpha L.beta L.gamma L.baserot := by
  -- on a constructor every `L.x` reduces at once
  cases L; rfl

theorem optSet {β γ : Type} (o : Option β) (set : β → γ) (g : β) :
    (match o with | some v => set v | none => set g) = set (o.getD g) := by cases o <;> rfl

/-- lines 319–332 of `setLatPar`: each of the seven attributes becomes the argument, or stays when the argument is `None` -/
theorem assignArgs_fields (L : Lattice α) (p : ParArgs α) :
    (L.assignArgs p).a = p.a.getD L.a ∧ (L.assignArgs p).b = p.b.getD L.b ∧ (L.assignArgs p).c = p.c.getD L.c ∧
    (L.assignArgs p).alpha = p.alpha.getD L.alpha ∧ (L.assignArgs p).beta = p.beta.getD L.beta ∧
    (L.assignArgs p).gamma = p.gamma.getD L.gamma ∧ (L.assignArgs p).baserot = p.baserot.getD L.baserot := by
  obtain ⟨pa, pb, pc, pal, pbe, pga, prot⟩ := p
  unfold assignArgs
  extract_lets L1 L2 L3 L4 L5 L6
  -- one assignment at a time (no case split over all seven arguments); the intermediate objects are then
  -- forgotten, and the seven attributes are read off through the six updates
  have h1 : L1 = { L with a := pa.getD L.a } := optSet pa (fun v => { L with a := v }) L.a
  have h2 : L2 = { L1 with b := pb.getD L1.b } := optSet pb (fun v => { L1 with b := v }) L1.b
  have h3 : L3 = { L2 with c := pc.getD L2.c } := optSet pc (fun v => { L2 with c := v }) L2.c
  have h4 : L4 = { L3 with alpha := pal.getD L3.alpha } := optSet pal (fun v => { L3 with alpha := v }) L3.alpha
  have h5 : L5 = { L4 with beta := pbe.getD L4.beta } := optSet pbe (fun v => { L4 with beta := v }) L4.beta
  have h6 : L6 = { L5 with gamma := pga.getD L5.gamma } := optSet pga (fun v => { L5 with gamma := v }) L5.gamma
  clear_value L1 L2 L3 L4 L5 L6
  cases prot <;> simp only [h6, h5, h4, h3, h2, h1, Option.getD_some, Option.getD_none, and_self]

/-- `setLatPar` refreshes every cached attribute: the result is the lattice built from the updated
seven stored values, nothing else of the previous state survives. -/
theorem setLatPar_eq (L : Lattice α) (p : ParArgs α) :
    L.setLatPar p = ofPar (p.a.getD L.a) (p.b.getD L.b) (p.c.getD L.c) (p.alpha.getD L.alpha)
      (p.beta.getD L.beta) (p.gamma.getD L.gamma) (p.baserot.getD L.baserot) := by
  obtain ⟨h1, h2, h3, h4, h5, h6, h7⟩ := assignArgs_fields L p
  rw [setLatPar, refresh_eq, h1, h2, h3, h4, h5, h6, h7]

/-- `setLatBase` refreshes every cached attribute: the result does not depend on the previous state. -/
theorem setLatBase_eq (L : Lattice α) (B : Mat3 α) : L.setLatBase B = ofBase B := by cases L; rfl

end generic

/-! ### over ℝ -/
section real
open Real

@[simp] theorem elem_sqrt (x : ℝ) : (Elem.sqrt x : ℝ) = Real.sqrt x := rfl
@[simp] theorem elem_cosd (x : ℝ) : (Elem.cosd x : ℝ) = Real.cos (x * π / 180) := rfl
@[simp] theorem elem_sind (x : ℝ) : (Elem.sind x : ℝ) = Real.sin (x * π / 180) := rfl
@[simp] theorem elem_acosd (x : ℝ) : (Elem.acosd x : ℝ) = Real.arccos x * 180 / π := rfl

structure ValidCS (p : CellCS ℝ) : Prop where
  a_pos : 0 < p.a
  b_pos : 0 < p.b
  c_pos : 0 < p.c
  ha : p.sa * p.sa + p.ca * p.ca = 1
  hb : p.sb * p.sb + p.cb * p.cb = 1
  hg : p.sg * p.sg + p.cg * p.cg = 1
  sa_pos : 0 < p.sa
  sb_pos : 0 < p.sb
  sg_pos : 0 < p.sg
  hV : p.V * p.V = 1 + 2 * p.ca * p.cb * p.cg - p.ca * p.ca - p.cb * p.cb - p.cg * p.cg
  V_pos : 0 < p.V

theorem ValidCS.cos_sq_lt {p : CellCS ℝ} (h : ValidCS p) :
    0 < 1 - p.ca * p.ca ∧ 0 < 1 - p.cb * p.cb ∧ 0 < 1 - p.cg * p.cg :=
  ⟨by rw [show 1 - p.ca * p.ca = p.sa * p.sa by linear_combination -h.ha]; exact mul_pos h.sa_pos h.sa_pos,
   by rw [show 1 - p.cb * p.cb = p.sb * p.sb by linear_combination -h.hb]; exact mul_pos h.sb_pos h.sb_pos,
   by rw [show 1 - p.cg * p.cg = p.sg * p.sg by linear_combination -h.hg]; exact mul_pos h.sg_pos h.sg_pos⟩

theorem ValidCS.recip_pos {p : CellCS ℝ} (h : ValidCS p) :
    0 < p.sa / (p.a * p.V) ∧ 0 < p.sb / (p.b * p.V) ∧ 0 < p.sg / (p.c * p.V) :=
  ⟨div_pos h.sa_pos (mul_pos h.a_pos h.V_pos), div_pos h.sb_pos (mul_pos h.b_pos h.V_pos),
    div_pos h.sg_pos (mul_pos h.c_pos h.V_pos)⟩

theorem sgr_eq {p : CellCS ℝ} (h : ValidCS p) :
    Real.sqrt (1 - (p.ca * p.cb - p.cg) / (p.sa * p.sb) * ((p.ca * p.cb - p.cg) / (p.sa * p.sb))) = p.V / (p.sa * p.sb) := by
  have hsa := h.sa_pos.ne'
  have hsb := h.sb_pos.ne'
  have key : 1 - (p.ca * p.cb - p.cg) / (p.sa * p.sb) * ((p.ca * p.cb - p.cg) / (p.sa * p.sb)) = (p.V / (p.sa * p.sb)) ^ 2 := by
    field_simp
    linear_combination (p.sb ^ 2) * h.ha + (1 - p.ca ^ 2) * h.hb - h.hV
  rw [key, Real.sqrt_sq]
  exact div_nonneg h.V_pos.le (mul_pos h.sa_pos h.sb_pos).le

/-- closed form of `stdbase` for valid data -/
noncomputable def S0 (p : CellCS ℝ) : Mat3 ℝ :=
  ⟨p.a * p.V / p.sa, p.a * (p.cg - p.ca * p.cb) / p.sa, p.cb * p.a, 0, p.b * p.sa, p.b * p.ca, 0, 0, p.c⟩

theorem stdbase_eq {p : CellCS ℝ} (h : ValidCS p) (orient : Mat3 ℝ → Mat3 ℝ × Mat3 ℝ) :
    (assemble p orient).stdbase = S0 p := by
  have hsa := h.sa_pos.ne'
  have hsb := h.sb_pos.ne'
  have ha := h.a_pos.ne'
  have hV := h.V_pos.ne'
  simp only [assemble, stdbaseOf, S0, elem_sqrt]
  rw [sgr_eq h]
  apply Mat3.ext' <;> simp only [] <;> field_simp <;> ring

theorem metricsOf_isSymm (a b c ca cb cg : ℝ) : (metricsOf a b c ca cb cg).isSymm :=
  ⟨by simp only [metricsOf, mul_comm b a], by simp only [metricsOf, mul_comm c a], by simp only [metricsOf, mul_comm c b]⟩

theorem eq_metricsOf {G : Mat3 ℝ} (hs : G.isSymm) {a b c : ℝ} (ha : a ≠ 0) (hb : b ≠ 0) (hc : c ≠ 0)
    (h1 : G.a11 = a * a) (h2 : G.a22 = b * b) (h3 : G.a33 = c * c) :
    G = metricsOf a b c (G.a23 / (b * c)) (G.a13 / (a * c)) (G.a12 / (a * b)) := by
  have cancel : ∀ {x y : ℝ}, x ≠ 0 → y ≠ 0 → ∀ d, d = x * y * (d / (x * y)) :=
    fun hx hy d => (mul_div_cancel₀ d (mul_ne_zero hx hy)).symm
  exact Mat3.ext_of_isSymm hs (metricsOf_isSymm ..) h1 (cancel ha hb _) (cancel ha hc _) h2 (cancel hb hc _) h3

theorem S0_gram {p : CellCS ℝ} (h : ValidCS p) :
    (S0 p).mul (S0 p).transpose = metricsOf p.a p.b p.c p.ca p.cb p.cg := by
  have hsa := h.sa_pos.ne'
  apply Mat3.ext_of_isSymm (Mat3.isSymm_transpose_mul_self (S0 p).transpose) (metricsOf_isSymm ..) <;>
    simp only [S0, Mat3.mul, Mat3.transpose, metricsOf]
  · field_simp
    linear_combination (p.a ^ 2) * h.hV + (p.a ^ 2 * p.cb ^ 2 - p.a ^ 2) * h.ha
  · field_simp; ring
  · ring
  · linear_combination (p.b ^ 2) * h.ha
  · ring
  · ring

theorem S0_det (p : CellCS ℝ) (h : ValidCS p) : (S0 p).det = p.a * p.b * p.c * p.V := by
  have hsa := h.sa_pos.ne'
  simp only [S0, Mat3.det]; field_simp; ring

/-- proper rotation -/
structure IsRot (Q : Mat3 ℝ) : Prop where
  orth : Q.mul Q.transpose = Mat3.one
  det_one : Q.det = 1

/-- the hypotheses of the C01 theorems: valid cosine/sine/volume data and a proper rotation -/
structure Valid (p : CellCS ℝ) (Q : Mat3 ℝ) : Prop where
  cs : ValidCS p
  rot : IsRot Q

theorem isRot_one : IsRot Mat3.one := ⟨Mat3.mul_one Mat3.one, Mat3.det_one⟩

theorem ofCS_base {p : CellCS ℝ} (h : ValidCS p) (Q : Mat3 ℝ) : (ofCS p Q).base = (S0 p).mul Q := by
  have := stdbase_eq h (fun S => (Q, S.mul Q))
  simp only [ofCS] at *
  rw [← this]; rfl

theorem ofCS_stdbase {p : CellCS ℝ} (h : ValidCS p) (Q : Mat3 ℝ) : (ofCS p Q).stdbase = S0 p :=
  stdbase_eq h _

theorem ofCS_baserot (p : CellCS ℝ) (Q : Mat3 ℝ) : (ofCS p Q).baserot = Q := rfl
theorem ofCS_metrics (p : CellCS ℝ) (Q : Mat3 ℝ) :
    (ofCS p Q).metrics = metricsOf p.a p.b p.c p.ca p.cb p.cg := rfl
theorem ofCS_recbase (p : CellCS ℝ) (Q : Mat3 ℝ) : (ofCS p Q).recbase = (ofCS p Q).base.inv := rfl

/-- `metrics = base · baseᵀ` -/
theorem metrics_eq_gram {p : CellCS ℝ} {Q : Mat3 ℝ} (h : Valid p Q) :
    (ofCS p Q).metrics = (ofCS p Q).base.mul (ofCS p Q).base.transpose := by
  rw [ofCS_base h.cs, ofCS_metrics, Mat3.transpose_mul, Mat3.mul_assoc, ← Mat3.mul_assoc Q, h.rot.orth,
    Mat3.one_mul, S0_gram h.cs]

theorem base_det {p : CellCS ℝ} {Q : Mat3 ℝ} (h : Valid p Q) :
    (ofCS p Q).base.det = p.a * p.b * p.c * p.V := by
  rw [ofCS_base h.cs, Mat3.det_mul, S0_det p h.cs, h.rot.det_one, _root_.mul_one]

theorem base_det_pos {p : CellCS ℝ} {Q : Mat3 ℝ} (h : Valid p Q) : 0 < (ofCS p Q).base.det := by
  rw [base_det h]
  exact mul_pos (mul_pos (mul_pos h.cs.a_pos h.cs.b_pos) h.cs.c_pos) h.cs.V_pos

theorem base_mul_recbase {p : CellCS ℝ} {Q : Mat3 ℝ} (h : Valid p Q) :
    (ofCS p Q).base.mul (ofCS p Q).recbase = Mat3.one := by
  rw [ofCS_recbase]; exact Mat3.mul_inv (base_det_pos h).ne'

theorem recbase_mul_base {p : CellCS ℝ} {Q : Mat3 ℝ} (h : Valid p Q) :
    (ofCS p Q).recbase.mul (ofCS p Q).base = Mat3.one := by
  rw [ofCS_recbase]; exact Mat3.inv_mul (base_det_pos h).ne'

theorem frac_cart {p : CellCS ℝ} {Q : Mat3 ℝ} (h : Valid p Q) (u : Vec3 ℝ) :
    (ofCS p Q).fractional ((ofCS p Q).cartesian u) = u := by
  simp only [fractional, cartesian]
  rw [Mat3.vecMul_mul, base_mul_recbase h, Mat3.vecMul_one]

theorem cart_frac {p : CellCS ℝ} {Q : Mat3 ℝ} (h : Valid p Q) (r : Vec3 ℝ) :
    (ofCS p Q).cartesian ((ofCS p Q).fractional r) = r := by
  simp only [fractional, cartesian]
  rw [Mat3.vecMul_mul, recbase_mul_base h, Mat3.vecMul_one]

/-- the lattice dot product is the Euclidean dot product of the Cartesian images -/
theorem dot_eq {p : CellCS ℝ} {Q : Mat3 ℝ} (h : Valid p Q) (u v : Vec3 ℝ) :
    (ofCS p Q).dot u v = Vec3.dot ((ofCS p Q).cartesian u) ((ofCS p Q).cartesian v) := by
  simp only [dot, cartesian]
  rw [Mat3.dot_vecMul, Mat3.vecMul_mul, ← metrics_eq_gram h]

/-! #### norm, dist, angle -/

theorem dot_self_nonneg (x : Vec3 ℝ) : 0 ≤ Vec3.dot x x :=
  add_nonneg (add_nonneg (mul_self_nonneg x.x) (mul_self_nonneg x.y)) (mul_self_nonneg x.z)

theorem lagrange (x y : Vec3 ℝ) :
    Vec3.dot (Vec3.cross x y) (Vec3.cross x y) = Vec3.dot x x * Vec3.dot y y - (Vec3.dot x y) ^ 2 := by
  simp only [Vec3.cross, Vec3.dot]; ring

theorem cauchy_schwarz (x y : Vec3 ℝ) : (Vec3.dot x y) ^ 2 ≤ Vec3.dot x x * Vec3.dot y y :=
  sub_nonneg.mp (lagrange x y ▸ dot_self_nonneg (Vec3.cross x y))

/-- the clip of `angle` is the identity on `⟨x,y⟩ / (‖x‖‖y‖)` -/
theorem clip_cos (x y : Vec3 ℝ) :
    max (min (Vec3.dot x y / (Real.sqrt (Vec3.dot x x) * Real.sqrt (Vec3.dot y y))) 1) (-1)
      = Vec3.dot x y / (Real.sqrt (Vec3.dot x x) * Real.sqrt (Vec3.dot y y)) := by
  have hn : 0 ≤ Real.sqrt (Vec3.dot x x) * Real.sqrt (Vec3.dot y y) :=
    mul_nonneg (Real.sqrt_nonneg _) (Real.sqrt_nonneg _)
  have habs : |Vec3.dot x y| ≤ Real.sqrt (Vec3.dot x x) * Real.sqrt (Vec3.dot y y) := by
    rw [← Real.sqrt_mul (dot_self_nonneg x)]
    exact Real.abs_le_sqrt (cauchy_schwarz x y)
  have h1 : |Vec3.dot x y / (Real.sqrt (Vec3.dot x x) * Real.sqrt (Vec3.dot y y))| ≤ 1 := by
    rw [abs_div, abs_of_nonneg hn]
    exact div_le_one_of_le₀ habs hn
  obtain ⟨hlo, hhi⟩ := abs_le.mp h1
  rw [min_eq_left hhi, max_eq_left hlo]

theorem norm_eq (L : Lattice ℝ) (u : Vec3 ℝ) :
    L.norm u = Real.sqrt (Vec3.dot (L.cartesian u) (L.cartesian u)) := rfl

/-- `norm` (computed through `base`) agrees with the metric tensor: `‖u‖² = u·G·u` -/
theorem norm_sq {p : CellCS ℝ} {Q : Mat3 ℝ} (h : Valid p Q) (u : Vec3 ℝ) :
    (ofCS p Q).norm u ^ 2 = (ofCS p Q).dot u u := by
  rw [norm_eq, Real.sq_sqrt (dot_self_nonneg _), dot_eq h]

theorem dist_eq (L : Lattice ℝ) (u v : Vec3 ℝ) :
    L.dist u v = Real.sqrt (Vec3.dot (Vec3.sub (L.cartesian u) (L.cartesian v)) (Vec3.sub (L.cartesian u) (L.cartesian v))) := by
  simp only [dist, norm, cartesian, Mat3.vecMul_sub, elem_sqrt]

/-- `angle` is the Euclidean angle of the Cartesian images (the clip to [−1, 1] is the identity) -/
theorem angle_eq {p : CellCS ℝ} {Q : Mat3 ℝ} (h : Valid p Q) (u v : Vec3 ℝ) :
    (ofCS p Q).angle u v =
      Real.arccos (Vec3.dot ((ofCS p Q).cartesian u) ((ofCS p Q).cartesian v) /
        (Real.sqrt (Vec3.dot ((ofCS p Q).cartesian u) ((ofCS p Q).cartesian u)) *
         Real.sqrt (Vec3.dot ((ofCS p Q).cartesian v) ((ofCS p Q).cartesian v)))) * 180 / π := by
  simp only [angle, elem_acosd]
  rw [dot_eq h, norm_eq, norm_eq, clip_cos]

/-! #### the base vectors have exactly the lengths and angles given -/

theorem gram_entries (B : Mat3 ℝ) :
    (B.mul B.transpose).a11 = Vec3.dot B.row1 B.row1 ∧ (B.mul B.transpose).a22 = Vec3.dot B.row2 B.row2 ∧
    (B.mul B.transpose).a33 = Vec3.dot B.row3 B.row3 ∧ (B.mul B.transpose).a23 = Vec3.dot B.row2 B.row3 ∧
    (B.mul B.transpose).a13 = Vec3.dot B.row1 B.row3 ∧ (B.mul B.transpose).a12 = Vec3.dot B.row1 B.row2 :=
  ⟨rfl, rfl, rfl, rfl, rfl, rfl⟩

theorem row_dots {p : CellCS ℝ} {Q : Mat3 ℝ} (h : Valid p Q) :
    let B := (ofCS p Q).base
    Vec3.dot B.row1 B.row1 = p.a * p.a ∧ Vec3.dot B.row2 B.row2 = p.b * p.b ∧ Vec3.dot B.row3 B.row3 = p.c * p.c ∧
    Vec3.dot B.row2 B.row3 = p.b * p.c * p.ca ∧ Vec3.dot B.row1 B.row3 = p.a * p.c * p.cb ∧
    Vec3.dot B.row1 B.row2 = p.a * p.b * p.cg := by
  intro B
  have hm := metrics_eq_gram h
  rw [ofCS_metrics] at hm
  -- the six dot products are, by definition, entries of `B·Bᵀ`
  exact ⟨(congrArg Mat3.a11 hm).symm, (congrArg Mat3.a22 hm).symm, (congrArg Mat3.a33 hm).symm,
    (congrArg Mat3.a23 hm).symm, (congrArg Mat3.a13 hm).symm, (congrArg Mat3.a12 hm).symm⟩

theorem row_norms {p : CellCS ℝ} {Q : Mat3 ℝ} (h : Valid p Q) :
    let B := (ofCS p Q).base
    Real.sqrt (Vec3.dot B.row1 B.row1) = p.a ∧ Real.sqrt (Vec3.dot B.row2 B.row2) = p.b ∧
    Real.sqrt (Vec3.dot B.row3 B.row3) = p.c := by
  intro B
  obtain ⟨h1, h2, h3, -, -, -⟩ := row_dots h
  exact ⟨by rw [h1, Real.sqrt_mul_self h.cs.a_pos.le], by rw [h2, Real.sqrt_mul_self h.cs.b_pos.le],
    by rw [h3, Real.sqrt_mul_self h.cs.c_pos.le]⟩

/-! #### reciprocal vectors -/

/-- the Cartesian reciprocal vector `h* = hkl · recbaseᵀ` pairs with direct-space vectors as `h*·cart u = hkl·u` -/
theorem recip_pairing {p : CellCS ℝ} {Q : Mat3 ℝ} (h : Valid p Q) (hkl u : Vec3 ℝ) :
    Vec3.dot (Mat3.vecMul hkl (ofCS p Q).recbase.transpose) ((ofCS p Q).cartesian u) = Vec3.dot hkl u := by
  rw [cartesian, Mat3.dot_vecMul, Mat3.transpose_transpose, Mat3.vecMul_mul, base_mul_recbase h, Mat3.vecMul_one]

theorem rnorm_eq (L : Lattice ℝ) (hkl : Vec3 ℝ) :
    L.rnorm hkl = Real.sqrt (Vec3.dot (Mat3.vecMul hkl L.recbase.transpose) (Mat3.vecMul hkl L.recbase.transpose)) := rfl

noncomputable def recipMetric (p : CellCS ℝ) : Mat3 ℝ :=
  metricsOf (p.sa / (p.a * p.V)) (p.sb / (p.b * p.V)) (p.sg / (p.c * p.V))
    ((p.cb * p.cg - p.ca) / (p.sb * p.sg)) ((p.ca * p.cg - p.cb) / (p.sa * p.sg)) ((p.ca * p.cb - p.cg) / (p.sa * p.sb))

theorem metricsOf_det (a b c ca cb cg : ℝ) :
    (metricsOf a b c ca cb cg).det = (a * b * c) ^ 2 * (1 + 2 * ca * cb * cg - ca * ca - cb * cb - cg * cg) := by
  simp only [metricsOf, Mat3.det]; ring

/-- `(abcV)²` is the determinant of the metric tensor -/
theorem recipMetric_eq {p : CellCS ℝ} (h : ValidCS p) :
    recipMetric p = Mat3.smul ((p.a * p.b * p.c * p.V) ^ 2)⁻¹ (metricsOf p.a p.b p.c p.ca p.cb p.cg).adj := by
  have hsa := h.sa_pos.ne'
  have hsb := h.sb_pos.ne'
  have hsg := h.sg_pos.ne'
  have ha := h.a_pos.ne'
  have hb := h.b_pos.ne'
  have hc := h.c_pos.ne'
  have hV := h.V_pos.ne'
  -- the off-diagonal entries are closed by `field_simp`; the diagonal ones need `sin² = 1 − cos²`
  apply Mat3.ext_of_isSymm (metricsOf_isSymm ..)
      (Mat3.isSymm_smul _ (Mat3.isSymm_adj (metricsOf_isSymm ..))) <;>
    simp only [Mat3.smul, Mat3.adj, metricsOf] <;> field_simp
  · linear_combination h.ha
  · linear_combination h.hb
  · linear_combination h.hg

theorem metrics_mul_recip {p : CellCS ℝ} (h : ValidCS p) :
    (metricsOf p.a p.b p.c p.ca p.cb p.cg).mul (recipMetric p) = Mat3.one := by
  have hd : (p.a * p.b * p.c * p.V) ^ 2 ≠ 0 :=
    pow_ne_zero 2 (mul_pos (mul_pos (mul_pos h.a_pos h.b_pos) h.c_pos) h.V_pos).ne'
  rw [recipMetric_eq h, Mat3.mul_smul, Mat3.mul_adj, Mat3.smul_smul, metricsOf_det, ← h.hV, ← pow_two, ← mul_pow,
    inv_mul_cancel₀ hd, Mat3.one_smul]

/-- the Gram matrix of the reciprocal base `recbaseᵀ` is the metric tensor of the reciprocal cell
parameters `ar br cr`, `cos αr, cos βr, cos γr` -/
theorem recip_gram {p : CellCS ℝ} {Q : Mat3 ℝ} (h : Valid p Q) :
    (ofCS p Q).recbase.transpose.mul (ofCS p Q).recbase.transpose.transpose = recipMetric p := by
  rw [Mat3.transpose_transpose]
  apply Mat3.left_inv_eq_right_inv (G := (ofCS p Q).metrics)
  · rw [metrics_eq_gram h, Mat3.mul_assoc, ← Mat3.mul_assoc (ofCS p Q).recbase, recbase_mul_base h, Mat3.one_mul,
      ← Mat3.transpose_mul, base_mul_recbase h, Mat3.transpose_one]
  · rw [ofCS_metrics]; exact metrics_mul_recip h.cs

/-! #### exact table values of `cosd`, periodicity, `sind` -/

/-- the table `_EXACT_COSD` of `lattice.py` -/
noncomputable def cosdTable : List (ℝ × ℝ) :=
  [(0, 1), (60, 1 / 2), (90, 0), (120, -(1 / 2)), (180, -1), (240, -(1 / 2)), (270, 0), (300, 1 / 2)]

theorem cosd_table_exact : ∀ e ∈ cosdTable, (Elem.cosd e.1 : ℝ) = e.2 := by
  intro e he
  simp only [cosdTable, List.mem_cons, List.not_mem_nil, or_false] at he
  rcases he with rfl | rfl | rfl | rfl | rfl | rfl | rfl | rfl <;> simp only [elem_cosd]
  · simp
  · rw [show (60 : ℝ) * π / 180 = π / 3 by ring]; exact Real.cos_pi_div_three
  · rw [show (90 : ℝ) * π / 180 = π / 2 by ring]; exact Real.cos_pi_div_two
  · rw [show (120 : ℝ) * π / 180 = π - π / 3 by ring, Real.cos_pi_sub, Real.cos_pi_div_three]
  · rw [show (180 : ℝ) * π / 180 = π by ring]; exact Real.cos_pi
  · rw [show (240 : ℝ) * π / 180 = π / 3 + π by ring, Real.cos_add_pi, Real.cos_pi_div_three]
  · rw [show (270 : ℝ) * π / 180 = π / 2 + π by ring, Real.cos_add_pi, Real.cos_pi_div_two]; simp
  · rw [show (300 : ℝ) * π / 180 = 2 * π - π / 3 by ring, Real.cos_two_pi_sub, Real.cos_pi_div_three]

/-- `cosd (x + 360·k) = cosd x`: reducing the argument modulo 360 before the table lookup is sound -/
theorem cosd_periodic (x : ℝ) (k : ℤ) : (Elem.cosd (x + 360 * k) : ℝ) = Elem.cosd x := by
  simp only [elem_cosd]
  rw [show (x + 360 * (k : ℝ)) * π / 180 = x * π / 180 + k * (2 * π) by ring]
  exact Real.cos_add_int_mul_two_pi _ k

/-- `sind x = cosd (90 − x)` (the definition used by `lattice.sind`) -/
theorem sind_eq_cosd (x : ℝ) : (Elem.sind x : ℝ) = Elem.cosd (90 - x) := by
  simp only [elem_sind, elem_cosd]
  rw [show (90 - x) * π / 180 = π / 2 - x * π / 180 by ring, Real.cos_pi_div_two_sub]

/-! #### validity of cells given by lengths and angles in degrees -/

/-- a valid cell: positive lengths, angles strictly between 0° and 180°, positive volume -/
structure ValidPar (a b c al be ga : ℝ) : Prop where
  a_pos : 0 < a
  b_pos : 0 < b
  c_pos : 0 < c
  al_pos : 0 < al
  al_lt : al < 180
  be_pos : 0 < be
  be_lt : be < 180
  ga_pos : 0 < ga
  ga_lt : ga < 180
  vol_pos : 0 < 1 + 2 * Real.cos (al * π / 180) * Real.cos (be * π / 180) * Real.cos (ga * π / 180)
    - Real.cos (al * π / 180) * Real.cos (al * π / 180) - Real.cos (be * π / 180) * Real.cos (be * π / 180)
    - Real.cos (ga * π / 180) * Real.cos (ga * π / 180)

theorem deg_range {x : ℝ} (h0 : 0 < x) (h1 : x < 180) : 0 < x * π / 180 ∧ x * π / 180 < π := by
  have := Real.pi_pos
  constructor
  · positivity
  · rw [div_lt_iff₀ (by norm_num : (0:ℝ) < 180)]; nlinarith

theorem validCS_csOfPar {a b c al be ga : ℝ} (h : ValidPar a b c al be ga) : ValidCS (csOfPar a b c al be ga) := by
  obtain ⟨a0, a1⟩ := deg_range h.al_pos h.al_lt
  obtain ⟨b0, b1⟩ := deg_range h.be_pos h.be_lt
  obtain ⟨g0, g1⟩ := deg_range h.ga_pos h.ga_lt
  refine ⟨h.a_pos, h.b_pos, h.c_pos, ?_, ?_, ?_, ?_, ?_, ?_, ?_, ?_⟩
  · simp only [csOfPar, elem_cosd, elem_sind]; linear_combination Real.sin_sq_add_cos_sq (al * π / 180)
  · simp only [csOfPar, elem_cosd, elem_sind]; linear_combination Real.sin_sq_add_cos_sq (be * π / 180)
  · simp only [csOfPar, elem_cosd, elem_sind]; linear_combination Real.sin_sq_add_cos_sq (ga * π / 180)
  · exact Real.sin_pos_of_pos_of_lt_pi a0 a1
  · exact Real.sin_pos_of_pos_of_lt_pi b0 b1
  · exact Real.sin_pos_of_pos_of_lt_pi g0 g1
  · simp only [csOfPar, unitvol, elem_cosd, elem_sqrt]; exact Real.mul_self_sqrt h.vol_pos.le
  · simp only [csOfPar, unitvol, elem_cosd, elem_sqrt]; exact Real.sqrt_pos.mpr h.vol_pos

theorem valid_ofPar {a b c al be ga : ℝ} {Q : Mat3 ℝ} (h : ValidPar a b c al be ga) (hQ : IsRot Q) :
    Valid (csOfPar a b c al be ga) Q := ⟨validCS_csOfPar h, hQ⟩

/-- `volume = det base` -/
theorem volume_eq_det {a b c al be ga : ℝ} {Q : Mat3 ℝ} (h : ValidPar a b c al be ga) (hQ : IsRot Q) :
    (ofPar a b c al be ga Q).volume = (ofPar a b c al be ga Q).base.det := by
  rw [ofPar, base_det (valid_ofPar h hQ)]; rfl


/-! #### `setLatBase`: parameters recovered from base vectors -/

/-- the record `setLatBase` computes from lengths and cosines (lines 398–411) -/
noncomputable def csOfCos (a b c ca cb cg : ℝ) : CellCS ℝ :=
  { a := a, b := b, c := c
    alpha := Elem.acosd ca, beta := Elem.acosd cb, gamma := Elem.acosd cg
    ca := ca, cb := cb, cg := cg
    sa := Elem.sqrt (1 - ca * ca), sb := Elem.sqrt (1 - cb * cb), sg := Elem.sqrt (1 - cg * cg)
    V := unitvol (Elem.cosd (Elem.acosd ca)) (Elem.cosd (Elem.acosd cb)) (Elem.cosd (Elem.acosd cg)) }

theorem csOfBase_eq_csOfCos (B : Mat3 ℝ) :
    csOfBase B = csOfCos (Real.sqrt (Vec3.dot B.row1 B.row1)) (Real.sqrt (Vec3.dot B.row2 B.row2))
      (Real.sqrt (Vec3.dot B.row3 B.row3))
      (Vec3.dot B.row2 B.row3 / (Real.sqrt (Vec3.dot B.row2 B.row2) * Real.sqrt (Vec3.dot B.row3 B.row3)))
      (Vec3.dot B.row1 B.row3 / (Real.sqrt (Vec3.dot B.row1 B.row1) * Real.sqrt (Vec3.dot B.row3 B.row3)))
      (Vec3.dot B.row1 B.row2 / (Real.sqrt (Vec3.dot B.row1 B.row1) * Real.sqrt (Vec3.dot B.row2 B.row2))) := rfl

/-- if the Gram matrix of `B` is the metric tensor of `a b c ca cb cg` (positive lengths), `setLatBase`
recovers exactly these lengths and cosines -/
theorem csOfBase_of_gram {B : Mat3 ℝ} {a b c ca cb cg : ℝ} (ha : 0 < a) (hb : 0 < b) (hc : 0 < c)
    (hG : B.mul B.transpose = metricsOf a b c ca cb cg) : csOfBase B = csOfCos a b c ca cb cg := by
  obtain ⟨g11, g22, g33, g23, g13, g12⟩ := gram_entries B
  rw [hG] at g11 g22 g33 g23 g13 g12
  simp only [metricsOf] at g11 g22 g33 g23 g13 g12
  rw [csOfBase_eq_csOfCos, ← g11, ← g22, ← g33, ← g23, ← g13, ← g12,
    Real.sqrt_mul_self ha.le, Real.sqrt_mul_self hb.le, Real.sqrt_mul_self hc.le]
  have e1 : b * c * ca / (b * c) = ca := by field_simp
  have e2 : a * c * cb / (a * c) = cb := by field_simp
  have e3 : a * b * cg / (a * b) = cg := by field_simp
  rw [e1, e2, e3]

theorem cosd_acosd {x : ℝ} (h0 : -1 ≤ x) (h1 : x ≤ 1) : (Elem.cosd (Elem.acosd x : ℝ) : ℝ) = x := by
  simp only [elem_cosd, elem_acosd]
  rw [show Real.arccos x * 180 / π * π / 180 = Real.arccos x by field_simp]
  exact Real.cos_arccos h0 h1

theorem sind_acosd (x : ℝ) : (Elem.sind (Elem.acosd x : ℝ) : ℝ) = Real.sqrt (1 - x * x) := by
  simp only [elem_sind, elem_acosd]
  rw [show Real.arccos x * 180 / π * π / 180 = Real.arccos x by field_simp, Real.sin_arccos, pow_two]

theorem acosd_cosd {x : ℝ} (h0 : 0 < x) (h1 : x < 180) : (Elem.acosd (Elem.cosd x : ℝ) : ℝ) = x := by
  obtain ⟨r0, r1⟩ := deg_range h0 h1
  simp only [elem_cosd, elem_acosd]
  rw [Real.arccos_cos r0.le r1.le]; field_simp

/-- `assemble` only looks at `orient stdbase` -/
theorem assemble_congr (p : CellCS ℝ) (o1 o2 : Mat3 ℝ → Mat3 ℝ × Mat3 ℝ)
    (h : o1 (assemble p o1).stdbase = o2 (assemble p o1).stdbase) : assemble p o1 = assemble p o2 := by
  simp only [assemble] at h ⊢
  rw [h]

theorem S0_det_ne {p : CellCS ℝ} (h : ValidCS p) : (S0 p).det ≠ 0 := by
  rw [S0_det p h]
  exact (mul_pos (mul_pos (mul_pos h.a_pos h.b_pos) h.c_pos) h.V_pos).ne'

/-- for valid data `p = csOfBase B`, `setLatBase B` is `setLatPar` with the recovered data and rotation `stdbase⁻¹·B` -/
theorem ofBase_eq_ofCS {B : Mat3 ℝ} {p : CellCS ℝ} (hp : csOfBase B = p) (h : ValidCS p) :
    ofBase B = ofCS p ((S0 p).inv.mul B) := by
  rw [ofBase, hp, ofCS]
  apply assemble_congr
  rw [stdbase_eq h]
  show ((S0 p).inv.mul B, B) = ((S0 p).inv.mul B, (S0 p).mul ((S0 p).inv.mul B))
  rw [← Mat3.mul_assoc, Mat3.mul_inv (S0_det_ne h), Mat3.one_mul]

/-- the first of the two views: building the lattice from the base vectors of `ofCS p Q` gives `ofCS p Q` back -/
theorem ofBase_base {p : CellCS ℝ} {Q : Mat3 ℝ} (h : Valid p Q) (hp : csOfBase (ofCS p Q).base = p) :
    ofBase (ofCS p Q).base = ofCS p Q := by
  rw [ofBase_eq_ofCS hp h.cs, ofCS_base h.cs, ← Mat3.mul_assoc, Mat3.inv_mul (S0_det_ne h.cs), Mat3.one_mul]


/-! #### arbitrary base with positive determinant -/

theorem det_triple1 (B : Mat3 ℝ) : B.det = Vec3.dot B.row1 (Vec3.cross B.row2 B.row3) := by
  simp only [Mat3.det, Vec3.dot, Vec3.cross, Mat3.row1, Mat3.row2, Mat3.row3]; ring
theorem det_triple2 (B : Mat3 ℝ) : B.det = Vec3.dot B.row2 (Vec3.cross B.row3 B.row1) := by
  simp only [Mat3.det, Vec3.dot, Vec3.cross, Mat3.row1, Mat3.row2, Mat3.row3]; ring
theorem det_triple3 (B : Mat3 ℝ) : B.det = Vec3.dot B.row3 (Vec3.cross B.row1 B.row2) := by
  simp only [Mat3.det, Vec3.dot, Vec3.cross, Mat3.row1, Mat3.row2, Mat3.row3]; ring

theorem dot_comm (x y : Vec3 ℝ) : Vec3.dot x y = Vec3.dot y x := by simp only [Vec3.dot]; ring

theorem both_pos {d n L : ℝ} (hd : d ≠ 0) (hn : 0 ≤ n) (hL : 0 ≤ L) (h : d ^ 2 ≤ n * L) : 0 < n ∧ 0 < L := by
  have hnL : 0 < n * L := lt_of_lt_of_le (by positivity) h
  rcases pos_and_pos_or_neg_and_neg_of_mul_pos hnL with hp | hp
  · exact hp
  · exact absurd hp.1 (not_lt.mpr hn)

/-- rows of a non-singular matrix are non-zero and pairwise non-parallel (strict Cauchy–Schwarz) -/
theorem rows_of_det_ne {B : Mat3 ℝ} (hB : B.det ≠ 0) :
    0 < Vec3.dot B.row1 B.row1 ∧ 0 < Vec3.dot B.row2 B.row2 ∧ 0 < Vec3.dot B.row3 B.row3 ∧
    0 < Vec3.dot B.row2 B.row2 * Vec3.dot B.row3 B.row3 - (Vec3.dot B.row2 B.row3) ^ 2 ∧
    0 < Vec3.dot B.row1 B.row1 * Vec3.dot B.row3 B.row3 - (Vec3.dot B.row1 B.row3) ^ 2 ∧
    0 < Vec3.dot B.row1 B.row1 * Vec3.dot B.row2 B.row2 - (Vec3.dot B.row1 B.row2) ^ 2 := by
  have h1 := cauchy_schwarz B.row1 (Vec3.cross B.row2 B.row3)
  have h2 := cauchy_schwarz B.row2 (Vec3.cross B.row3 B.row1)
  have h3 := cauchy_schwarz B.row3 (Vec3.cross B.row1 B.row2)
  rw [← det_triple1, lagrange] at h1
  rw [← det_triple2, lagrange] at h2
  rw [← det_triple3, lagrange] at h3
  have l1 := dot_self_nonneg (Vec3.cross B.row2 B.row3)
  have l2 := dot_self_nonneg (Vec3.cross B.row3 B.row1)
  have l3 := dot_self_nonneg (Vec3.cross B.row1 B.row2)
  rw [lagrange] at l1 l2 l3
  obtain ⟨p1, q1⟩ := both_pos hB (dot_self_nonneg _) l1 h1
  obtain ⟨p2, q2⟩ := both_pos hB (dot_self_nonneg _) l2 h2
  obtain ⟨p3, q3⟩ := both_pos hB (dot_self_nonneg _) l3 h3
  refine ⟨p1, p2, p3, q1, ?_, q3⟩
  rw [dot_comm B.row1 B.row3, mul_comm]; exact q2

theorem abs_lt_one_of {x : ℝ} (h : 0 < 1 - x * x) : -1 < x ∧ x < 1 :=
  abs_lt_of_sq_lt_sq' (by linarith [sq x]) zero_le_one

theorem abs_le_one_of {x : ℝ} (h : 0 < 1 - x * x) : -1 ≤ x ∧ x ≤ 1 :=
  ⟨(abs_lt_one_of h).1.le, (abs_lt_one_of h).2.le⟩

theorem validCS_csOfCos {a b c ca cb cg : ℝ} (ha : 0 < a) (hb : 0 < b) (hc : 0 < c)
    (h1 : 0 < 1 - ca * ca) (h2 : 0 < 1 - cb * cb) (h3 : 0 < 1 - cg * cg)
    (hE : 0 < 1 + 2 * ca * cb * cg - ca * ca - cb * cb - cg * cg) : ValidCS (csOfCos a b c ca cb cg) := by
  obtain ⟨a0, a1⟩ := abs_le_one_of h1
  obtain ⟨b0, b1⟩ := abs_le_one_of h2
  obtain ⟨g0, g1⟩ := abs_le_one_of h3
  refine ⟨ha, hb, hc, ?_, ?_, ?_, ?_, ?_, ?_, ?_, ?_⟩
  · simp only [csOfCos, elem_sqrt]; rw [Real.mul_self_sqrt h1.le]; ring
  · simp only [csOfCos, elem_sqrt]; rw [Real.mul_self_sqrt h2.le]; ring
  · simp only [csOfCos, elem_sqrt]; rw [Real.mul_self_sqrt h3.le]; ring
  · exact Real.sqrt_pos.mpr h1
  · exact Real.sqrt_pos.mpr h2
  · exact Real.sqrt_pos.mpr h3
  · simp only [csOfCos, unitvol]; rw [cosd_acosd a0 a1, cosd_acosd b0 b1, cosd_acosd g0 g1]
    exact Real.mul_self_sqrt hE.le
  · simp only [csOfCos, unitvol]; rw [cosd_acosd a0 a1, cosd_acosd b0 b1, cosd_acosd g0 g1]
    exact Real.sqrt_pos.mpr hE

theorem one_sub_cos_sq_pos {n2 n3 d b c : ℝ} (hb : 0 < b) (hc : 0 < c) (hb2 : b * b = n2) (hc2 : c * c = n3)
    (hL : 0 < n2 * n3 - d ^ 2) : 0 < 1 - d / (b * c) * (d / (b * c)) := by
  have hbc : 0 < b * c := mul_pos hb hc
  have : 1 - d / (b * c) * (d / (b * c)) = (n2 * n3 - d ^ 2) / ((b * c) * (b * c)) := by
    rw [← hb2, ← hc2]; field_simp
  rw [this]; exact div_pos hL (mul_pos hbc hbc)

/-- `setLatBase` on any right-handed base: the recovered data are valid and reproduce the Gram matrix -/
theorem csOfBase_valid {B : Mat3 ℝ} (hB : 0 < B.det) :
    ValidCS (csOfBase B) ∧
    B.mul B.transpose = metricsOf (csOfBase B).a (csOfBase B).b (csOfBase B).c (csOfBase B).ca (csOfBase B).cb (csOfBase B).cg := by
  obtain ⟨n1, n2, n3, l23, l13, l12⟩ := rows_of_det_ne hB.ne'
  rw [csOfBase_eq_csOfCos]
  set a := Real.sqrt (Vec3.dot B.row1 B.row1) with hadef
  set b := Real.sqrt (Vec3.dot B.row2 B.row2) with hbdef
  set c := Real.sqrt (Vec3.dot B.row3 B.row3) with hcdef
  have ha : 0 < a := Real.sqrt_pos.mpr n1
  have hb : 0 < b := Real.sqrt_pos.mpr n2
  have hc : 0 < c := Real.sqrt_pos.mpr n3
  have ha2 : a * a = Vec3.dot B.row1 B.row1 := Real.mul_self_sqrt n1.le
  have hb2 : b * b = Vec3.dot B.row2 B.row2 := Real.mul_self_sqrt n2.le
  have hc2 : c * c = Vec3.dot B.row3 B.row3 := Real.mul_self_sqrt n3.le
  have hG : B.mul B.transpose = metricsOf a b c (Vec3.dot B.row2 B.row3 / (b * c)) (Vec3.dot B.row1 B.row3 / (a * c))
      (Vec3.dot B.row1 B.row2 / (a * b)) :=
    eq_metricsOf (Mat3.isSymm_transpose_mul_self B.transpose) ha.ne' hb.ne' hc.ne' ha2.symm hb2.symm hc2.symm
  refine ⟨?_, by simpa only [csOfCos] using hG⟩
  apply validCS_csOfCos ha hb hc
  · exact one_sub_cos_sq_pos hb hc hb2 hc2 l23
  · exact one_sub_cos_sq_pos ha hc ha2 hc2 l13
  · exact one_sub_cos_sq_pos ha hb ha2 hb2 l12
  · have hd := Mat3.gram_det B
    rw [hG, metricsOf_det] at hd
    have habc : 0 < (a * b * c) ^ 2 := by positivity
    have : 0 < (a * b * c) ^ 2 * (1 + 2 * (Vec3.dot B.row2 B.row3 / (b * c)) * (Vec3.dot B.row1 B.row3 / (a * c)) *
        (Vec3.dot B.row1 B.row2 / (a * b)) - Vec3.dot B.row2 B.row3 / (b * c) * (Vec3.dot B.row2 B.row3 / (b * c)) -
        Vec3.dot B.row1 B.row3 / (a * c) * (Vec3.dot B.row1 B.row3 / (a * c)) -
        Vec3.dot B.row1 B.row2 / (a * b) * (Vec3.dot B.row1 B.row2 / (a * b))) := by
      rw [hd]; positivity
    exact (pos_iff_pos_of_mul_pos this).mp habc


/-- `R = S⁻¹·B` is a proper rotation when `S·Sᵀ = B·Bᵀ` and both determinants are positive -/
theorem isRot_of_gram {S B : Mat3 ℝ} (hS : 0 < S.det) (hB : 0 < B.det)
    (hG : S.mul S.transpose = B.mul B.transpose) : IsRot (S.inv.mul B) := by
  constructor
  · rw [Mat3.transpose_mul, Mat3.mul_assoc, ← Mat3.mul_assoc B, ← hG, Mat3.mul_assoc S, ← Mat3.mul_assoc S.inv,
      Mat3.inv_mul hS.ne', Mat3.one_mul, ← Mat3.transpose_mul, Mat3.inv_mul hS.ne', Mat3.transpose_one]
  · have h2 : S.det ^ 2 = B.det ^ 2 := by rw [← Mat3.gram_det, ← Mat3.gram_det, hG]
    rw [Mat3.det_mul, ← (sq_eq_sq₀ hS.le hB.le).mp h2]; exact Mat3.det_inv hS.ne'

/-- every right-handed base is `setLatPar` of valid data with a proper rotation -/
theorem ofBase_sound {B : Mat3 ℝ} (hB : 0 < B.det) :
    Valid (csOfBase B) ((S0 (csOfBase B)).inv.mul B) ∧
    ofBase B = ofCS (csOfBase B) ((S0 (csOfBase B)).inv.mul B) := by
  obtain ⟨hv, hG⟩ := csOfBase_valid hB
  refine ⟨⟨hv, ?_⟩, ofBase_eq_ofCS rfl hv⟩
  apply isRot_of_gram _ hB
  · rw [S0_gram hv, hG]
  · rw [S0_det _ hv]; exact mul_pos (mul_pos (mul_pos hv.a_pos hv.b_pos) hv.c_pos) hv.V_pos

theorem ofBase_fields (B : Mat3 ℝ) :
    (ofBase B).base = B ∧ (ofBase B).recbase = B.inv ∧
    (ofBase B).baserot = (ofBase B).stdbase.inv.mul B := ⟨rfl, rfl, rfl⟩

/-- `stdbase · baserot = base` after `setLatBase` -/
theorem ofBase_std_rot {B : Mat3 ℝ} (hB : 0 < B.det) : (ofBase B).stdbase.mul (ofBase B).baserot = B := by
  obtain ⟨hv, h⟩ := ofBase_sound hB
  rw [h, ofCS_stdbase hv.cs, ofCS_baserot, ← Mat3.mul_assoc, Mat3.mul_inv (S0_det_ne hv.cs), Mat3.one_mul]

/-! #### the two views and coherence -/

/-- recomputing cosines, sines and the volume from the recovered angles gives the same data -/
theorem csOfPar_csOfCos {a b c ca cb cg : ℝ} (h1 : 0 < 1 - ca * ca) (h2 : 0 < 1 - cb * cb) (h3 : 0 < 1 - cg * cg) :
    csOfPar a b c (Elem.acosd ca) (Elem.acosd cb) (Elem.acosd cg) = csOfCos a b c ca cb cg := by
  obtain ⟨a0, a1⟩ := abs_le_one_of h1
  obtain ⟨b0, b1⟩ := abs_le_one_of h2
  obtain ⟨g0, g1⟩ := abs_le_one_of h3
  apply CellCS.ext <;> simp only [csOfPar, csOfCos]
  · exact cosd_acosd a0 a1
  · exact cosd_acosd b0 b1
  · exact cosd_acosd g0 g1
  · exact sind_acosd ca
  · exact sind_acosd cb
  · exact sind_acosd cg

/-- for angles in (0°, 180°) the data recovered from the cosines are the data computed from the angles -/
theorem csOfCos_cosd {a b c al be ga : ℝ} (h : ValidPar a b c al be ga) :
    csOfCos a b c (Elem.cosd al) (Elem.cosd be) (Elem.cosd ga) = csOfPar a b c al be ga := by
  have hv := validCS_csOfPar h
  have e1 := acosd_cosd h.al_pos h.al_lt
  have e2 := acosd_cosd h.be_pos h.be_lt
  have e3 := acosd_cosd h.ga_pos h.ga_lt
  have key {s c : ℝ} (h : s * s + c * c = 1) (hs : 0 < s) : Real.sqrt (1 - c * c) = s := by
    rw [show 1 - c * c = s * s by linear_combination -h]; exact Real.sqrt_mul_self hs.le
  have s1 : Real.sqrt (1 - (Elem.cosd al : ℝ) * Elem.cosd al) = Elem.sind al := key hv.ha hv.sa_pos
  have s2 : Real.sqrt (1 - (Elem.cosd be : ℝ) * Elem.cosd be) = Elem.sind be := key hv.hb hv.sb_pos
  have s3 : Real.sqrt (1 - (Elem.cosd ga : ℝ) * Elem.cosd ga) = Elem.sind ga := key hv.hg hv.sg_pos
  apply CellCS.ext <;> simp only [csOfPar, csOfCos, elem_sqrt]
  · exact e1
  · exact e2
  · exact e3
  · exact s1
  · exact s2
  · exact s3
  · rw [e1, e2, e3]

/-- **two views, part 1**: the lattice built from the base vectors of `Lattice(a,b,c,α,β,γ,baserot=Q)` is that lattice -/
theorem ofBase_ofPar_base {a b c al be ga : ℝ} {Q : Mat3 ℝ} (h : ValidPar a b c al be ga) (hQ : IsRot Q) :
    ofBase (ofPar a b c al be ga Q).base = ofPar a b c al be ga Q := by
  have hv := valid_ofPar h hQ
  rw [ofPar]
  apply ofBase_base hv
  have hG := (metrics_eq_gram hv).symm
  rw [ofCS_metrics] at hG
  rw [csOfBase_of_gram h.a_pos h.b_pos h.c_pos hG]
  exact csOfCos_cosd h

theorem ofCS_coherent (p : CellCS ℝ) (Q : Mat3 ℝ) (e : csOfPar p.a p.b p.c p.alpha p.beta p.gamma = p) :
    ofCS p Q = ofPar (ofCS p Q).a (ofCS p Q).b (ofCS p Q).c (ofCS p Q).alpha (ofCS p Q).beta (ofCS p Q).gamma
      (ofCS p Q).baserot := by
  show ofCS p Q = ofCS (csOfPar p.a p.b p.c p.alpha p.beta p.gamma) Q
  rw [e]

/-- **coherence of `setLatBase`** (two views, part 2): every attribute computed by `setLatBase` equals the one
`setLatPar` computes from the recovered parameters and rotation -/
theorem ofBase_coherent {B : Mat3 ℝ} (hB : 0 < B.det) :
    ofBase B = ofPar (ofBase B).a (ofBase B).b (ofBase B).c (ofBase B).alpha (ofBase B).beta (ofBase B).gamma
      (ofBase B).baserot := by
  obtain ⟨hv, h⟩ := ofBase_sound hB
  obtain ⟨q1, q2, q3⟩ := hv.cs.cos_sq_lt
  rw [h]
  exact ofCS_coherent _ _ (csOfPar_csOfCos q1 q2 q3)


/-! #### C10: well-formed objects, operations, histories -/

theorem arccos_deg_range {x : ℝ} (h : 0 < 1 - x * x) :
    0 < (Elem.acosd x : ℝ) ∧ (Elem.acosd x : ℝ) < 180 := by
  obtain ⟨h0, h1⟩ := abs_lt_one_of h
  have hp := Real.pi_pos
  have p0 : 0 < Real.arccos x := Real.arccos_pos.mpr h1
  have p1 : Real.arccos x < π :=
    lt_of_le_of_ne (Real.arccos_le_pi x) (fun e => absurd (Real.arccos_eq_pi.mp e) (not_le.mpr h0))
  simp only [elem_acosd]
  constructor
  · positivity
  · rw [div_lt_iff₀ hp]; nlinarith

theorem ofBase_validPar {B : Mat3 ℝ} (hB : 0 < B.det) :
    ValidPar (ofBase B).a (ofBase B).b (ofBase B).c (ofBase B).alpha (ofBase B).beta (ofBase B).gamma := by
  obtain ⟨hv, -⟩ := ofBase_sound hB
  have hc := hv.cs
  obtain ⟨q1, q2, q3⟩ := hc.cos_sq_lt
  obtain ⟨a0, a1⟩ := arccos_deg_range q1
  obtain ⟨b0, b1⟩ := arccos_deg_range q2
  obtain ⟨g0, g1⟩ := arccos_deg_range q3
  refine ⟨hc.a_pos, hc.b_pos, hc.c_pos, a0, a1, b0, b1, g0, g1, ?_⟩
  -- the volume condition is `0 < V²`, written with `cosd` of the recovered angles
  have hV : 0 < (csOfBase B).V * (csOfBase B).V := mul_pos hc.V_pos hc.V_pos
  rw [hc.hV, ← cosd_acosd (abs_le_one_of q1).1 (abs_le_one_of q1).2,
    ← cosd_acosd (abs_le_one_of q2).1 (abs_le_one_of q2).2, ← cosd_acosd (abs_le_one_of q3).1 (abs_le_one_of q3).2] at hV
  exact hV

/-- a well-formed lattice object: every cached attribute is the one `setLatPar` computes from the stored
parameters and rotation (coherence), the parameters are a valid cell and the rotation is proper -/
structure WF (L : Lattice ℝ) : Prop where
  coherent : L = ofPar L.a L.b L.c L.alpha L.beta L.gamma L.baserot
  par : ValidPar L.a L.b L.c L.alpha L.beta L.gamma
  rot : IsRot L.baserot

theorem wf_ofPar {a b c al be ga : ℝ} {Q : Mat3 ℝ} (h : ValidPar a b c al be ga) (hQ : IsRot Q) :
    WF (ofPar a b c al be ga Q) := ⟨rfl, h, hQ⟩

theorem wf_ofBase {B : Mat3 ℝ} (hB : 0 < B.det) : WF (ofBase B) := by
  refine ⟨ofBase_coherent hB, ofBase_validPar hB, ?_⟩
  obtain ⟨hv, h⟩ := ofBase_sound hB
  have hr : (ofBase B).baserot = (S0 (csOfBase B)).inv.mul B := by rw [h]; rfl
  rw [hr]; exact hv.rot

theorem wf_base_det {L : Lattice ℝ} (h : WF L) : 0 < L.base.det ∧ L.recbase = L.base.inv := by
  rw [h.coherent]
  exact ⟨base_det_pos (valid_ofPar h.par h.rot), rfl⟩

theorem wf_reciprocal {L : Lattice ℝ} (h : WF L) : WF L.reciprocal := by
  obtain ⟨hd, hr⟩ := wf_base_det h
  apply wf_ofBase
  rw [Mat3.det_transpose, hr]
  have := Mat3.det_inv hd.ne'
  exact (pos_iff_pos_of_mul_pos (by rw [this]; exact one_pos)).mpr hd

theorem validPar_default : ValidPar 1 1 1 90 90 90 := by
  have h90 : Real.cos ((90 : ℝ) * π / 180) = 0 := by
    rw [show (90 : ℝ) * π / 180 = π / 2 by ring]; exact Real.cos_pi_div_two
  refine ⟨one_pos, one_pos, one_pos, by norm_num, by norm_num, by norm_num, by norm_num, by norm_num, by norm_num, ?_⟩
  rw [h90]; norm_num

/-- the merged arguments of a `setLatPar` call are a valid cell with a proper rotation -/
def ValidArgs (L : Lattice ℝ) (p : ParArgs ℝ) : Prop :=
  ValidPar (p.a.getD L.a) (p.b.getD L.b) (p.c.getD L.c) (p.alpha.getD L.alpha) (p.beta.getD L.beta) (p.gamma.getD L.gamma) ∧
  IsRot (p.baserot.getD L.baserot)

/-- "valid" operation in the world `w`: every cell that results has positive lengths, angles in (0°,180°), positive
volume and a proper rotation; bases are right-handed.  (A call that raises is outside the quantifier.) -/
def ValidOp (w : List (Lattice ℝ)) : Op ℝ → Prop
  | .newDefault => True
  | .newPar a b c al be ga rot => ValidPar a b c al be ga ∧ IsRot (rot.getD Mat3.one)
  | .newBase B => 0 < B.det
  | .copy _ => True
  | .recip _ => True
  | .setPar i p => ∀ L, w[i]? = some L → ValidArgs L p
  | .setProp i k v => ∀ L p, w[i]? = some L → propArgs k v = some p → ValidArgs L p
  | .setBase _ B => 0 < B.det

def ValidRun (w : List (Lattice ℝ)) : List (Op ℝ) → Prop
  | [] => True
  | op :: ops => ValidOp w op ∧ ∀ w', step w op = some w' → ValidRun w' ops

theorem wf_setLatPar (L : Lattice ℝ) (p : ParArgs ℝ) (h : ValidArgs L p) : WF (L.setLatPar p) := by
  rw [setLatPar_eq]; exact wf_ofPar h.1 h.2

theorem wf_append {w : List (Lattice ℝ)} {X : Lattice ℝ} (hw : ∀ L ∈ w, WF L) (hX : WF X) : ∀ L ∈ w ++ [X], WF L := by
  intro L hL
  rcases List.mem_append.mp hL with h | h
  · exact hw L h
  · rw [List.mem_singleton.mp h]; exact hX

theorem wf_set {w : List (Lattice ℝ)} {X : Lattice ℝ} (i : Nat) (hw : ∀ L ∈ w, WF L) (hX : WF X) : ∀ L ∈ w.set i X, WF L := by
  intro L hL
  rcases List.mem_or_eq_of_mem_set hL with h | h
  · exact hw L h
  · rw [h]; exact hX

theorem step_wf {w w' : List (Lattice ℝ)} {op : Op ℝ} (hw : ∀ L ∈ w, WF L) (hop : ValidOp w op)
    (hs : step w op = some w') : ∀ L ∈ w', WF L := by
  cases op with
  | newDefault =>
    simp only [step, Option.some.injEq] at hs; subst hs
    exact wf_append hw (wf_ofPar validPar_default isRot_one)
  | newPar a b c al be ga rot =>
    simp only [step, Option.some.injEq] at hs; subst hs
    exact wf_append hw (wf_ofPar hop.1 hop.2)
  | newBase B =>
    simp only [step, Option.some.injEq] at hs; subst hs
    exact wf_append hw (wf_ofBase hop)
  | copy i =>
    simp only [step, Option.map_eq_some_iff] at hs
    obtain ⟨X, hX, rfl⟩ := hs
    exact wf_append hw (hw X (List.mem_of_getElem? hX))
  | recip i =>
    simp only [step, Option.map_eq_some_iff] at hs
    obtain ⟨X, hX, rfl⟩ := hs
    exact wf_append hw (wf_reciprocal (hw X (List.mem_of_getElem? hX)))
  | setPar i p =>
    simp only [step, Option.map_eq_some_iff] at hs
    obtain ⟨X, hX, rfl⟩ := hs
    exact wf_set i hw (wf_setLatPar X p (hop X hX))
  | setProp i k v =>
    simp only [step, Option.bind_eq_some_iff, Option.map_eq_some_iff] at hs
    obtain ⟨X, hX, p, hp, rfl⟩ := hs
    exact wf_set i hw (wf_setLatPar X p (hop X p hX hp))
  | setBase i B =>
    simp only [step, Option.map_eq_some_iff] at hs
    obtain ⟨X, hX, rfl⟩ := hs
    rw [setLatBase_eq]
    exact wf_set i hw (wf_ofBase hop)

theorem run_wf : ∀ (ops : List (Op ℝ)) (w w' : List (Lattice ℝ)), (∀ L ∈ w, WF L) → ValidRun w ops →
    run w ops = some w' → ∀ L ∈ w', WF L
  | [], w, w', hw, _, hr => by
    simp only [run, Option.some.injEq] at hr; subst hr; exact hw
  | op :: ops, w, w', hw, hv, hr => by
    simp only [run, Option.bind_eq_some_iff] at hr
    obtain ⟨w1, h1, h2⟩ := hr
    exact run_wf ops w1 w' (step_wf hw hv.1 h1) (hv.2 w1 h1) h2


/-! #### reciprocal lattice -/

/-- the reciprocal of the reciprocal has the original base vectors -/
theorem recip_recip_base {L : Lattice ℝ} (h : WF L) : L.reciprocal.reciprocal.base = L.base := by
  obtain ⟨hd, hr⟩ := wf_base_det h
  show (L.recbase.transpose.inv).transpose = L.base
  rw [Mat3.inv_transpose, Mat3.transpose_transpose, hr, Mat3.inv_inv hd.ne']

/-- the cell parameters of the reciprocal lattice are the cached reciprocal parameters -/
theorem recip_params {L : Lattice ℝ} (h : WF L) :
    L.reciprocal.a = L.ar ∧ L.reciprocal.b = L.br ∧ L.reciprocal.c = L.cr ∧
    L.reciprocal.alpha = L.alphar ∧ L.reciprocal.beta = L.betar ∧ L.reciprocal.gamma = L.gammar ∧
    L.reciprocal.ca = L.car ∧ L.reciprocal.cb = L.cbr ∧ L.reciprocal.cg = L.cgr ∧
    L.reciprocal.sa = L.sar ∧ L.reciprocal.sb = L.sbr ∧ L.reciprocal.sg = L.sgr ∧
    L.reciprocal.base = L.recbase.transpose := by
  have hv := valid_ofPar h.par h.rot
  have hc := hv.cs
  rw [h.coherent]
  generalize hp : csOfPar L.a L.b L.c L.alpha L.beta L.gamma = p at hv hc
  rw [ofPar, hp]
  have hG := recip_gram hv
  obtain ⟨har, hbr, hcr⟩ := hc.recip_pos
  have e := csOfBase_of_gram har hbr hcr hG
  have hrec : (ofCS p L.baserot).reciprocal = assemble (csOfBase (ofCS p L.baserot).recbase.transpose)
      (fun S => (S.inv.mul (ofCS p L.baserot).recbase.transpose, (ofCS p L.baserot).recbase.transpose)) := rfl
  rw [hrec, e]
  exact ⟨rfl, rfl, rfl, rfl, rfl, rfl, rfl, rfl, rfl, rfl, rfl, rfl, rfl⟩

/-- the reciprocal cell lengths are the norms of the reciprocal base vectors: `rnorm (1,0,0) = ar` … -/
theorem rnorm_axes {p : CellCS ℝ} {Q : Mat3 ℝ} (h : Valid p Q) :
    (ofCS p Q).rnorm ⟨1, 0, 0⟩ = (ofCS p Q).ar ∧ (ofCS p Q).rnorm ⟨0, 1, 0⟩ = (ofCS p Q).br ∧
    (ofCS p Q).rnorm ⟨0, 0, 1⟩ = (ofCS p Q).cr := by
  have hc := h.cs
  have hG := recip_gram h
  obtain ⟨g11, g22, g33, -, -, -⟩ := gram_entries (ofCS p Q).recbase.transpose
  rw [hG] at g11 g22 g33
  simp only [recipMetric, metricsOf] at g11 g22 g33
  obtain ⟨har, hbr, hcr⟩ := hc.recip_pos
  refine ⟨?_, ?_, ?_⟩
  · rw [rnorm_eq, show Mat3.vecMul ⟨1, 0, 0⟩ (ofCS p Q).recbase.transpose = (ofCS p Q).recbase.transpose.row1 by
      simp [Mat3.vecMul, Mat3.row1], ← g11, Real.sqrt_mul_self har.le]; rfl
  · rw [rnorm_eq, show Mat3.vecMul ⟨0, 1, 0⟩ (ofCS p Q).recbase.transpose = (ofCS p Q).recbase.transpose.row2 by
      simp [Mat3.vecMul, Mat3.row2], ← g22, Real.sqrt_mul_self hbr.le]; rfl
  · rw [rnorm_eq, show Mat3.vecMul ⟨0, 0, 1⟩ (ofCS p Q).recbase.transpose = (ofCS p Q).recbase.transpose.row3 by
      simp [Mat3.vecMul, Mat3.row3], ← g33, Real.sqrt_mul_self hcr.le]; rfl

/-! #### copy construction -/

/-- `Lattice(lat)` creates a new object with exactly the attributes of `lat`; every other object is unchanged -/
theorem copy_eq {w w' : List (Lattice ℝ)} {i : Nat} (h : step w (.copy i) = some w') :
    w'.length = w.length + 1 ∧ w'[w.length]? = w[i]? ∧ ∀ j, j < w.length → w'[j]? = w[j]? := by
  simp only [step, Option.map_eq_some_iff] at h
  obtain ⟨X, hX, rfl⟩ := h
  refine ⟨by simp, by simp [hX], ?_⟩
  intro j hj
  rw [List.getElem?_append_left hj]

/-- an update of one object leaves every other object (in particular a copy or its original) unchanged -/
theorem update_independent {w w' : List (Lattice ℝ)} {i : Nat} (p : ParArgs ℝ) (h : step w (.setPar i p) = some w')
    (j : Nat) (hj : j ≠ i) : w'[j]? = w[j]? := by
  simp only [step, Option.map_eq_some_iff] at h
  obtain ⟨X, -, rfl⟩ := h
  exact List.getElem?_set_ne (Ne.symm hj)

theorem setBase_independent {w w' : List (Lattice ℝ)} {i : Nat} (B : Mat3 ℝ) (h : step w (.setBase i B) = some w')
    (j : Nat) (hj : j ≠ i) : w'[j]? = w[j]? := by
  simp only [step, Option.map_eq_some_iff] at h
  obtain ⟨X, -, rfl⟩ := h
  exact List.getElem?_set_ne (Ne.symm hj)

/-! #### isotropic displacement tensor -/

/-- a multiple of `isotropicunit` has zero deviation in `isanisotropic` (the forced unit diagonal makes the trace 3) -/
theorem udev_isotropic (L : Lattice ℝ) (hd : L.isotropicunit.a11 = 1 ∧ L.isotropicunit.a22 = 1 ∧ L.isotropicunit.a33 = 1)
    (s : ℝ) : L.udev (Mat3.smul s L.isotropicunit) = Mat3.zero := by
  obtain ⟨h1, h2, h3⟩ := hd
  apply Mat3.ext' <;> simp only [udev, Mat3.sub, Mat3.smul, Mat3.trace, Mat3.zero, h1, h2, h3] <;> ring

theorem isounit_diag (p : CellCS ℝ) (o : Mat3 ℝ → Mat3 ℝ × Mat3 ℝ) :
    (assemble p o).isotropicunit.a11 = 1 ∧ (assemble p o).isotropicunit.a22 = 1 ∧ (assemble p o).isotropicunit.a33 = 1 :=
  ⟨rfl, rfl, rfl⟩


end real
end Lattice
end DS

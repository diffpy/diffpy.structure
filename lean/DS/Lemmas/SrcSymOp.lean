import DS.Model.Rx
import DS.Lemmas.SymText
/-!
Lemmas for the source tie of `getSymOp` (`DS.Props.SrcSymOp`): the matcher `DS.Rx.mK` on the constructs the two patterns
use; the two patterns as terms (`rxConst`, `rxVar`) and what they consume in terms of the model's scanners (`constRest`,
`varRest`, with `unsign` and `slashTail`); the exact-fraction arithmetic (`Frac.add_assoc`).  Core Lean only; independent
of the generated file.
-/
namespace DS.Rx

/-- a continuation that cannot fail -/
def Tot {α : Type} (k : List Char → Option α) : Prop := ∀ s, (k s).isSome = true

theorem orElse_of_isSome {α : Type} {a : Option α} (h : a.isSome = true) (b : Unit → Option α) : a.orElse b = a := by
  cases a with
  | none => simp at h
  | some v => rfl

theorem mK_seq {α : Type} (n : Nat) (a b : Re) (s : List Char) (k : List Char → Option α) :
    mK n (.seq a b) s k = mK n a s (fun s' => mK n b s' k) := by simp [mK]

theorem mK_alt {α : Type} (n : Nat) (a b : Re) (s : List Char) (k : List Char → Option α) :
    mK n (.alt a b) s k = (mK n a s k).orElse (fun _ => mK n b s k) := by simp [mK]

theorem mK_opt {α : Type} (n : Nat) (a : Re) (s : List Char) (k : List Char → Option α) :
    mK n (.opt a) s k = (mK n a s k).orElse (fun _ => k s) := by simp [mK]

theorem mK_cls_nil {α : Type} (n : Nat) (ic neg : Bool) (its : List Item) (k : List Char → Option α) :
    mK n (.cls ic neg its) [] k = none := by simp [mK]

theorem mK_cls_cons {α : Type} (n : Nat) (ic neg : Bool) (its : List Item) (c : Char) (r : List Char) (k : List Char → Option α) :
    mK n (.cls ic neg its) (c :: r) k = if clsHas ic neg its c then k r else none := by simp [mK]

/-- greedy iteration of a class before a continuation that cannot fail: everything is consumed -/
theorem starK_cls {α : Type} (n : Nat) (ic neg : Bool) (its : List Item) (k : List Char → Option α) (hk : Tot k) :
    ∀ (f : Nat) (s : List Char), s.length < f →
      starK (fun s' k' => mK n (.cls ic neg its) s' k') k f s = k (s.dropWhile (clsHas ic neg its)) := by
  intro f
  induction f with
  | zero => intro s h; omega
  | succ f ih =>
    intro s h
    cases s with
    | nil => simp [starK, mK]
    | cons c r =>
      simp only [starK, mK_cls_cons, List.dropWhile_cons]
      by_cases hc : clsHas ic neg its c = true
      · simp only [hc, if_true, List.length_cons, Nat.lt_succ_self]
        rw [ih r (by simp at h; omega)]
        exact orElse_of_isSome (hk _) _
      · simp [hc]

theorem mK_star_cls {α : Type} (n : Nat) (ic neg : Bool) (its : List Item) (s : List Char) (k : List Char → Option α) (hk : Tot k) :
    mK n (.star (.cls ic neg its)) s k = k (s.dropWhile (clsHas ic neg its)) := by
  simp only [mK]
  exact starK_cls n ic neg its k hk _ s (Nat.lt_succ_self _)

theorem mK_plus_cls {α : Type} (n : Nat) (ic neg : Bool) (its : List Item) (s : List Char) (k : List Char → Option α) (hk : Tot k) :
    mK n (.plus (.cls ic neg its)) s k =
      if (s.takeWhile (clsHas ic neg its)).isEmpty then none else k (s.dropWhile (clsHas ic neg its)) := by
  cases s with
  | nil => rfl
  | cons c r =>
    rw [mK, mK_cls_cons, List.takeWhile_cons, List.dropWhile_cons]
    by_cases hc : clsHas ic neg its c = true
    · simp only [hc, if_true, List.isEmpty_cons, Bool.false_eq_true, if_false]
      exact starK_cls n ic neg its k hk _ r (Nat.lt_succ_self _)
    · simp only [hc, Bool.false_eq_true, if_false, List.isEmpty_nil, if_true]

theorem mK_opt_cls {α : Type} (n : Nat) (ic neg : Bool) (its : List Item) (s : List Char) (k : List Char → Option α) (hk : Tot k) :
    mK n (.opt (.cls ic neg its)) s k =
      match s with
      | [] => k []
      | c :: r => if clsHas ic neg its c then k r else k (c :: r) := by
  cases s with
  | nil => simp [mK]
  | cons c r =>
    simp only [mK]
    by_cases hc : clsHas ic neg its c = true
    · simp only [hc, if_true]
      exact orElse_of_isSome (hk _) _
    · simp [hc]

open DS.SymText

def D : Re := .cls false false [.digit]
def dot : Re := .cls false false [.chr '.']
def sign : Re := .cls false false [.chr '+', .chr '-']
def slash : Re := .cls false false [.chr '/']
def lit : Re := .alt (.seq (.plus D) (.seq (.opt dot) (.star D))) (.seq dot (.plus D))
def rxConst : Re := .seq (.opt sign) (.seq lit (.opt (.seq slash lit)))

theorem cls_digit : clsHas false false [.digit] = Char.isDigit := by
  funext c; simp [clsHas, Item.has]
theorem cls_dot (c : Char) : clsHas false false [.chr '.'] c = decide (c = '.') := by
  simp [clsHas, Item.has]
theorem cls_slash (c : Char) : clsHas false false [.chr '/'] c = decide (c = '/') := by
  simp [clsHas, Item.has]
theorem cls_sign (c : Char) : clsHas false false [.chr '+', .chr '-'] c = isSign c := by
  simp [clsHas, Item.has, isSign]

theorem tot_star_cls {α : Type} (n : Nat) (ic neg its) (k : List Char → Option α) (hk : Tot k) :
    Tot (fun s => mK n (.star (.cls ic neg its)) s k) := by
  intro s; simp only [mK_star_cls n ic neg its s k hk]; exact hk _

theorem tot_opt_cls {α : Type} (n : Nat) (ic neg its) (k : List Char → Option α) (hk : Tot k) :
    Tot (fun s => mK n (.opt (.cls ic neg its)) s k) := by
  intro s; simp only [mK_opt_cls n ic neg its s k hk]
  cases s with
  | nil => exact hk _
  | cons c r => dsimp only; split <;> exact hk _

theorem dropWhile_head_not (p : Char → Bool) (l : List Char) (d : Char) (r : List Char)
    (h : l.dropWhile p = d :: r) : p d = false := by
  have := List.head?_dropWhile_not p l
  simpa [h] using this

/-! ### `scanLit` by cases on the head of the text -/

theorem scanLit_nil : scanLit [] = none := by simp [scanLit]

theorem scanLit_other {c : Char} {r : List Char} (hd : c.isDigit = false) (hdot : c ≠ '.') :
    scanLit (c :: r) = none := by
  unfold scanLit
  simp only [List.takeWhile_cons, List.dropWhile_cons, hd]
  split
  · rename_i r2 heq; simp at heq; exact absurd heq.1 hdot
  · simp

/-- the numeric literal `\d+\.?\d*|\.\d+` before a continuation that cannot fail is `scanLit` -/
theorem mK_lit {α : Type} (n : Nat) (s : List Char) (k : List Char → Option α) (hk : Tot k) :
    mK n lit s k = (scanLit s).bind (fun p => k p.2) := by
  have hk2 : Tot (fun s'' => mK n (.star D) s'' k) := tot_star_cls n _ _ _ k hk
  have hk1 : Tot (fun s' => mK n (.opt dot) s' (fun s'' => mK n (.star D) s'' k)) := tot_opt_cls n _ _ _ _ hk2
  have hsplit : s.takeWhile Char.isDigit ++ s.dropWhile Char.isDigit = s := List.takeWhile_append_dropWhile
  have hnd : ∀ d r, s.dropWhile Char.isDigit = d :: r → d.isDigit = false := fun d r => dropWhile_head_not _ _ d r
  unfold lit
  rw [mK_alt, mK_seq, mK_seq]
  simp only [mK_seq]
  unfold D dot at *
  rw [mK_plus_cls n _ _ _ s _ hk1, cls_digit, scanLit_eq]
  generalize s.takeWhile Char.isDigit = ip at hsplit
  generalize s.dropWhile Char.isDigit = r1 at hsplit hnd
  by_cases hi : ip.isEmpty = true
  · -- no integer digits: only `\.\d+` can match
    rw [if_pos hi, Option.orElse_none]
    have : s = r1 := by rw [← hsplit, List.isEmpty_iff.mp hi, List.nil_append]
    subst this
    cases s with
    | nil => rw [mK_cls_nil, litOf_nil, if_pos hi]; rfl
    | cons d r2 =>
      rw [mK_cls_cons, cls_dot]
      by_cases hdot : d = '.'
      · subst hdot
        rw [decide_eq_true rfl, if_pos rfl, mK_plus_cls n _ _ _ _ k hk, cls_digit, litOf_dot, hi, Bool.true_and]
        split <;> rfl
      · rw [decide_eq_false hdot, if_neg Bool.false_ne_true, litOf_other _ _ hdot, if_pos hi]; rfl
  · -- integer digits: `\d+\.?\d*` matches, greedily
    rw [if_neg hi, orElse_of_isSome (hk1 _)]
    dsimp only
    rw [mK_opt_cls n _ _ _ _ _ hk2]
    have hi' : ip.isEmpty = false := by simpa using hi
    cases r1 with
    | nil => rw [litOf_nil, if_neg hi, mK_star_cls n _ _ _ _ k hk]; rfl
    | cons d r2 =>
      dsimp only
      rw [cls_dot]
      by_cases hdot : d = '.'
      · subst hdot
        rw [decide_eq_true rfl, if_pos rfl, mK_star_cls n _ _ _ _ k hk, cls_digit, litOf_dot, hi', Bool.false_and,
          if_neg Bool.false_ne_true]
        rfl
      · rw [decide_eq_false hdot, if_neg Bool.false_ne_true, mK_star_cls n _ _ _ _ k hk, cls_digit,
          List.dropWhile_cons, hnd d r2 rfl, if_neg Bool.false_ne_true, litOf_other _ _ hdot, if_neg hi]
        rfl
/-! ### the constant pattern `[+-]?(lit)(/(lit))?` -/

/-- after a literal: an optional `/ literal`; when no literal follows the `/`, the `/` is not consumed -/
def slashTail (r : List Char) : List Char :=
  match r with
  | [] => []
  | c :: r' => if c = '/' then (match scanLit r' with | some p => p.2 | none => c :: r') else c :: r'

/-- optional sign taken off -/
def unsign (s : List Char) : List Char :=
  match s with
  | [] => []
  | c :: r => if isSign c then r else c :: r

/-- the text left by one signed number or quotient at the head of `s`; `none`: no number there -/
def constRest (s : List Char) : Option (List Char) := (scanLit (unsign s)).map (fun p => slashTail p.2)

theorem orElse_some_isSome {α : Type} (a : Option α) (b : α) : (a.orElse (fun _ => some b)).isSome = true := by
  cases a <;> rfl

theorem mK_slashTail (n : Nat) (r : List Char) :
    mK n (.opt (.seq slash lit)) r some = some (slashTail r) := by
  rw [mK_opt, mK_seq]
  unfold slash
  cases r with
  | nil => simp [mK, slashTail]
  | cons c r' =>
    rw [mK_cls_cons, cls_slash]
    by_cases hc : c = '/'
    · subst hc
      simp only [decide_true, if_true]
      rw [mK_lit n r' some (fun _ => rfl)]
      cases h : scanLit r' with
      | none => simp [slashTail, h]
      | some p => simp [slashTail, h]
    · simp [hc, slashTail]

theorem scanLit_sign {c : Char} (r : List Char) (hc : isSign c = true) : scanLit (c :: r) = none := by
  simp only [isSign, Bool.or_eq_true, decide_eq_true_eq] at hc
  rcases hc with rfl | rfl
  · exact scanLit_other (by decide) (by decide)
  · exact scanLit_other (by decide) (by decide)

/-- **the constant pattern is the literal grammar**: on every text, what `_rx_symop_constant.match` consumes is an
optional sign, a literal of `scanLit`, and `/` with a second literal when one follows -/
theorem matchRest_rxConst (n : Nat) (s : List Char) : matchRest rxConst n s = constRest s := by
  unfold matchRest rxConst
  rw [mK_seq, mK_opt]
  simp only [mK_seq]
  have hk2 : Tot (fun r => mK n (.opt (.seq slash lit)) r some) := by
    intro r; show (mK n (.opt (.seq slash lit)) r some).isSome = true; rw [mK_slashTail]; rfl
  have hk1 : ∀ s', mK n lit s' (fun r => mK n (.opt (.seq slash lit)) r some) = (scanLit s').map (fun p => slashTail p.2) := by
    intro s'
    rw [mK_lit n s' _ hk2]
    cases scanLit s' with
    | none => rfl
    | some p => simp [mK_slashTail]
  simp only [hk1]
  unfold sign constRest
  cases s with
  | nil => simp [mK, unsign]
  | cons c r =>
    rw [mK_cls_cons, cls_sign]
    by_cases hc : isSign c = true
    · simp [hc, unsign, scanLit_sign r hc]
    · simp [hc, unsign]

theorem scanQuot_rest {s r : List Char} {v : Frac} (h : scanQuot s = some (v, r)) :
    (scanLit s).map (fun p => slashTail p.2) = some r := by
  unfold scanQuot at h
  cases hs : scanLit s with
  | none => simp [hs] at h
  | some p =>
    obtain ⟨a, r1⟩ := p
    simp only [hs] at h
    cases r1 with
    | nil => simp at h; simp [slashTail, h.2]
    | cons c r' =>
      by_cases hc : c = '/'
      · subst hc
        simp only at h
        cases hb : scanLit r' with
        | none => simp [hb] at h
        | some q =>
          obtain ⟨b, r2⟩ := q
          simp only [hb] at h
          split at h
          · cases h
          · simp at h; simp [slashTail, hb, h.2]
      · split at h
        · rename_i heq; simp at heq; exact absurd heq.1 hc
        · simp at h; obtain ⟨_, h2⟩ := h; subst h2; simp [slashTail, hc]

/-! ### the variable-term pattern `(?i)[+-]?[xyz]` -/

def rxVar : Re := .seq (.opt (.cls true false [.chr '+', .chr '-'])) (.cls true false [.chr 'x', .chr 'y', .chr 'z'])

def isAxisCI (c : Char) : Bool := clsHas true false [.chr 'x', .chr 'y', .chr 'z'] c
def isSignCI (c : Char) : Bool := clsHas true false [.chr '+', .chr '-'] c

/-- the case-insensitive classes are the model's: a letter whose lower case is an axis name, resp. a sign.
A class member matches through the character itself or either of its case variants (`clsHas`); neither class
contains a capital letter, so the upper-case variant adds nothing. -/
theorem isAxisCI_eq (c : Char) : isAxisCI c = (axisOf c.toLower).isSome := by
  have hl := toLower_code c
  have hu := toUpper_code c
  rw [Bool.eq_iff_iff, axisOf_isSome_iff]
  simp only [isAxisCI, clsHas, Item.has, List.any_cons, List.any_nil, Bool.or_false, Bool.true_and, bne_iff_ne, ne_eq,
    Bool.not_eq_false, Bool.or_eq_true, decide_eq_true_eq, ← Char.toNat_inj, Char.reduceToNat]
  omega

theorem isSignCI_eq (c : Char) : isSignCI c = isSign c := by
  have hl := toLower_code c
  have hu := toUpper_code c
  rw [Bool.eq_iff_iff, isSign_iff]
  simp only [isSignCI, clsHas, Item.has, List.any_cons, List.any_nil, Bool.or_false, Bool.true_and, bne_iff_ne, ne_eq,
    Bool.not_eq_false, Bool.or_eq_true, decide_eq_true_eq, ← Char.toNat_inj, Char.reduceToNat]
  omega

/-- one variable term at the head of the text: an axis letter, or a sign directly followed by one -/
def varRest (s : List Char) : Option (List Char) :=
  match s with
  | [] => none
  | c :: r =>
    if isSignCI c then
      match r with
      | d :: r' => if isAxisCI d then some r' else if isAxisCI c then some r else none
      | [] => if isAxisCI c then some r else none
    else if isAxisCI c then some r else none

theorem matchRest_rxVar (n : Nat) (s : List Char) : matchRest rxVar n s = varRest s := by
  unfold matchRest rxVar varRest isSignCI isAxisCI
  rw [mK_seq, mK_opt]
  cases s with
  | nil => simp [mK]
  | cons c r =>
    rw [mK_cls_cons, mK_cls_cons]
    by_cases hs : clsHas true false [.chr '+', .chr '-'] c = true
    · simp only [hs, if_true]
      cases r with
      | nil => simp [mK]
      | cons d r' =>
        rw [mK_cls_cons]
        by_cases hd : clsHas true false [.chr 'x', .chr 'y', .chr 'z'] d = true
        · simp [hd]
        · simp [hd]
    · simp [hs]

end DS.Rx

namespace DS.SymText
/-! ### exact fractions under `add`: the laws that make the two summation orders (source: running total from the
left, per piece; model: `rowConst` from the right) the same value *and* the same representation -/

theorem Frac.zero_add (a : Frac) : Frac.zero.add a = a := by
  cases a; simp [Frac.add, Frac.zero]

theorem Frac.add_zero (a : Frac) : a.add Frac.zero = a := by
  cases a; simp [Frac.add, Frac.zero]

theorem Frac.add_assoc (a b c : Frac) : (a.add b).add c = a.add (b.add c) := by
  cases a; cases b; cases c
  simp only [Frac.add, Frac.mk.injEq, Int.natCast_mul]
  constructor
  · grind
  · exact Nat.mul_assoc _ _ _

theorem addVec_zero_left (v : Int × Int × Int) : addVec (0, 0, 0) v = v := by
  simp [addVec]

theorem addVec_assoc (a b c : Int × Int × Int) : addVec (addVec a b) c = addVec a (addVec b c) := by
  simp [addVec, Int.add_assoc]

end DS.SymText

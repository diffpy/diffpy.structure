import DS.Lemmas.World
/-!
Additional lemmas about `DS.Model.World` for the *full* `no_alias` theorem of property C08
(`DS.Props.C08.no_alias`): the two forms that the restricted side condition `World.DupFree` excludes,

* assignment to an **extended slice** `s[i:j:k] = …` (`Edit.setSlice` with step ≠ 1, CPython's
  `list_ass_subscript`: `setMany old (sliceIdx a) ys`), with the *exact* set of members that stay
  in place (`remainX`: the members at the positions the slice does not address), and
* **pickling with protocol 0/1** (`Act.copyShape`, copies that keep the identity pattern),

plus the fact that the planner only ever emits a permutation (`Edit.permute`) without repeated
index (`sort`).
-/
namespace DS.World

section ExtSlice
variable {α : Type}

theorem dropIdx_nil (l : List α) (k : Nat) : dropIdx [] l k = l := by
  induction l generalizing k with
  | nil => rfl
  | cons a l ih => simp [dropIdx, ih]

theorem dropIdx_congr (A B : List Nat) (l : List α) (k : Nat)
    (h : ∀ j, k ≤ j → j < k + l.length → (j ∈ A ↔ j ∈ B)) : dropIdx A l k = dropIdx B l k := by
  induction l generalizing k with
  | nil => rfl
  | cons a l ih =>
    simp only [dropIdx]
    have hk := h k (Nat.le_refl _) (by simp)
    have ih' := ih (k + 1) (fun j h1 h2 => h j (by omega) (by simp only [List.length_cons]; omega))
    by_cases hA : k ∈ A
    · simp [hA, hk.mp hA, ih']
    · have hB : k ∉ B := fun hb => hA (hk.mpr hb)
      simp [hA, hB, ih']

theorem dropIdx_set_mem (is : List Nat) (y : α) (l : List α) (k j : Nat) (h : k + j ∈ is) :
    dropIdx is (l.set j y) k = dropIdx is l k := by
  induction l generalizing k j with
  | nil => simp
  | cons a l ih =>
    cases j with
    | zero =>
      simp only [Nat.add_zero] at h
      simp [dropIdx, h]
    | succ j =>
      simp only [List.set_cons_succ, dropIdx]
      rw [ih (k + 1) j (by rw [show k + 1 + j = k + (j + 1) by omega]; exact h)]

theorem dropIdx_set_perm (is : List Nat) (y : α) (l : List α) (k j : Nat) (hj : j < l.length) (h : k + j ∉ is) :
    (dropIdx is (l.set j y) k).Perm (y :: dropIdx ((k + j) :: is) l k) := by
  induction l generalizing k j with
  | nil => simp at hj
  | cons a l ih =>
    cases j with
    | zero =>
      simp only [Nat.add_zero] at h
      simp only [List.set_cons_zero, dropIdx, Nat.add_zero, h, if_false, List.mem_cons, true_or, if_true]
      rw [dropIdx_congr (k :: is) is l (k + 1) (by
        intro j h1 _
        simp only [List.mem_cons]
        constructor
        · intro h'; rcases h' with h' | h'
          · omega
          · exact h'
        · intro h'; exact Or.inr h')]
    | succ j =>
      simp only [List.set_cons_succ, dropIdx]
      have ih' := ih (k + 1) j (by simpa using hj) (by rw [show k + 1 + j = k + (j + 1) by omega]; exact h)
      rw [show k + 1 + j = k + (j + 1) by omega] at ih'
      have hk : k ∈ (k + (j + 1)) :: is ↔ k ∈ is := by
        simp only [List.mem_cons]
        constructor
        · intro h'; rcases h' with h' | h'
          · omega
          · exact h'
        · intro h'; exact Or.inr h'
      by_cases hA : k ∈ is
      · simp only [hA, hk.mpr hA, if_true]; exact ih'
      · have hB : k ∉ (k + (j + 1)) :: is := fun hb => hA (hk.mp hb)
        simp only [hA, hB, if_false]
        exact (List.Perm.cons a ih').trans (List.Perm.swap y a _)

/-- CPython's element-wise assignment to an extended slice keeps the list duplicate-free.
No hypothesis on the index list: a position listed twice receives the later value. -/
theorem setMany_nodup (is : List Nat) (ys l : List α) (hlen : is.length = ys.length)
    (hy : ys.Nodup) (hr : (dropIdx is l 0).Nodup) (hd : ∀ y ∈ ys, y ∉ dropIdx is l 0) :
    (setMany l is ys).Nodup := by
  induction is generalizing l ys with
  | nil =>
    cases ys with
    | nil => simpa [setMany, dropIdx_nil] using hr
    | cons y ys => simp at hlen
  | cons i is ih =>
    cases ys with
    | nil => simp at hlen
    | cons y ys =>
      simp only [setMany]
      simp only [List.nodup_cons] at hy
      have hlen' : is.length = ys.length := by simpa using hlen
      by_cases hc : i ∈ is ∨ l.length ≤ i
      · -- the slot is overwritten later, or does not exist: the remainder is unchanged
        have heq : dropIdx is (l.set i y) 0 = dropIdx (i :: is) l 0 := by
          rcases hc with hc | hc
          · rw [dropIdx_set_mem is y l 0 i (by simpa using hc)]
            exact dropIdx_congr _ _ _ _ (by intro j _ _; simp only [List.mem_cons]; constructor
                                            · intro h; exact Or.inr h
                                            · intro h; rcases h with h | h
                                              · subst h; exact hc
                                              · exact h)
          · rw [List.set_eq_of_length_le hc]
            exact dropIdx_congr _ _ _ _ (by intro j _ h2; simp only [List.mem_cons]; constructor
                                            · intro h; exact Or.inr h
                                            · intro h; rcases h with h | h
                                              · omega
                                              · exact h)
        apply ih ys (l.set i y) hlen' hy.2
        · rw [heq]; exact hr
        · intro y' hy'; rw [heq]; exact hd y' (List.mem_cons_of_mem _ hy')
      · have hi : i ∉ is := fun h => hc (Or.inl h)
        have hil : i < l.length := by
          rcases Nat.lt_or_ge i l.length with h | h
          · exact h
          · exact (hc (Or.inr h)).elim
        have hp := dropIdx_set_perm is y l 0 i hil (by simpa using hi)
        simp only [Nat.zero_add] at hp
        apply ih ys (l.set i y) hlen' hy.2
        · apply hp.symm.nodup
          simp only [List.nodup_cons]
          exact ⟨hd y (by simp), hr⟩
        · intro y' hy' hin
          have := hp.mem_iff.mp hin
          simp only [List.mem_cons] at this
          rcases this with h | h
          · subst h; exact hy.1 hy'
          · exact hd y' (List.mem_cons_of_mem _ hy') h

theorem remainX_core (e : Edit) (old : List α) (hc : CoreEdit e old.length) : remainX e old = remain e old := by
  cases e <;> try rfl
  case setSlice sl =>
    simp only [CoreEdit, plainSlice] at hc
    rcases ha : sliceAdjust old.length sl with e | a
    · simp only [remainX, remain, ha]
    · simp only [ha, beq_iff_eq] at hc
      simp only [remainX, remain, ha, hc, if_true]

theorem remainX_subset (e : Edit) (old : List α) : ∀ z ∈ remainX e old, z ∈ old := by
  intro z hz
  cases e <;> simp only [remainX, remain] at hz <;> try exact hz
  -- left over: `setInt` (the slot erased), `setSlice` (plain or extended), `replace` (nothing remains)
  · split at hz
    · exact (List.eraseIdx_sublist _ _).subset hz
    · exact hz
  · split at hz
    · split at hz
      · simp only [List.mem_append] at hz
        rcases hz with hz | hz
        · exact List.mem_of_mem_take hz
        · exact List.mem_of_mem_drop hz
      · exact (dropIdx_sublist _ _ _).subset hz
    · exact hz
  · simp at hz

/-- what the planner guarantees about an edit: a permutation repeats no index -/
def EditOk : Edit → Prop
  | .permute idxs => idxs.Nodup
  | _ => True

theorem Edit.apply_nodupX [DecidableEq α] {e : Edit} {old ys new : List α} {ret : Option α}
    (h : e.apply old ys = .ok (new, ret)) (ho : old.Nodup) (hy : ys.Nodup)
    (hd : ∀ y ∈ ys, y ∉ remainX e old) (hc : EditOk e) : new.Nodup := by
  rcases (Edit.apply_shape h).2 with ⟨a, c, rfl, hr, hsub⟩ | hsub | rfl | ⟨idxs, rfl, rfl⟩ | ⟨sl, a, rfl, _, hl, rfl, hr⟩
  · rw [hr] at hd
    exact nodup_mid (hsub.nodup ho) hy hd
  · exact hsub.nodup ho
  · rw [List.Nodup, List.pairwise_reverse]
    exact ho.imp Ne.symm
  · exact pick_nodup old idxs ho hc
  · rw [hr] at hd
    exact setMany_nodup (sliceIdx a) ys old hl hy ((dropIdx_sublist _ _ _).nodup ho) hd

end ExtSlice

/-! ### which members a slice addresses, and which stay -/

section SliceArith
variable {α : Type}

theorem mem_dropIdx (idxs : List Nat) (l : List α) (k : Nat) (a : α) (h : a ∈ dropIdx idxs l k) :
    ∃ j, l[j]? = some a ∧ k + j ∉ idxs := by
  induction l generalizing k with
  | nil => simp [dropIdx] at h
  | cons b l ih =>
    simp only [dropIdx] at h
    split at h
    · obtain ⟨j, hj, hn⟩ := ih (k + 1) h
      exact ⟨j + 1, by simpa using hj, by rw [show k + (j + 1) = k + 1 + j by omega]; exact hn⟩
    · rename_i hk
      simp only [List.mem_cons] at h
      rcases h with h | h
      · subst h; exact ⟨0, by simp, by simpa using hk⟩
      · obtain ⟨j, hj, hn⟩ := ih (k + 1) h
        exact ⟨j + 1, by simpa using hj, by rw [show k + (j + 1) = k + 1 + j by omega]; exact hn⟩

theorem pick_dropIdx_disjoint (l : List α) (idxs : List Nat) (hl : l.Nodup) (y : α) (hy : y ∈ pick l idxs) :
    y ∉ dropIdx idxs l 0 := by
  intro hin
  simp only [pick, List.mem_filterMap] at hy
  obtain ⟨i, hi, hiy⟩ := hy
  obtain ⟨j, hj, hn⟩ := mem_dropIdx idxs l 0 y hin
  obtain ⟨hil, _⟩ := List.getElem?_eq_some_iff.mp hiy
  have : i = j := (List.getElem?_inj hil hl).mp (by rw [hiy, hj])
  subst this
  simp only [Nat.zero_add] at hn
  exact hn hi

/-- what `PySlice_AdjustIndices` guarantees -/
theorem sliceAdjust_bounds {n : Nat} {sl : Slice} {a : Int × Int × Int} (h : sliceAdjust n sl = .ok a) :
    a.2.2 ≠ 0 ∧ (0 < a.2.2 → 0 ≤ a.1 ∧ 0 ≤ a.2.1) ∧ (a.2.2 < 0 → -1 ≤ a.2.1 ∧ a.1 ≤ (n : Int) - 1) := by
  simp only [sliceAdjust] at h
  split at h
  · cases h
  · rename_i hstep
    simp only [Except.ok.injEq] at h
    subst h
    refine ⟨hstep, ?_, ?_⟩
    · intro hpos
      simp only at hpos
      have hneg : ¬ (sl.step.getD 1 < 0) := by omega
      simp only [hneg, if_false]
      constructor
      · cases sl.start with
        | none => simp
        | some s => simp only [clampIdx]; split <;> omega
      · cases sl.stop with
        | none => simp
        | some s => simp only [clampIdx]; split <;> omega
    · intro hneg
      simp only at hneg
      simp only [hneg, if_true]
      constructor
      · cases sl.stop with
        | none => simp
        | some s => simp only [clampIdx]; split <;> omega
      · cases sl.start with
        | none => simp
        | some s => simp only [clampIdx]; split <;> omega

theorem sliceIdx_nonneg {n : Nat} {sl : Slice} {a : Int × Int × Int} (h : sliceAdjust n sl = .ok a) (k : Nat)
    (hk : k < sliceLen a.1 a.2.1 a.2.2) : 0 ≤ a.1 + (k : Int) * a.2.2 := by
  obtain ⟨h0, hp, hn⟩ := sliceAdjust_bounds h
  rcases Int.lt_or_gt_of_ne h0 with hneg | hpos
  · obtain ⟨b1, _⟩ := hn hneg
    simp only [sliceLen] at hk
    have hng : ¬ (a.2.2 > 0) := by omega
    simp only [hng, if_false] at hk
    split at hk
    · rename_i hlt
      have hd : (0 : Int) < -a.2.2 := by omega
      have hq : (k : Int) ≤ (a.1 - a.2.1 - 1) / (-a.2.2) := by
        have : (0 : Int) ≤ (a.1 - a.2.1 - 1) / (-a.2.2) := Int.ediv_nonneg (by omega) (by omega)
        omega
      have hm := (Int.le_ediv_iff_mul_le hd).mp hq
      have : (k : Int) * (-a.2.2) = -((k : Int) * a.2.2) := by rw [Int.mul_neg]
      omega
    · simp at hk
  · obtain ⟨b1, _⟩ := hp hpos
    have : (0 : Int) ≤ (k : Int) * a.2.2 := Int.mul_nonneg (by omega) (by omega)
    omega

theorem sliceIdx_nodup {n : Nat} {sl : Slice} {a : Int × Int × Int} (h : sliceAdjust n sl = .ok a) :
    (sliceIdx a).Nodup := by
  simp only [sliceIdx, List.Nodup, List.pairwise_map]
  have hr : List.Pairwise (fun a b => a ≠ b) (List.range (sliceLen a.1 a.2.1 a.2.2)) := List.nodup_range
  apply hr.imp_of_mem
  intro k1 k2 hk1 hk2 hne heq
  simp only [List.mem_range] at hk1 hk2
  have n1 := sliceIdx_nonneg h k1 hk1
  have n2 := sliceIdx_nonneg h k2 hk2
  have h0 := (sliceAdjust_bounds h).1
  have he : a.1 + (k1 : Int) * a.2.2 = a.1 + (k2 : Int) * a.2.2 := by omega
  have he2 : ((k1 : Int) - (k2 : Int)) * a.2.2 = 0 := by rw [Int.sub_mul]; omega
  rcases Int.mul_eq_zero.mp he2 with h1 | h1
  · exact hne (by omega)
  · exact h0 h1

theorem pick_sliceIdx_not_remain (old : List α) (sl : Slice) (a : Int × Int × Int)
    (h : sliceAdjust old.length sl = .ok a) (ho : old.Nodup) (y : α) (hy : y ∈ pick old (sliceIdx a)) :
    y ∉ remainX (.setSlice sl) old := by
  simp only [remainX, h]
  split
  · rename_i h1
    intro hin
    simp only [pick, List.mem_filterMap] at hy
    obtain ⟨i, hi, hiy⟩ := hy
    simp only [sliceIdx, List.mem_map, List.mem_range] at hi
    obtain ⟨k, hk, rfl⟩ := hi
    obtain ⟨hil, _⟩ := List.getElem?_eq_some_iff.mp hiy
    obtain ⟨b1, b2⟩ := (sliceAdjust_bounds h).2.1 (by omega)
    simp only [h1, sliceLen] at hk
    have hk' : a.1 < a.2.1 ∧ (k : Int) < a.2.1 - a.1 := by
      split at hk
      · split at hk
        · rename_i hlt; exact ⟨hlt, by omega⟩
        · simp at hk
      · omega
    simp only [List.mem_append] at hin
    rcases hin with hin | hin
    · obtain ⟨j, hj⟩ := List.mem_iff_getElem?.mp hin
      rw [List.getElem?_take] at hj
      split at hj
      · rename_i hjl
        have : (a.1 + (k : Int) * a.2.2).toNat = j := (List.getElem?_inj hil ho).mp (by rw [hiy, hj])
        rw [h1] at this
        omega
      · cases hj
    · obtain ⟨j, hj⟩ := List.mem_iff_getElem?.mp hin
      rw [List.getElem?_drop] at hj
      have : (a.1 + (k : Int) * a.2.2).toNat = (max a.2.1 a.1).toNat + j := (List.getElem?_inj hil ho).mp (by rw [hiy, hj])
      rw [h1] at this
      omega
  · exact pick_dropIdx_disjoint old _ ho y hy

theorem trueIdx_ge (bs : List Bool) (k : Nat) : ∀ i ∈ trueIdx bs k, k ≤ i := by
  induction bs generalizing k with
  | nil => simp [trueIdx]
  | cons b bs ih =>
    intro i hi
    simp only [trueIdx] at hi
    split at hi
    · simp only [List.mem_cons] at hi
      rcases hi with hi | hi
      · omega
      · have := ih (k + 1) i hi; omega
    · have := ih (k + 1) i hi; omega

theorem trueIdx_nodup (bs : List Bool) (k : Nat) : (trueIdx bs k).Nodup := by
  induction bs generalizing k with
  | nil => simp [trueIdx]
  | cons b bs ih =>
    simp only [trueIdx]
    split
    · simp only [List.nodup_cons]
      exact ⟨fun hin => by have := trueIdx_ge bs (k + 1) k hin; omega, ih (k + 1)⟩
    · exact ih (k + 1)

end SliceArith

/-! ### `extend` with the default flag: what is taken over uncopied is new to the target and listed once -/

theorem keptOf_memoFlags (seen xs : List Nat) :
    (World.keptOf xs (memoFlags seen xs)).Nodup ∧ ∀ y ∈ World.keptOf xs (memoFlags seen xs), y ∉ seen := by
  induction xs generalizing seen with
  | nil => simp [World.keptOf]
  | cons a r ih =>
    obtain ⟨i1, i2⟩ := ih (a :: seen)
    by_cases ha : a ∈ seen
    · simp only [memoFlags, ha, decide_true, World.keptOf]
      exact ⟨i1, fun y hy hin => i2 y hy (List.mem_cons_of_mem _ hin)⟩
    · simp only [memoFlags, ha, decide_false, World.keptOf, List.nodup_cons, List.mem_cons]
      refine ⟨⟨fun hin => i2 a hin (by simp), i1⟩, ?_⟩
      intro y hy hin
      rcases hy with hy | hy
      · subst hy; exact ha hin
      · exact i2 y hy (List.mem_cons_of_mem _ hin)

/-! ### what the planner emits -/

section Shape
variable {α : Type}

/-- shape facts of an action that `planG` returns: permutations come from `sort` (no repeated
index); a `copyShape` (pickle protocol 0/1) carries exactly the member list of its source -/
def ActShape (v : View α) : Act α → Prop
  | .plan p => EditOk p.edit
  | .copyShape h xs => v.atoms h = .ok xs
  | _ => True

theorem planG_shape [DecidableEq α] (v : View α) (op : Op) {act : Act α}
    (hp : planG v op = .ok act) : ActShape v act := by
  cases planG_ok hp with
  | sort _ => exact sortIdx_nodup _
  | pickleShape h1 _ => exact h1
  | getitem _ h2 => rcases planIndex_ok h2 with ⟨k, a, _, rfl⟩ | ⟨idxs, rfl⟩ <;> trivial
  | _ => trivial

end Shape

namespace World

/-! ### pickling with protocol 0/1 -/

theorem dedup_of_nodup (xs seen : List Nat) (hn : xs.Nodup) (hd : ∀ x ∈ xs, x ∉ seen) : dedup xs seen = xs := by
  induction xs generalizing seen with
  | nil => rfl
  | cons a r ih =>
    simp only [List.nodup_cons] at hn
    simp only [dedup, hd a (by simp), if_false]
    rw [ih (a :: seen) hn.2]
    intro x hx
    simp only [List.mem_cons, not_or]
    exact ⟨fun e => hn.1 (e ▸ hx), hd x (List.mem_cons_of_mem _ hx)⟩

theorem filterMap_congr' {β γ : Type} (f g : β → Option γ) (l : List β) (h : ∀ x ∈ l, f x = g x) :
    l.filterMap f = l.filterMap g := by
  induction l with
  | nil => rfl
  | cons a r ih =>
    simp only [List.filterMap_cons, h a (by simp)]
    rw [ih (fun x hx => h x (List.mem_cons_of_mem _ hx))]

theorem filterMap_idxOf_self (xs : List Nat) (c : List Nat) (hn : xs.Nodup) (hl : c.length = xs.length) :
    xs.filterMap (fun x => c[xs.idxOf x]?) = c := by
  induction xs generalizing c with
  | nil => cases c <;> simp_all
  | cons a r ih =>
    cases c with
    | nil => simp at hl
    | cons b c =>
      simp only [List.nodup_cons] at hn
      simp only [List.filterMap_cons, List.idxOf_cons_self, List.getElem?_cons_zero]
      congr 1
      refine Eq.trans ?_ (ih c hn.2 (by simpa using hl))
      apply filterMap_congr'
      intro x hx
      have hne : (a == x) = false := by
        simp only [beq_eq_false_iff_ne, ne_eq]
        exact fun e => hn.1 (e ▸ hx)
      simp only [List.idxOf_cons, hne, cond_false, List.getElem?_cons_succ]

theorem copySome_allTrue_nodup (w : World) (xs : List Nat) : (w.copySome xs (allTrue xs)).2.Nodup := by
  induction xs generalizing w with
  | nil => simp [copySome]
  | cons a r ih =>
    simp only [allTrue, List.map_cons, copySome, List.nodup_cons]
    refine ⟨?_, ih _⟩
    intro hin
    have := copySome_allTrue_fresh (w.allocAtom (w.pay a) (w.alat a)) r w.nextA hin
    simp only [allocAtom_nextA] at this
    omega

/-- the member list of the structure that `pickle.loads(pickle.dumps(s, 0 or 1))` returns repeats no
atom if that of `s` does not -/
theorem shapeAtoms_nodup (w : World) (xs : List Nat) (hn : xs.Nodup) : (shapeAtoms w xs).Nodup := by
  unfold shapeAtoms shapeCopies
  rw [dedup_of_nodup xs [] hn (by simp), filterMap_idxOf_self xs _ hn (copySome_length _ _ _)]
  exact copySome_allTrue_nodup _ xs

/-! ### the full side condition and the step lemma -/

/-- side condition of `no_alias` without any restriction on the kind of edit: the atoms taken over
*without copying* are pairwise different and none of them is a member that stays in the target
(`remainX`: exact also for extended slices).  Pickling needs no condition. -/
def DupFreeActX (w : World) : Act Nat → Prop
  | .plan p =>
    (keptOf p.inc p.flags).Nodup ∧ (∀ y ∈ keptOf p.inc p.flags, y ∉ remainX p.edit (oldOf w p))
  | _ => True

instance (w : World) (act : Act Nat) : Decidable (DupFreeActX w act) := by
  cases act <;> unfold DupFreeActX <;> infer_instance

theorem execPlan_nodupX {w : World} (hw : Wf w) (hn : NodupInv w) (p : Plan Nat) (hinc : ∀ x ∈ p.inc, x < w.nextA)
    (hd : DupFreeActX w (.plan p)) (hc : EditOk p.edit) : NodupInv (w.execPlan p).1 := by
  have hq := prep_nodupInv hn p
  obtain ⟨hd1, hd2⟩ := hd
  obtain ⟨_, _, _, _, _, e6⟩ := prep_strus w p
  obtain ⟨_, _, g3, _, _, _⟩ := w1_frame w p
  rw [execPlan_eq]
  rcases hap : p.edit.apply ((w.prep p).1.atomsOf (w.prep p).2.1) (w.prep p).2.2 with e | ⟨new, ret⟩
  · exact hq
  · simp only [worldFinish]
    rw [prep_atomsOf] at hap
    have hold : (oldOf w p).Nodup := prep_atomsOf w p ▸ atomsOf_nodup hq _
    have hys : (w.prep p).2.2.Nodup := by
      rw [e6]; exact copySome_nodup _ _ _ hd1 (by intro x hx; rw [g3]; exact hinc x hx)
    have hdis : ∀ y ∈ (w.prep p).2.2, y ∉ remainX p.edit (oldOf w p) := by
      intro y hy hin
      rw [e6] at hy
      rcases copySome_mem (w1 w p) p.inc p.flags y hy with h | h
      · exact hd2 y h hin
      · -- a fresh atom is not a member of the old list
        have := oldOf_lt hw p y (remainX_subset p.edit _ y hin)
        rw [g3] at h
        omega
    have hnew := Edit.apply_nodupX hap hold hys hdis hc
    intro s hsm hl
    simp only [setAtoms] at hsm
    rcases mem_updAt_idx hsm with h | ⟨t, ht, rfl⟩
    · exact hq s h hl
    · exact hnew

theorem exec_nodupX {w : World} (hw : Wf w) (hn : NodupInv w) (act : Act Nat) (hok : ActOk w act)
    (hs : ActShape w.view act) (hd : DupFreeActX w act) : NodupInv (w.exec act).1 := by
  cases act with
  | plan p => exact execPlan_nodupX hw hn p hok hd hs
  | copyShape h xs =>
    have hxs : xs.Nodup := by rw [← (view_atoms_ok hs).1]; exact atomsOf_nodup hn h
    intro s hsm hl
    rw [(exec_copyShape_frame w h xs).1] at hsm
    rcases List.mem_append.mp hsm with h1 | h1
    · exact hn s h1 hl
    · cases List.mem_singleton.mp h1; exact shapeAtoms_nodup w xs hxs
  | retAtom a h => exact hn
  | mkAtom p => exact hn
  | addNew h p =>
    intro s hsm hl
    simp only [exec, setAtoms] at hsm
    rcases mem_updAt_idx hsm with h1 | ⟨t, ht, rfl⟩
    · exact hn s h1 hl
    · simp only
      rw [List.nodup_append]
      refine ⟨atomsOf_nodup hn h, by simp, ?_⟩
      intro a ha b hb e
      simp only [List.mem_singleton] at hb
      have := atomsOf_lt hw h a ha
      omega
  | setLat h src =>
    intro s hsm hl
    rw [(exec_setLat w h src).1] at hsm
    rcases mem_updAt_idx hsm with h1 | ⟨t, ht, rfl⟩
    · exact hn s h1 hl
    · exact hn t (List.mem_of_getElem? ht) hl
  | drop h =>
    intro s hsm hl
    simp only [exec] at hsm
    rcases mem_updAt_idx hsm with h1 | ⟨t, ht, rfl⟩
    · exact hn s h1 hl
    · simp at hl

/-- the side condition of one step of the full `no_alias` -/
def DupFreeX (w : World) (op : Op) : Prop :=
  match planG w.view op with
  | .ok act => DupFreeActX w act
  | .error _ => True

instance (w : World) (op : Op) : Decidable (DupFreeX w op) := by
  unfold DupFreeX
  cases planG w.view op <;> infer_instance

theorem stepFull_nodupX {w : World} (hw : Wf w) (hn : NodupInv w) (op : Op) (hd : DupFreeX w op) :
    NodupInv (w.stepFull op).1 := by
  simp only [stepFull]
  simp only [DupFreeX] at hd
  split
  · exact hn
  · rename_i act hact
    rw [hact] at hd
    exact exec_nodupX hw hn act (planG_all (view_all hw) hact) (planG_shape _ _ hact) hd

def DupFreeHistX : World → List Op → Prop
  | _, [] => True
  | w, op :: ops => DupFreeX w op ∧ DupFreeHistX (w.stepFull op).1 ops

instance decDupFreeHistX : (w : World) → (ops : List Op) → Decidable (DupFreeHistX w ops)
  | _, [] => isTrue trivial
  | w, op :: ops => @instDecidableAnd _ _ _ (decDupFreeHistX (w.stepFull op).1 ops)

theorem run_nodupX {w : World} (hw : Wf w) (hn : NodupInv w) (ops : List Op) (hd : DupFreeHistX w ops) :
    NodupInv (w.run ops) := by
  induction ops generalizing w with
  | nil => exact hn
  | cons op ops ih => exact ih (stepFull_wf hw op) (stepFull_nodupX hw hn op hd.1) hd.2

theorem dupFreeX_of_dupFree {w : World} {op : Op} (h : DupFree w op) : DupFreeX w op := by
  simp only [DupFree, DupFreeX] at h ⊢
  split
  · rename_i act hact
    rw [hact] at h
    cases act <;> try trivial
    case plan p =>
      obtain ⟨h1, h2, h3⟩ := h
      exact ⟨h1, by rw [remainX_core _ _ h3]; exact h2⟩
  · trivial

end World

end DS.World

import DS.Lemmas.Lattice
import DS.Lemmas.Adp

/-!
Bridge between the two lattice descriptions of the development:

* `DS.Lattice α`  (`DS/Model/Lattice.lean`): all 32 cached attributes of `diffpy.structure.lattice.Lattice`,
  built by `ofCS` / `ofPar` / `ofBase`; theorems of C01 / C10 under `Valid` / `ValidPar` / `0 < det B` / `WF`.
* `DS.LatData α` (`DS/Model/Adp.lean`): the 15 attributes read by `atom.py` and `Structure.placeInLattice`;
  theorems of C09 / C14 under the hypothesis record `LatOK`.

`toLatData` copies the 15 attributes field by field.  The conventions of the two models agree
*definitionally* (`conv_normbase`, `conv_recnormbase`, `conv_isounit`, `conv_metrics` below are all `rfl`):
`normbase = base * [[ar],[br],[cr]]` (row scaling), `recnormbase = recbase / [ar,br,cr]` (column division),
`isotropicunit = (recnormbaseᵀ·recnormbase)` with the diagonal forced to 1, `metrics` written entry by entry.

Main result: `latOK_ofCS` — every hypothesis of `LatOK` is a *theorem* for `toLatData (ofCS p Q)` when `Valid p Q`;
hence for `ofPar` (valid cell in degrees, proper rotation), `ofBase` (right-handed base), every well-formed object
(`WF`), its reciprocal, and every object reachable by a valid update history.
-/
namespace DS

/-- the attributes of a `Lattice` object read by `atom.py` / `placeInLattice`, copied field by field -/
def toLatData {α : Type} (L : Lattice α) : LatData α :=
  { a := L.a, b := L.b, c := L.c, ca := L.ca, cb := L.cb, cg := L.cg, ar := L.ar, br := L.br, cr := L.cr,
    base := L.base, recbase := L.recbase, normbase := L.normbase, recnormbase := L.recnormbase,
    isotropicunit := L.isotropicunit, metrics := L.metrics }

namespace LatBridge
open DS.Lattice

/-- the attribute record determined by lengths, cosines, reciprocal lengths, `base` and `recbase`:
the other four arrays are computed from these in both models -/
noncomputable def latDataOf (a b c ca cb cg ar br cr : ℝ) (base rcb : Mat3 ℝ) : LatData ℝ :=
  { a := a, b := b, c := c, ca := ca, cb := cb, cg := cg, ar := ar, br := br, cr := cr,
    base := base, recbase := rcb,
    normbase := base.rowScale ar br cr,
    recnormbase := rcb.colDiv ar br cr,
    isotropicunit := isotropicunitOf (rcb.colDiv ar br cr),
    metrics := DS.metricsOf a b c ca cb cg }

theorem toLatData_assemble (p : CellCS ℝ) (o : Mat3 ℝ → Mat3 ℝ × Mat3 ℝ) :
    toLatData (assemble p o) = latDataOf p.a p.b p.c p.ca p.cb p.cg (assemble p o).ar (assemble p o).br
      (assemble p o).cr (assemble p o).base (assemble p o).recbase := rfl

/-! ### the two models use the same conventions (all by `rfl`) -/

/-- `normbase`: row `i` of `base` multiplied by the `i`-th reciprocal length, in both models -/
theorem conv_normbase (m : Mat3 ℝ) (p q r : ℝ) : Lattice.normbaseOf m p q r = m.rowScale p q r := rfl
/-- `recnormbase`: column `j` of `recbase` divided by the `j`-th reciprocal length, in both models -/
theorem conv_recnormbase (m : Mat3 ℝ) (p q r : ℝ) : Lattice.recnormbaseOf m p q r = m.colDiv p q r := rfl
/-- `_isotropicunit`: `recnormbaseᵀ·recnormbase` with the diagonal overwritten by 1, in both models -/
theorem conv_isounit (m : Mat3 ℝ) : Lattice.isounitOf m = isotropicunitOf m := rfl
/-- the metrics array, entry by entry, in both models -/
theorem conv_metrics (a b c ca cb cg : ℝ) : Lattice.metricsOf a b c ca cb cg = DS.metricsOf a b c ca cb cg := rfl

/-- the Cartesian conversion of the two models is the same function -/
theorem cart_toLatData (L : Lattice ℝ) (u : Vec3 ℝ) : (toLatData L).cart u = L.cartesian u := rfl

/-- the norm of the two models is the same function -/
theorem norm_toLatData (L : Lattice ℝ) (u : Vec3 ℝ) : (toLatData L).norm u = L.norm u := rfl

/-! ### the unit diagonal of `recnormbaseᵀ·recnormbase` -/

theorem colDiv_gram (R : Mat3 ℝ) (p q r : ℝ) :
    (R.colDiv p q r).transpose.mul (R.colDiv p q r) =
      ⟨(R.transpose.mul R).a11 / (p * p), (R.transpose.mul R).a12 / (p * q), (R.transpose.mul R).a13 / (p * r),
       (R.transpose.mul R).a21 / (q * p), (R.transpose.mul R).a22 / (q * q), (R.transpose.mul R).a23 / (q * r),
       (R.transpose.mul R).a31 / (r * p), (R.transpose.mul R).a32 / (r * q), (R.transpose.mul R).a33 / (r * r)⟩ := by
  apply Mat3.ext' <;> simp only [Mat3.mul, Mat3.transpose, Mat3.colDiv] <;> ring

theorem recip_lengths_pos {p : CellCS ℝ} (h : ValidCS p) (Q : Mat3 ℝ) :
    0 < (ofCS p Q).ar ∧ 0 < (ofCS p Q).br ∧ 0 < (ofCS p Q).cr := h.recip_pos

/-- the squared lengths of the reciprocal base vectors (columns of `recbase`) are `ar², br², cr²`
(diagonal of `recip_gram` of C01) -/
theorem recbase_col_norms {p : CellCS ℝ} {Q : Mat3 ℝ} (h : Valid p Q) :
    ((ofCS p Q).recbase.transpose.mul (ofCS p Q).recbase).a11 = (ofCS p Q).ar * (ofCS p Q).ar ∧
    ((ofCS p Q).recbase.transpose.mul (ofCS p Q).recbase).a22 = (ofCS p Q).br * (ofCS p Q).br ∧
    ((ofCS p Q).recbase.transpose.mul (ofCS p Q).recbase).a33 = (ofCS p Q).cr * (ofCS p Q).cr := by
  have hG := recip_gram h
  rw [Mat3.transpose_transpose] at hG
  rw [hG]
  exact ⟨rfl, rfl, rfl⟩

/-- **the columns of `recnormbase` are unit vectors**: the diagonal of `recnormbaseᵀ·recnormbase` is exactly 1,
so the three assignments `isounit[k,k] = 1` of `_isotropicunit` only remove round-off -/
theorem recnormbase_unit_diag {p : CellCS ℝ} {Q : Mat3 ℝ} (h : Valid p Q) :
    ((ofCS p Q).recnormbase.transpose.mul (ofCS p Q).recnormbase).a11 = 1 ∧
    ((ofCS p Q).recnormbase.transpose.mul (ofCS p Q).recnormbase).a22 = 1 ∧
    ((ofCS p Q).recnormbase.transpose.mul (ofCS p Q).recnormbase).a33 = 1 := by
  obtain ⟨ha, hb, hc⟩ := recip_lengths_pos h.cs Q
  obtain ⟨n1, n2, n3⟩ := recbase_col_norms h
  have e : (ofCS p Q).recnormbase = (ofCS p Q).recbase.colDiv (ofCS p Q).ar (ofCS p Q).br (ofCS p Q).cr := rfl
  rw [e, colDiv_gram, n1, n2, n3]
  exact ⟨div_self (mul_pos ha ha).ne', div_self (mul_pos hb hb).ne', div_self (mul_pos hc hc).ne'⟩

/-- consequently the cached `isotropicunit` *is* `recnormbaseᵀ·recnormbase` -/
theorem isotropicunit_eq {p : CellCS ℝ} {Q : Mat3 ℝ} (h : Valid p Q) :
    (ofCS p Q).isotropicunit = (ofCS p Q).recnormbase.transpose.mul (ofCS p Q).recnormbase := by
  obtain ⟨d1, d2, d3⟩ := recnormbase_unit_diag h
  have e : (ofCS p Q).isotropicunit = Lattice.isounitOf (ofCS p Q).recnormbase := rfl
  rw [e]
  apply Mat3.ext' <;> simp only [Lattice.isounitOf]
  · exact d1.symm
  · exact d2.symm
  · exact d3.symm

/-- the unit isotropic tensor is the metric tensor of unit reciprocal axes: its off-diagonal entries are the
cosines of the reciprocal angles -/
theorem isotropicunit_recip_cos {p : CellCS ℝ} {Q : Mat3 ℝ} (h : Valid p Q) :
    (ofCS p Q).isotropicunit = Lattice.metricsOf 1 1 1 (ofCS p Q).car (ofCS p Q).cbr (ofCS p Q).cgr := by
  obtain ⟨ha, hb, hc⟩ := recip_lengths_pos h.cs Q
  have ha' := ha.ne'; have hb' := hb.ne'; have hc' := hc.ne'
  have hG := recip_gram h
  rw [Mat3.transpose_transpose] at hG
  have e : (ofCS p Q).recnormbase = (ofCS p Q).recbase.colDiv (ofCS p Q).ar (ofCS p Q).br (ofCS p Q).cr := rfl
  have hR : recipMetric p = Lattice.metricsOf (ofCS p Q).ar (ofCS p Q).br (ofCS p Q).cr (ofCS p Q).car (ofCS p Q).cbr (ofCS p Q).cgr := rfl
  rw [isotropicunit_eq h, e, colDiv_gram, hG, hR]
  generalize (ofCS p Q).ar = x at *
  generalize (ofCS p Q).br = y at *
  generalize (ofCS p Q).cr = z at *
  apply Mat3.ext' <;> simp only [Lattice.metricsOf] <;> field_simp
/-! ### `LatOK` is a theorem about genuine lattices -/

/-- **`LatOK` holds for `setLatPar`'s result** on valid cosine/sine/volume data and a proper rotation:
all thirteen hypotheses of the C09 / C14 theorems are consequences of the C01 theorems -/
theorem latOK_ofCS {p : CellCS ℝ} {Q : Mat3 ℝ} (h : Valid p Q) : LatOK (toLatData (ofCS p Q)) := by
  obtain ⟨ha, hb, hc⟩ := recip_lengths_pos h.cs Q
  obtain ⟨d1, d2, d3⟩ := recnormbase_unit_diag h
  exact
    { base_rec := base_mul_recbase h
      rec_base := recbase_mul_base h
      normbase_def := rfl
      recnormbase_def := rfl
      ar_ne := ha.ne'
      br_ne := hb.ne'
      cr_ne := hc.ne'
      iso_def := rfl
      iso_diag11 := d1
      iso_diag22 := d2
      iso_diag33 := d3
      metrics_def := rfl
      metrics_gram := (metrics_eq_gram h).symm }

/-- `Lattice(a, b, c, α, β, γ, baserot=Q)` for a valid cell in degrees and a proper rotation -/
theorem latOK_ofPar {a b c al be ga : ℝ} {Q : Mat3 ℝ} (h : ValidPar a b c al be ga) (hQ : IsRot Q) :
    LatOK (toLatData (ofPar a b c al be ga Q)) := latOK_ofCS (valid_ofPar h hQ)

/-- `Lattice(base=B)` / `setLatBase(B)` for every right-handed base -/
theorem latOK_ofBase {B : Mat3 ℝ} (hB : 0 < B.det) : LatOK (toLatData (ofBase B)) := by
  obtain ⟨hv, h⟩ := ofBase_sound hB
  rw [h]; exact latOK_ofCS hv

/-- every well-formed object (`WF`: coherent, valid parameters, proper rotation — the C10 invariant) -/
theorem latOK_of_wf {L : Lattice ℝ} (h : WF L) : LatOK (toLatData L) := by
  rw [h.coherent]; exact latOK_ofPar h.par h.rot

/-- the reciprocal lattice of a well-formed object -/
theorem latOK_reciprocal {L : Lattice ℝ} (h : WF L) : LatOK (toLatData L.reciprocal) :=
  latOK_of_wf (wf_reciprocal h)

/-- `Lattice()`, the default unit cell -/
theorem latOK_default : LatOK (toLatData (ofPar (1 : ℝ) 1 1 90 90 90 Mat3.one)) :=
  latOK_ofPar validPar_default isRot_one

/-- a `LatData` is *real* when it is the attribute record of a lattice built by `Lattice(a,b,c,α,β,γ,baserot=Q)`
from a valid cell and a proper rotation -/
def IsRealLat (l : LatData ℝ) : Prop :=
  ∃ a b c al be ga : ℝ, ∃ Q : Mat3 ℝ, ValidPar a b c al be ga ∧ IsRot Q ∧ l = toLatData (ofPar a b c al be ga Q)

theorem isRealLat_iff_wf (l : LatData ℝ) : IsRealLat l ↔ ∃ L : Lattice ℝ, WF L ∧ l = toLatData L := by
  constructor
  · rintro ⟨a, b, c, al, be, ga, Q, h, hQ, rfl⟩
    exact ⟨_, wf_ofPar h hQ, rfl⟩
  · rintro ⟨L, h, rfl⟩
    exact ⟨L.a, L.b, L.c, L.alpha, L.beta, L.gamma, L.baserot, h.par, h.rot, by rw [← h.coherent]⟩

theorem isRealLat_of_wf {L : Lattice ℝ} (h : WF L) : IsRealLat (toLatData L) :=
  (isRealLat_iff_wf _).mpr ⟨L, h, rfl⟩

theorem isRealLat_ofPar {a b c al be ga : ℝ} {Q : Mat3 ℝ} (h : ValidPar a b c al be ga) (hQ : IsRot Q) :
    IsRealLat (toLatData (ofPar a b c al be ga Q)) := ⟨a, b, c, al, be, ga, Q, h, hQ, rfl⟩

theorem isRealLat_ofBase {B : Mat3 ℝ} (hB : 0 < B.det) : IsRealLat (toLatData (ofBase B)) :=
  isRealLat_of_wf (wf_ofBase hB)

theorem IsRealLat.latOK {l : LatData ℝ} (h : IsRealLat l) : LatOK l := by
  obtain ⟨a, b, c, al, be, ga, Q, hp, hQ, rfl⟩ := h
  exact latOK_ofPar hp hQ

end LatBridge
end DS

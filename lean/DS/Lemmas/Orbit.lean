import DS.Model.Orbit
import DS.Lemmas.Group
import Mathlib.Data.List.Perm.Basic
import Mathlib.Data.List.Perm.Subperm
import Mathlib.Data.List.Count
import Mathlib.Data.List.Dedup
import Mathlib.Algebra.BigOperators.Group.List.Lemmas

/-!
Action of operations on exact positions: functoriality (`img_comp`), identity, injectivity,
`dedupFirst` (membership, no duplicates), and the orbit–stabiliser counting lemma.
-/
namespace DS
namespace Orbit
open Op

theorem emod_of_eq (D X Y q : Int) (h : X = Y + D * q) : X % D = Y % D := by
  subst h; exact Int.add_mul_emod_self_left Y D q

/-- raw (unreduced) image coordinates -/
def raw1 (a : Op) (k : Int) (off x : P3) : Int :=
  a.r11 * (x.1 + off.1) + a.r12 * (x.2.1 + off.2.1) + a.r13 * (x.2.2 + off.2.2) + k * a.t1 - off.1
def raw2 (a : Op) (k : Int) (off x : P3) : Int :=
  a.r21 * (x.1 + off.1) + a.r22 * (x.2.1 + off.2.1) + a.r23 * (x.2.2 + off.2.2) + k * a.t2 - off.2.1
def raw3 (a : Op) (k : Int) (off x : P3) : Int :=
  a.r31 * (x.1 + off.1) + a.r32 * (x.2.1 + off.2.1) + a.r33 * (x.2.2 + off.2.2) + k * a.t3 - off.2.2

theorem img_eq (a : Op) (k : Int) (off x : P3) :
    img a k off x = (raw1 a k off x % (24 * k), raw2 a k off x % (24 * k), raw3 a k off x % (24 * k)) := rfl

theorem row_emod (D a1 a2 a3 kt o x1 x2 x3 o1 o2 o3 : Int) :
    (a1 * (x1 % D + o1) + a2 * (x2 % D + o2) + a3 * (x3 % D + o3) + kt - o) % D =
      (a1 * (x1 + o1) + a2 * (x2 + o2) + a3 * (x3 + o3) + kt - o) % D := by
  apply emod_of_eq _ _ _ (-(a1 * (x1 / D) + a2 * (x2 / D) + a3 * (x3 / D)))
  simp only [Int.emod_def]; ring

/-- one row of `a` applied to the image under `b` is the same row of `a ∘ b` applied to the site -/
theorem row_comp (b : Op) (k a1 a2 a3 ta o x1 x2 x3 o1 o2 o3 : Int) :
    (a1 * ((b.r11 * (x1 + o1) + b.r12 * (x2 + o2) + b.r13 * (x3 + o3) + k * b.t1 - o1) % (24 * k) + o1)
      + a2 * ((b.r21 * (x1 + o1) + b.r22 * (x2 + o2) + b.r23 * (x3 + o3) + k * b.t2 - o2) % (24 * k) + o2)
      + a3 * ((b.r31 * (x1 + o1) + b.r32 * (x2 + o2) + b.r33 * (x3 + o3) + k * b.t3 - o3) % (24 * k) + o3)
      + k * ta - o) % (24 * k) =
    ((a1 * b.r11 + a2 * b.r21 + a3 * b.r31) * (x1 + o1) + (a1 * b.r12 + a2 * b.r22 + a3 * b.r32) * (x2 + o2)
      + (a1 * b.r13 + a2 * b.r23 + a3 * b.r33) * (x3 + o3)
      + k * ((a1 * b.t1 + a2 * b.t2 + a3 * b.t3 + ta) % 24) - o) % (24 * k) := by
  rw [row_emod]
  apply emod_of_eq _ _ _ ((a1 * b.t1 + a2 * b.t2 + a3 * b.t3 + ta) / 24)
  rw [Int.emod_def]; ring

/-- functoriality of the action: applying `b` then `a` is applying `a ∘ b` -/
theorem img_comp (a b : Op) (k : Int) (off x : P3) :
    img a k off (img b k off x) = img (a.comp b) k off x := by
  obtain ⟨x1, x2, x3⟩ := x
  obtain ⟨o1, o2, o3⟩ := off
  simp only [img, Op.comp, Prod.mk.injEq]
  exact ⟨row_comp b k .., row_comp b k .., row_comp b k ..⟩

/-- reduction of a position into the cell -/
def red (k : Int) (x : P3) : P3 := (x.1 % (24 * k), x.2.1 % (24 * k), x.2.2 % (24 * k))

theorem img_one (k : Int) (off x : P3) : img Op.one k off x = red k x := by
  obtain ⟨x1, x2, x3⟩ := x
  obtain ⟨o1, o2, o3⟩ := off
  simp only [img, Op.one, red, Prod.mk.injEq]
  refine ⟨?_, ?_, ?_⟩ <;> congr 1 <;> ring

/-- the image only depends on the position modulo lattice translations -/
theorem img_red (a : Op) (k : Int) (off x : P3) : img a k off (red k x) = img a k off x := by
  simp only [img, red, row_emod]

theorem red_img (a : Op) (k : Int) (off x : P3) : red k (img a k off x) = img a k off x := by
  simp only [img, red, Int.emod_emod_of_dvd _ (dvd_refl _)]


/-! ### left multiplication permutes a group -/

theorem comp_left_cancel {G : List Op} (hG : IsGroup G) {h a b : Op} (hh : h ∈ G) (ha : a ∈ G) (hb : b ∈ G)
    (e : h.comp a = h.comp b) : a = b := by
  obtain ⟨hi, _, _, hih⟩ := hG.inv h hh
  have := congrArg (fun z => hi.comp z) e
  simp only [comp_assoc, hih, one_comp (hG.range a ha), one_comp (hG.range b hb)] at this
  exact this

theorem map_comp_perm {G : List Op} (hG : IsGroup G) {h : Op} (hh : h ∈ G) :
    (G.map (fun g => h.comp g)).Perm G := by
  have hnd : (G.map (fun g => h.comp g)).Nodup := by
    rw [List.nodup_map_iff_inj_on hG.nodup]
    intro a ha b hb e
    exact comp_left_cancel hG hh ha hb e
  have hsub : G.map (fun g => h.comp g) ⊆ G := by
    intro z hz
    obtain ⟨g, hg, rfl⟩ := List.mem_map.1 hz
    exact hG.closed h hh g hg
  exact (List.subperm_of_subset hnd hsub).perm_of_length_le (by simp)

theorem img_inj {G : List Op} (hG : IsGroup G) {h : Op} (hh : h ∈ G) (k : Int) (off p q : P3)
    (hp : red k p = p) (hq : red k q = q) (e : img h k off p = img h k off q) : p = q := by
  obtain ⟨hi, _, _, hih⟩ := hG.inv h hh
  have := congrArg (fun z => img hi k off z) e
  simp only [img_comp, hih, img_one, hp, hq] at this
  exact this

/-- **orbit–stabiliser, fibre form**: every image of the site is produced by exactly as many
operations as fix the site -/
theorem fibre_count {G : List Op} (hG : IsGroup G) (k : Int) (off x : P3) {h : Op} (hh : h ∈ G) :
    G.countP (fun g => decide (img g k off x = img h k off x)) =
      G.countP (fun g => decide (img g k off x = red k x)) := by
  have hperm := map_comp_perm hG hh
  rw [← hperm.countP_eq, List.countP_map]
  apply List.countP_congr
  intro g _
  simp only [Function.comp, decide_eq_true_eq]
  rw [← img_comp]
  constructor
  · intro e
    have e' : img h k off (img g k off x) = img h k off (red k x) := by rw [e, img_red]
    exact img_inj hG hh k off _ _ (red_img _ _ _ _) (by simp [red, Int.emod_emod_of_dvd _ (dvd_refl _)]) e'
  · intro e
    rw [e, img_red]

/-! ### first-occurrence de-duplication -/

theorem mem_dedupFirst {l : List P3} {p : P3} : p ∈ dedupFirst l ↔ p ∈ l := by
  induction l with
  | nil => simp [dedupFirst]
  | cons q qs ih =>
    simp only [dedupFirst, List.mem_cons, List.mem_filter, ih, bne_iff_ne, ne_eq]
    constructor
    · rintro (h | ⟨h, _⟩)
      · exact Or.inl h
      · exact Or.inr h
    · rintro (h | h)
      · exact Or.inl h
      · by_cases e : p = q
        · exact Or.inl e
        · exact Or.inr ⟨h, e⟩

theorem nodup_dedupFirst (l : List P3) : (dedupFirst l).Nodup := by
  induction l with
  | nil => simp [dedupFirst]
  | cons q qs ih =>
    simp only [dedupFirst, List.nodup_cons, List.mem_filter, bne_iff_ne, ne_eq, not_and, not_not]
    exact ⟨fun _ => trivial, ih.filter _⟩

theorem dedupFirst_perm_dedup (l : List P3) : (dedupFirst l).Perm l.dedup := by
  rw [List.perm_ext_iff_of_nodup (nodup_dedupFirst l) (List.nodup_dedup l)]
  intro p; rw [mem_dedupFirst, List.mem_dedup]

/-- **orbit–stabiliser**: (number of distinct images) × (number of operations fixing the site)
= order of the group -/
theorem orbit_stabiliser {G : List Op} (hG : IsGroup G) (k : Int) (off x : P3) :
    (dedupFirst (G.map (fun g => img g k off x))).length *
      G.countP (fun g => decide (img g k off x = red k x)) = G.length := by
  set imgs := G.map (fun g => img g k off x) with himgs
  -- `P3 = Int × Int × Int` has two `BEq` instances (of the product, of `DecidableEq`); `List.dedup` and the
  -- Mathlib counting lemma use the second, so `List.count` is written with it
  have h1 : (imgs.dedup.map fun p => @List.count P3 instBEqOfDecidableEq p imgs).sum = imgs.length := List.sum_map_count_dedup_eq_length imgs
  have h2 : ∀ p ∈ imgs.dedup, @List.count P3 instBEqOfDecidableEq p imgs = G.countP (fun g => decide (img g k off x = red k x)) := by
    intro p hp
    rw [List.mem_dedup, himgs, List.mem_map] at hp
    obtain ⟨h, hh, rfl⟩ := hp
    rw [himgs]
    show List.countP (fun q => @BEq.beq P3 instBEqOfDecidableEq q (img h k off x)) (G.map _) = _
    rw [List.countP_map, ← fibre_count hG k off x hh]
    apply List.countP_congr
    intro g _
    simp [Function.comp]
  rw [List.map_congr_left h2, List.map_const', List.sum_replicate, smul_eq_mul] at h1
  rw [(dedupFirst_perm_dedup imgs).length_eq]
  simpa [himgs] using h1

end Orbit
end DS

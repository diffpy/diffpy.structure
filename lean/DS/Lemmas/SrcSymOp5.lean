import DS.Lemmas.SrcSymOp2
/-!
Lower-casing commutes with the row scanner of the model: `scanRow` on the lower-cased text is the case-insensitive
scanner `scanRowG axCI` on the text itself, and `splitComma` cuts at the same places.  Core Lean only.
-/
namespace DS.SrcSymOp5
open DS.PyStr DS.SymText

theorem lower_nil : lower [] = [] := rfl
theorem lower_cons (c : Char) (r : List Char) : lower (c :: r) = c.toLower :: lower r := rfl

theorem lower_length (e : List Char) : (lower e).length = e.length := by
  unfold lower; exact List.length_map _

theorem takeWhile_lower (s : List Char) : (lower s).takeWhile Char.isDigit = s.takeWhile Char.isDigit := by
  induction s with
  | nil => rfl
  | cons c r ih =>
    rw [lower_cons, List.takeWhile_cons, List.takeWhile_cons, isDigit_toLower, ih]
    by_cases hd : c.isDigit = true
    · rw [toLower_of_isDigit hd]
    · simp [hd]

theorem dropWhile_lower (s : List Char) :
    (lower s).dropWhile Char.isDigit = lower (s.dropWhile Char.isDigit) := by
  induction s with
  | nil => rfl
  | cons c r ih =>
    rw [lower_cons, List.dropWhile_cons, List.dropWhile_cons, isDigit_toLower, ih]
    by_cases hd : c.isDigit = true
    · simp [hd]
    · simp [hd, lower_cons]

abbrev lowRest (x : Frac × List Char) : Frac × List Char := (x.1, lower x.2)

theorem litOf_lower (ip r1 : List Char) :
    litOf ip (lower r1) = (litOf ip r1).map lowRest := by
  cases r1 with
  | nil =>
    rw [lower_nil, litOf_nil]
    by_cases hi : ip.isEmpty = true <;> simp [hi, lowRest, lower_nil]
  | cons d r2 =>
    rw [lower_cons]
    by_cases hdot : d = '.'
    · subst hdot
      have : '.'.toLower = '.' := by decide
      rw [this, litOf_dot, litOf_dot, takeWhile_lower r2, dropWhile_lower r2]
      by_cases hi : (ip.isEmpty && (r2.takeWhile Char.isDigit).isEmpty) = true
      · rw [if_pos hi, if_pos hi]; rfl
      · rw [if_neg hi, if_neg hi]; rfl
    · have hdot' : d.toLower ≠ '.' := fun h' => hdot ((toLower_eq_iff (by decide)).mp h')
      rw [litOf_other ip _ hdot', litOf_other ip _ hdot]
      by_cases hi : ip.isEmpty = true
      · rw [if_pos hi, if_pos hi]; rfl
      · rw [if_neg hi, if_neg hi]; rfl

theorem scanLit_lower (s : List Char) : scanLit (lower s) = (scanLit s).map lowRest := by
  rw [scanLit_eq, scanLit_eq, takeWhile_lower s, dropWhile_lower s, litOf_lower]

theorem quotOf_lower (a : Frac) (r : List Char) :
    quotOf a (lower r) = (quotOf a r).map lowRest := by
  cases r with
  | nil => rfl
  | cons d r' =>
    rw [lower_cons]
    by_cases hsl : d = '/'
    · subst hsl
      have : '/'.toLower = '/' := by decide
      rw [this, quotOf_slash, quotOf_slash, scanLit_lower r']
      cases hq : scanLit r' with
      | none => rfl
      | some x =>
        obtain ⟨b, r''⟩ := x
        simp only [Option.map_some, lowRest]
        by_cases hb : b.num ≤ 0
        · rw [if_pos hb, if_pos hb]; rfl
        · rw [if_neg hb, if_neg hb]; rfl
    · have hsl' : d.toLower ≠ '/' := fun h' => hsl ((toLower_eq_iff (by decide)).mp h')
      rw [quotOf_other a _ hsl', quotOf_other a _ hsl]
      rfl

theorem scanQuot_lower (s : List Char) : scanQuot (lower s) = (scanQuot s).map lowRest := by
  rw [scanQuot_eq, scanQuot_eq, scanLit_lower s]
  cases hq : scanLit s with
  | none => rfl
  | some x =>
    obtain ⟨a, r⟩ := x
    simp only [Option.map_some, lowRest]
    exact quotOf_lower a r

theorem numStep_lower (n : Nat)
    (ih : ∀ (first : Bool) (e : List Char), scanRowG axisOf n first (lower e) = scanRowG axCI n first e)
    (cs : List Char) :
    numStep (scanRowG axisOf n) (lower cs) = numStep (scanRowG axCI n) cs := by
  unfold numStep
  rw [scanQuot_lower cs]
  cases hq : scanQuot cs with
  | none => rfl
  | some x =>
    obtain ⟨v, r⟩ := x
    simp only [Option.map_some, lowRest]
    rw [ih false r]

theorem signStep_lower (n : Nat)
    (ih : ∀ (first : Bool) (e : List Char), scanRowG axisOf n first (lower e) = scanRowG axCI n first e)
    (c : Char) (rest : List Char) :
    signStep axisOf (scanRowG axisOf n) c.toLower (lower rest) = signStep axCI (scanRowG axCI n) c rest := by
  have hm' : (c.toLower = '-') ↔ (c = '-') := toLower_eq_iff (by decide)
  have hm : decide (c.toLower = '-') = decide (c = '-') := by
    rw [decide_eq_decide]; exact hm'
  cases rest with
  | nil => rfl
  | cons d rest' =>
    have hq := scanQuot_lower (d :: rest')
    rw [lower_cons] at hq
    rw [lower_cons]
    unfold signStep
    simp only [axCI]
    cases hax : axisOf d.toLower with
    | some a =>
      simp only [hm]
      rw [ih true rest']
    | none =>
      simp only [hq]
      cases hs : scanQuot (d :: rest') with
      | none => rfl
      | some x =>
        obtain ⟨v, r⟩ := x
        simp only [Option.map_some, lowRest]
        rw [ih false r]
        by_cases hc' : c = '-'
        · rw [if_pos hc', if_pos (hm'.mpr hc')]
        · rw [if_neg hc', if_neg (fun h' => hc' (hm'.mp h'))]

theorem scanRowG_lower : ∀ (fuel : Nat) (first : Bool) (e : List Char),
    scanRowG axisOf fuel first (lower e) = scanRowG axCI fuel first e := by
  intro fuel
  induction fuel with
  | zero => intro first e; rfl
  | succ n ih =>
    intro first e
    cases e with
    | nil => rfl
    | cons c rest =>
      have hnum := numStep_lower n ih (c :: rest)
      rw [lower_cons] at hnum
      rw [lower_cons, scanRowG_cons, scanRowG_cons, signStep_lower n ih c rest, hnum, isSign_toLower, ih true rest]
      rfl

theorem scanRow_of_lower (fuel : Nat) (first : Bool) (e : List Char) :
    scanRow fuel first (lower e) = scanRowG axCI fuel first e := by
  rw [← scanRowG_axisOf]; exact scanRowG_lower fuel first e

/-- the form with the hypothesis under which `DS.Rx` and `Char.toLower` model Python's `re` and `str.lower` -/
theorem scanRow_lower : ∀ (fuel : Nat) (first : Bool) (e : List Char), (∀ c ∈ e, c.toNat < 128) →
    scanRow fuel first (lower e) = scanRowG axCI fuel first e :=
  fun fuel first e _ => scanRow_of_lower fuel first e

theorem splitComma_cons (c : Char) (r : List Char) : splitComma (c :: r) =
    match splitComma r with
    | [] => [[c]]
    | h :: t => if c = ',' then [] :: h :: t else (c :: h) :: t := rfl

theorem splitComma_lower (t : List Char) : splitComma (lower t) = (splitComma t).map lower := by
  induction t with
  | nil => rfl
  | cons c r ih =>
    have hcomma : (c.toLower = ',') ↔ (c = ',') := toLower_eq_iff (by decide)
    rw [lower_cons, splitComma_cons, splitComma_cons, ih]
    cases splitComma r with
    | nil => rfl
    | cons a tl =>
      simp only [List.map_cons]
      by_cases hc' : c = ','
      · rw [if_pos hc', if_pos (hcomma.mpr hc')]; rfl
      · rw [if_neg hc', if_neg (fun h' => hc' (hcomma.mp h'))]; rfl

theorem split_cons (sep c : Char) (r : List Char) : split sep (c :: r) =
    match split sep r with
    | [] => [[c]]
    | h :: t => if c = sep then [] :: h :: t else (c :: h) :: t := rfl

theorem split_mem (sep : Char) : ∀ (t e : List Char), e ∈ split sep t → ∀ c ∈ e, c ∈ t
  | [], e, he, c, hc => by
    obtain rfl : e = [] := by simpa [split] using he
    cases hc
  | x :: r, e, he, c, hc => by
    have ih := split_mem sep r
    rw [split_cons] at he
    cases hs : split sep r with
    | nil =>
      obtain rfl : e = [x] := by simpa [hs] using he
      exact List.mem_cons.2 (.inl (List.mem_singleton.1 hc))
    | cons a tl =>
      rw [hs] at he ih
      simp only at he
      by_cases hx : x = sep
      · rw [if_pos hx] at he
        rcases List.mem_cons.1 he with rfl | he
        · cases hc
        · exact List.mem_cons_of_mem _ (ih e he c hc)
      · rw [if_neg hx] at he
        rcases List.mem_cons.1 he with rfl | he
        · exact List.mem_cons.2 ((List.mem_cons.1 hc).imp_right (ih a List.mem_cons_self c))
        · exact List.mem_cons_of_mem _ (ih e (List.mem_cons_of_mem _ he) c hc)
end DS.SrcSymOp5

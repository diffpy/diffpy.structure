import DS.Model.Load
import Mathlib.Data.List.Perm.Basic
/-!
Helper lemmas about the loading model: sorting and reordering are permutations, the loop of the
automatic parser (`Swallowed`, `complaints`), attribute lookup through `setKey` / `update` / `replace`, and for C16
the two relations the read protocol preserves: `OwnLattice` (every atom refers to the object's lattice) and `Same`
(two objects agree in everything `observe` shows).
-/
namespace DS.Load

/-! ## sorting and reordering -/

theorem insertSorted_perm (a : String) (l : List String) : (insertSorted a l).Perm (a :: l) := by
  induction l with
  | nil => simp [insertSorted]
  | cons b l ih =>
    simp only [insertSorted]
    split
    · exact List.Perm.refl _
    · exact (List.Perm.cons b ih).trans (List.Perm.swap a b l)

theorem isort_perm (l : List String) : (isort l).Perm l := by
  induction l with
  | nil => exact List.Perm.refl _
  | cons a l ih => exact (insertSorted_perm a (isort l)).trans (List.Perm.cons a ih)

/-- the state of the reordering loop after the prefix `pre` has been processed -/
def arranged (m : String → Bool) (pre : List String) : List String :=
  (pre.filter m).reverse ++ pre.filter (fun f => !m f)

theorem reorder_aux (m : String → Bool) : ∀ (rest pre : List String), (pre ++ rest).Nodup →
    rest.foldl (fun acc f => if m f then f :: acc.erase f else acc) (arranged m pre ++ rest)
      = arranged m (pre ++ rest) := by
  intro rest
  induction rest with
  | nil => intro pre _; simp
  | cons f rest ih =>
    intro pre hnd
    have hnd' : ((pre ++ [f]) ++ rest).Nodup := by simpa using hnd
    have hf : f ∉ pre := by
      intro hmem
      have := List.nodup_append.mp hnd
      exact this.2.2 f hmem f (by simp) rfl
    have hfa : f ∉ arranged m pre := by
      intro hmem
      simp only [arranged, List.mem_append, List.mem_reverse, List.mem_filter] at hmem
      rcases hmem with h | h <;> exact hf h.1
    rw [List.foldl_cons]
    have key : (if m f then f :: (arranged m pre ++ f :: rest).erase f else arranged m pre ++ f :: rest)
        = arranged m (pre ++ [f]) ++ rest := by
      by_cases hm : m f = true
      · rw [if_pos hm, List.erase_append_right _ hfa]
        simp [arranged, List.filter_append, hm]
      · rw [if_neg hm]
        simp [arranged, List.filter_append, hm]
    rw [key, ih (pre ++ [f]) hnd']
    simp

/-- the reordering loop puts the matching formats first, in reverse sorted order, and keeps the others in order -/
theorem reorder_eq (m : String → Bool) (l : List String) (h : l.Nodup) :
    reorder m l = (l.filter m).reverse ++ l.filter (fun f => !m f) := by
  have := reorder_aux m l [] (by simpa using h)
  simpa [arranged, reorder] using this

theorem arranged_perm (m : String → Bool) (l : List String) : (arranged m l).Perm l := by
  unfold arranged
  exact (List.Perm.append_right _ (List.reverse_perm _)).trans (List.filter_append_perm m l)

theorem candidates_nodup (cfg : OrderCfg) (reg : Registry) (h : (reg.map (·.name)).Nodup) :
    (candidates cfg reg).Nodup := by
  unfold candidates inputFormats
  refine List.Nodup.sublist List.filter_sublist ?_
  apply (isort_perm _).nodup_iff.mpr
  exact List.Nodup.sublist ((List.filter_sublist (l := reg)).map _) h

theorem mem_candidates (cfg : OrderCfg) (reg : Registry) (f : String) :
    f ∈ candidates cfg reg ↔ (∃ e ∈ reg, e.hasInput = true ∧ e.name = f) ∧ f ∉ cfg.excluded := by
  unfold candidates inputFormats
  simp only [List.mem_filter, (isort_perm _).mem_iff, List.mem_map, Bool.not_eq_eq_eq_not, Bool.not_true,
    List.contains_eq_mem, decide_eq_false_iff_not]
  constructor
  · rintro ⟨⟨e, ⟨he, hi⟩, rfl⟩, hx⟩; exact ⟨⟨e, he, hi, rfl⟩, hx⟩
  · rintro ⟨⟨e, he, hi, rfl⟩, hx⟩; exact ⟨⟨e, ⟨he, hi⟩, rfl⟩, hx⟩

/-! ## the loop of the automatic parser -/

variable {R : Type}

/-- candidate `f` raised an exception that `_wrapParseMethod` swallows -/
def Swallowed (c : AutoCfg) (parse : String → Outcome R) (f : String) : Prop :=
  ∃ k m, parse f = .err k m ∧ c.handler k ≠ .escape

/-- the complaint line a candidate contributes, if its exception is *collected* -/
def line (c : AutoCfg) (parse : String → Outcome R) (f : String) : Option String :=
  match parse f with
  | .err k m => if c.handler k = .collect then some (c.complaint f m) else none
  | _ => none

/-- the complaints recorded for a list of candidates: one line per candidate whose exception is collected -/
def complaints (c : AutoCfg) (parse : String → Outcome R) (l : List String) : List String :=
  l.filterMap (line c parse)

/-- candidates whose exception is collected (they contribute a line) -/
def collected (c : AutoCfg) (parse : String → Outcome R) (f : String) : Bool := (line c parse f).isSome

theorem complaints_length (c : AutoCfg) (parse : String → Outcome R) (l : List String) :
    (complaints c parse l).length = (l.filter (collected c parse)).length := by
  induction l with
  | nil => rfl
  | cons f fs ih =>
    unfold complaints at ih ⊢
    cases h : line c parse f <;> simp [collected, h, ih]

theorem complaints_append (c : AutoCfg) (parse : String → Outcome R) (a b : List String) :
    complaints c parse (a ++ b) = complaints c parse a ++ complaints c parse b := by
  simp [complaints]

/-- swallowed candidates only extend the list of complaints -/
theorem autoLoop_swallowed (c : AutoCfg) (parse : String → Outcome R) :
    ∀ (pre rest msgs : List String), (∀ f ∈ pre, Swallowed c parse f) →
      autoLoop c parse (pre ++ rest) msgs = autoLoop c parse rest (msgs ++ complaints c parse pre) := by
  intro pre
  induction pre with
  | nil => intro rest msgs _; simp [complaints]
  | cons f fs ih =>
    intro rest msgs h
    obtain ⟨k, m, hp, hk⟩ := h f (by simp)
    have h' : ∀ g ∈ fs, Swallowed c parse g := fun g hg => h g (by simp [hg])
    simp only [List.cons_append, autoLoop, hp, complaints, List.filterMap_cons, line]
    cases hh : c.handler k with
    | escape => exact absurd hh hk
    | collect =>
      have := ih rest (msgs ++ [c.complaint f m]) h'
      simpa [complaints, List.append_assoc] using this
    | skip => simpa [complaints] using ih rest _ h'

/-- the loop returns `ok` only through a candidate that returned a structure, all earlier ones having been swallowed -/
theorem autoLoop_ok (c : AutoCfg) (parse : String → Outcome R) :
    ∀ (o msgs : List String) (f : String) (r : R), autoLoop c parse o msgs = .ok f r →
      ∃ pre post, o = pre ++ f :: post ∧ (∀ g ∈ pre, Swallowed c parse g) ∧ parse f = .ok r := by
  intro o
  induction o with
  | nil => intro msgs f r h; simp [autoLoop] at h
  | cons g gs ih =>
    intro msgs f r h
    simp only [autoLoop] at h
    cases hp : parse g with
    | ok r' =>
      rw [hp] at h
      dsimp only at h
      simp only [AutoResult.ok.injEq] at h
      obtain ⟨rfl, rfl⟩ := h
      exact ⟨[], gs, rfl, by simp, hp⟩
    | none => rw [hp] at h; simp at h
    | err k m =>
      rw [hp] at h
      dsimp only at h
      have hk : c.handler k ≠ .escape := by intro hk; rw [hk] at h; cases h
      obtain ⟨msgs', h'⟩ : ∃ msgs', autoLoop c parse gs msgs' = .ok f r := by
        cases hh : c.handler k with
        | escape => exact absurd hh hk
        | collect => rw [hh] at h; exact ⟨_, h⟩
        | skip => rw [hh] at h; exact ⟨_, h⟩
      obtain ⟨pre, post, rfl, hs, hf⟩ := ih _ f r h'
      exact ⟨g :: pre, post, rfl, List.forall_mem_cons.mpr ⟨⟨k, m, hp, hk⟩, hs⟩, hf⟩

/-! ## attribute lookup -/

theorem lookup_cons_ne {β : Type} {k' pk : String} (h : k' ≠ pk) (pv : β) (d : List (String × β)) :
    ((pk, pv) :: d).lookup k' = d.lookup k' := by
  rw [List.lookup_cons, beq_false_of_ne h]

theorem lookup_map_set {β : Type} (k k' : String) (v : β) (d : List (String × β)) :
    (d.map (fun p => if p.1 == k then (k, v) else p)).lookup k' =
      if k' = k then (d.lookup k).map (fun _ => v) else d.lookup k' := by
  induction d with
  | nil => simp
  | cons p d ih =>
    obtain ⟨pk, pv⟩ := p
    rw [List.map_cons]
    by_cases hpk : pk = k
    · subst hpk
      rw [if_pos (beq_self_eq_true pk)]
      by_cases hk' : k' = pk
      · subst hk'; rw [if_pos rfl, List.lookup_cons_self, List.lookup_cons_self]; rfl
      · rw [lookup_cons_ne hk', lookup_cons_ne hk', ih, if_neg hk', if_neg hk']
    · rw [if_neg (by simpa using hpk)]
      by_cases hk' : k' = pk
      · subst hk'; rw [if_neg hpk, List.lookup_cons_self, List.lookup_cons_self]
      · rw [lookup_cons_ne hk', lookup_cons_ne hk', ih]
        by_cases hk : k' = k
        · subst hk; rw [if_pos rfl, if_pos rfl, lookup_cons_ne hk']
        · rw [if_neg hk, if_neg hk]

/-- `d[k] = v`: the key is overwritten where it is bound (`lookup_map_set`), appended where it is not -/
theorem lookup_setKey {β : Type} (d : List (String × β)) (k k' : String) (v : β) :
    (setKey d k v).lookup k' = if k' = k then some v else d.lookup k' := by
  unfold setKey
  split
  · rename_i hany
    obtain ⟨p, hp, hpk⟩ := List.any_eq_true.mp hany
    rw [lookup_map_set]
    cases hl : d.lookup k with
    | some w => rfl
    | none => exact absurd (eq_of_beq hpk).symm (bne_iff_ne.mp (List.lookup_eq_none_iff.mp hl p hp))
  · rename_i hany
    have hl : d.lookup k = none :=
      List.lookup_eq_none_iff.mpr fun p hp => bne_iff_ne.mpr fun e =>
        hany (List.any_eq_true.mpr ⟨p, hp, beq_iff_eq.mpr e.symm⟩)
    rw [List.lookup_append]
    by_cases hk' : k' = k
    · subst hk'; rw [hl, if_pos rfl, List.lookup_cons_self]; rfl
    · rw [lookup_cons_ne hk', if_neg hk']; exact Option.or_none

theorem getattr_setKey (o : Obj) (k k' : String) (v : Val) :
    getattr { o with dict := setKey o.dict k v } k' = if k' = k then some v else getattr o k' := by
  unfold getattr
  simp only [lookup_setKey]
  by_cases h : k' = k <;> simp [h]

/-- `dict.update` with distinct keys: the new binding wins, other keys are kept -/
theorem lookup_update (n : Dict) : ∀ (d : Dict) (k : String), (n.map (·.1)).Nodup →
    (update d n).lookup k = match n.lookup k with | some v => some v | none => d.lookup k := by
  induction n with
  | nil => intro d k _; rfl
  | cons p n ih =>
    intro d k hnd
    obtain ⟨pk, pv⟩ := p
    obtain ⟨hpk, hnd'⟩ := List.nodup_cons.mp hnd
    have hstep : update d ((pk, pv) :: n) = update (setKey d pk pv) n := rfl
    rw [hstep, ih _ k hnd', lookup_setKey]
    by_cases hk : k = pk
    · subst hk
      have hn : n.lookup k = none :=
        List.lookup_eq_none_iff.mpr fun q hq => bne_iff_ne.mpr fun e => hpk (List.mem_map.mpr ⟨q, hq, e.symm⟩)
      rw [hn, if_pos rfl, List.lookup_cons_self]
    · rw [if_neg hk, lookup_cons_ne hk]

/-! ## attributes through the steps of `read` -/

theorem getattr_congr_dict (a b : Obj) (h : a.dict = b.dict) (k : String) : getattr a k = getattr b k := by
  unfold getattr; rw [h]

/-- attribute lookup after `__dict__.update(new.__dict__)` + slice assignment -/
theorem getattr_replace (o : Obj) (n : Parsed) (k : String) (hn : (n.dict.map (·.1)).Nodup) :
    getattr (replace o n) k = match n.dict.lookup k with | some v => some v | none => getattr o k := by
  unfold replace getattr
  simp only [lookup_update n.dict o.dict k hn]
  cases n.dict.lookup k <;> rfl

theorem getattr_setLattice (o : Obj) (v : Val) (k : String) :
    getattr (setLattice o v) k = if k = "_lattice" then some v else getattr o k :=
  getattr_setKey o "_lattice" k v

/-- `Structure.__init__(self)` touches no attribute other than a missing lattice -/
theorem getattr_init0_ne (fresh : Nat) (o : Obj) (k : String) (hk : k ≠ "_lattice") :
    getattr (init0 fresh o) k = getattr o k := by
  unfold init0
  split
  · rw [getattr_setLattice, if_neg hk]
  · rfl

theorem init0_cls (fresh : Nat) (o : Obj) : (init0 fresh o).cls = o.cls := by
  unfold init0; split <;> rfl

/-- every atom refers to the structure's own lattice object -/
def OwnLattice (o : Obj) : Prop := ∀ a ∈ o.atoms, a.lat = latIdOf (getattr o "_lattice")

theorem observe_own (o : Obj) : (observe o).atomsOwnLattice = true ↔ OwnLattice o := by
  simp [observe, OwnLattice]

theorem own_replace (o : Obj) (n : Parsed) : OwnLattice (replace o n) := by
  intro a ha
  simp only [replace, List.mem_map] at ha
  obtain ⟨b, _, rfl⟩ := ha
  exact congrArg latIdOf (getattr_congr_dict _ _ rfl "_lattice")

theorem replace_atoms (o : Obj) (n : Parsed) :
    (replace o n).atoms = n.atoms.map (fun a => { a with lat := latIdOf (getattr (replace o n) "_lattice") }) := by
  simp only [replace]
  apply List.map_congr_left
  intro a _
  exact congrArg (fun l => ({ a with lat := latIdOf l } : Atom)) (getattr_congr_dict _ _ rfl "_lattice")

theorem own_setKey (o : Obj) (k : String) (v : Val) (hk : k ≠ "_lattice") (h : OwnLattice o) :
    OwnLattice { o with dict := setKey o.dict k v } := by
  intro a ha
  rw [getattr_setKey, if_neg (Ne.symm hk)]
  exact h a ha

theorem own_init0 (fresh : Nat) (o : Obj) (h : OwnLattice o) : OwnLattice (init0 fresh o) := by
  unfold init0
  split
  · intro a ha
    simp only [setLattice, List.mem_map] at ha
    obtain ⟨b, _, rfl⟩ := ha
    rw [getattr_setLattice, if_pos rfl]
  · exact h

theorem own_titleStep (fn : Option String) (o : Obj) (h : OwnLattice o) : OwnLattice (titleStep fn o) := by
  unfold titleStep
  cases fn with
  | none => exact h
  | some fn =>
    dsimp only
    split
    · exact h
    · exact own_setKey o "title" _ (by decide) h

theorem own_postStep (cls : Cls) (sg : Option String) (r : ReadOut) (h : OwnLattice r.obj) :
    OwnLattice (postStep cls sg r).obj := by
  unfold postStep
  split
  · split
    · exact own_setKey r.obj "pdffit" _ (by decide) h
    · exact h
  · exact h

/-- two objects that the property cannot tell apart -/
def Same (a b : Obj) : Prop :=
  a.atoms = b.atoms ∧ ∀ k ∈ ["_lattice", "title", "pdffit", "xcfg"], getattr a k = getattr b k

theorem observe_same (a b : Obj) (h : Same a b) : observe a = observe b := by
  obtain ⟨ha, hk⟩ := h
  have h1 := hk "_lattice" (by simp)
  have h2 := hk "title" (by simp)
  have h3 := hk "pdffit" (by simp)
  have h4 := hk "xcfg" (by simp)
  simp only [observe, ha, h1, h2, h3, h4]

theorem same_setKey (a b : Obj) (k : String) (v : Val) (h : Same a b) :
    Same { a with dict := setKey a.dict k v } { b with dict := setKey b.dict k v } := by
  refine ⟨h.1, ?_⟩
  intro k' hk'
  rw [getattr_setKey, getattr_setKey, h.2 k' hk']

theorem same_titleStep (fn : Option String) (a b : Obj) (h : Same a b) : Same (titleStep fn a) (titleStep fn b) := by
  unfold titleStep
  cases fn with
  | none => exact h
  | some fn =>
    dsimp only
    rw [h.2 "title" (by simp)]
    split
    · exact h
    · exact same_setKey a b "title" _ h

theorem same_postStep (cls : Cls) (sg : Option String) (ra rb : ReadOut) (he : ra.err = rb.err)
    (h : Same ra.obj rb.obj) :
    (postStep cls sg ra).err = (postStep cls sg rb).err ∧ Same (postStep cls sg ra).obj (postStep cls sg rb).obj := by
  unfold postStep
  rw [he, h.2 "pdffit" (by simp)]
  split
  · split
    · exact ⟨rfl, same_setKey _ _ "pdffit" _ h⟩
    · exact ⟨rfl, h⟩
  · exact ⟨he, h⟩

/-! ## when the post-step is the identity -/

theorem postStep_base (sg : Option String) (r : ReadOut) : postStep .base sg r = r := by
  unfold postStep; rfl

theorem postStep_nosg (cls : Cls) (r : ReadOut) : postStep cls none r = r := by
  unfold postStep
  cases cls <;> cases r.err <;> rfl

theorem postStep_err (cls : Cls) (sg : Option String) (r : ReadOut) (h : r.err ≠ none) : postStep cls sg r = r := by
  unfold postStep
  cases cls with
  | base => rfl
  | pdffit =>
    cases he : r.err with
    | none => exact absurd he h
    | some e => cases sg <;> rfl

theorem postStep_dict (cls : Cls) (sg : Option String) (r : ReadOut) (kv : List (String × String))
    (he : r.err = none) (h : getattr r.obj "pdffit" = some (.dict kv)) : (postStep cls sg r).err = none := by
  unfold postStep
  cases cls with
  | base => exact he
  | pdffit =>
    cases sg with
    | none => rw [he]; exact he
    | some sg => rw [he, h]

end DS.Load

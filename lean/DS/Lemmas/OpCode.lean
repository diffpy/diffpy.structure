import DS.Model.Sym
/-!
The evaluator of the setting certificate on natural numbers, `fastSG`, for the kernel (no Mathlib import:
the generated obligations `DS/Gen/T*.lean` import this file).

`checkGroup` multiplies operations in `Int`, and the kernel evaluates `Int.mul` / `Int.add` by unfolding
their pattern matches, whereas an operation of `Nat` on literals is one GMP call.  Here an operation is one
numeral (`code`, the entries as base-32 digits), a list of operations is one numeral (`table`), the list of
ranks another, "`c` is the
product `a ∘ b`" is twelve equations between naturals (`compOK`), and counting is done with one numeral too
(`tally`).  The determinant test of `checkGroup` is left out: it follows from the inverses.
`DS.fastSG_sound` (in `DS.Lemmas.Group`) shows `fastSG g c = true → checkSG g c = true`.

The arithmetic is written with `Nat.add`, `Nat.mul`, … instead of `+`, `*`: the kernel reduces the
former on literals in one step, the latter only after unfolding three instances.
-/
namespace DS
namespace OpCode

/-- the numeral with the given digits in base `M`, least significant first -/
def pack (M : Nat) : List Nat → Nat
  | [] => 0
  | d :: ds => Nat.add d (Nat.mul M (pack M ds))

/-- digit `i` of `K` in base `M` -/
def digit (M K i : Nat) : Nat := Nat.mod (Nat.div K (Nat.pow M i)) M

/-- `f x`; the `match` makes the kernel evaluate `x` to a literal once, before `f` copies it -/
def withVal (x : Nat) (f : Nat → Bool) : Bool :=
  match x with
  | 0 => f 0
  | k + 1 => f (k + 1)

/-- a rotation entry shifted by one; `3` for an entry outside `{-1, 0, 1}` below, any `k + 1` above -/
def encR : Int → Nat
  | .ofNat k => Nat.succ k
  | .negSucc 0 => 0
  | .negSucc _ => 3

/-- a translation entry; `24` for a negative one -/
def encT : Int → Nat
  | .ofNat k => k
  | .negSucc _ => 24

def fields (a : Op) : List Nat :=
  [encR a.r11, encR a.r12, encR a.r13, encR a.r21, encR a.r22, encR a.r23,
   encR a.r31, encR a.r32, encR a.r33, encT a.t1, encT a.t2, encT a.t3]

/-- `Op.inRange`, read off the digits -/
def inRangeF (a : Op) : Bool :=
  Nat.blt (encR a.r11) 3 && Nat.blt (encR a.r12) 3 && Nat.blt (encR a.r13) 3 &&
  Nat.blt (encR a.r21) 3 && Nat.blt (encR a.r22) 3 && Nat.blt (encR a.r23) 3 &&
  Nat.blt (encR a.r31) 3 && Nat.blt (encR a.r32) 3 && Nat.blt (encR a.r33) 3 &&
  Nat.blt (encT a.t1) 24 && Nat.blt (encT a.t2) 24 && Nat.blt (encT a.t3) 24

/-- `pack 32 (fields a)`, written out, so that the kernel does not walk the list of the digits -/
def code (a : Op) : Nat :=
  Nat.add (encR a.r11) (Nat.mul 32 (Nat.add (encR a.r12) (Nat.mul 32 (Nat.add (encR a.r13) (Nat.mul 32
  (Nat.add (encR a.r21) (Nat.mul 32 (Nat.add (encR a.r22) (Nat.mul 32 (Nat.add (encR a.r23) (Nat.mul 32
  (Nat.add (encR a.r31) (Nat.mul 32 (Nat.add (encR a.r32) (Nat.mul 32 (Nat.add (encR a.r33) (Nat.mul 32
  (Nat.add (encT a.t1) (Nat.mul 32 (Nat.add (encT a.t2) (Nat.mul 32 (Nat.add (encT a.t3)
  (Nat.mul 32 0)))))))))))))))))))))))

/-- base of `table`: one digit holds one `code` -/
def wide : Nat := Nat.pow 32 12

def table (ops : List Op) : Nat := pack wide (ops.map code)

/-- `c = a₁b₁ + a₂b₂ + a₃b₃` for entries in `{-1, 0, 1}` stored shifted by one:
`(c+1) + Σ(aₖ+1) + Σ(bₖ+1) = Σ(aₖ+1)(bₖ+1) + 4`, no subtraction needed -/
def entryOK (c a1 a2 a3 b1 b2 b3 : Nat) : Bool :=
  Nat.beq (Nat.add (Nat.add c (Nat.add (Nat.add a1 a2) a3)) (Nat.add (Nat.add b1 b2) b3))
    (Nat.add (Nat.add (Nat.add (Nat.mul a1 b1) (Nat.mul a2 b2)) (Nat.mul a3 b3)) 4)

/-- `c = (a₁t₁ + a₂t₂ + a₃t₃ + u) % 24` for a row `a` stored shifted by one and `c < 24` -/
def transOK (c a1 a2 a3 t1 t2 t3 u : Nat) : Bool :=
  Nat.beq (Nat.mod (Nat.add c (Nat.add (Nat.add t1 t2) t3)) 24)
    (Nat.mod (Nat.add (Nat.add (Nat.add (Nat.mul a1 t1) (Nat.mul a2 t2)) (Nat.mul a3 t3)) u) 24)

/-- on codes of operations in range: `c = a ∘ b` -/
def compOK (a b c : Nat) : Bool :=
  entryOK (digit 32 c 0) (digit 32 a 0) (digit 32 a 1) (digit 32 a 2) (digit 32 b 0) (digit 32 b 3) (digit 32 b 6) &&
  entryOK (digit 32 c 1) (digit 32 a 0) (digit 32 a 1) (digit 32 a 2) (digit 32 b 1) (digit 32 b 4) (digit 32 b 7) &&
  entryOK (digit 32 c 2) (digit 32 a 0) (digit 32 a 1) (digit 32 a 2) (digit 32 b 2) (digit 32 b 5) (digit 32 b 8) &&
  entryOK (digit 32 c 3) (digit 32 a 3) (digit 32 a 4) (digit 32 a 5) (digit 32 b 0) (digit 32 b 3) (digit 32 b 6) &&
  entryOK (digit 32 c 4) (digit 32 a 3) (digit 32 a 4) (digit 32 a 5) (digit 32 b 1) (digit 32 b 4) (digit 32 b 7) &&
  entryOK (digit 32 c 5) (digit 32 a 3) (digit 32 a 4) (digit 32 a 5) (digit 32 b 2) (digit 32 b 5) (digit 32 b 8) &&
  entryOK (digit 32 c 6) (digit 32 a 6) (digit 32 a 7) (digit 32 a 8) (digit 32 b 0) (digit 32 b 3) (digit 32 b 6) &&
  entryOK (digit 32 c 7) (digit 32 a 6) (digit 32 a 7) (digit 32 a 8) (digit 32 b 1) (digit 32 b 4) (digit 32 b 7) &&
  entryOK (digit 32 c 8) (digit 32 a 6) (digit 32 a 7) (digit 32 a 8) (digit 32 b 2) (digit 32 b 5) (digit 32 b 8) &&
  transOK (digit 32 c 9) (digit 32 a 0) (digit 32 a 1) (digit 32 a 2) (digit 32 b 9) (digit 32 b 10) (digit 32 b 11) (digit 32 a 9) &&
  transOK (digit 32 c 10) (digit 32 a 3) (digit 32 a 4) (digit 32 a 5) (digit 32 b 9) (digit 32 b 10) (digit 32 b 11) (digit 32 a 10) &&
  transOK (digit 32 c 11) (digit 32 a 6) (digit 32 a 7) (digit 32 a 8) (digit 32 b 9) (digit 32 b 10) (digit 32 b 11) (digit 32 a 11)

/-! The three loops of `checkGroup`, same recursion, with `K = table ops`, `G = table gens`,
`n = ops.length`; the list of operations is walked for its length (and in `par` for the test `s = Op.one`),
the operation at the running position is read from the table, and in `par` the ranks from `pack 1024 rank`:
nothing is looked up by walking a list. -/

/-- `checkCayRow` for the operation with code `s`; `j` is the position of the generator -/
def cayRow (K G n s : Nat) : Nat → List Op → List Nat → Bool
  | _, [], _ => true
  | _, _ :: _, [] => false
  | j, _ :: gs, i :: is =>
    Nat.blt i n && compOK s (digit wide G j) (digit wide K i) && cayRow K G n s (Nat.succ j) gs is

/-- `checkCay`; `i` is the position of the operation -/
def cay (K G n : Nat) (gens : List Op) : Nat → List Op → List (List Nat) → Bool
  | _, [], _ => true
  | _, _ :: _, [] => false
  | i, _ :: ss, row :: rows => cayRow K G n (digit wide K i) 0 gens row && cay K G n gens (Nat.succ i) ss rows

/-- `checkParAux`; `m` is the number of generators, `Rk = pack 1024 rank` -/
def par (K G n m Rk : Nat) : Nat → List Op → List (Nat × Nat) → Bool
  | _, [], _ => true
  | _, _ :: _, [] => false
  | i, s :: ss, (p, j) :: ps =>
    (decide (s = Op.one) ||
      (Nat.blt p n && Nat.blt j m && compOK (digit wide K p) (digit wide G j) (digit wide K i) &&
       Nat.blt (digit 1024 Rk p) (digit 1024 Rk i))) &&
    par K G n m Rk (Nat.succ i) ss ps

/-- `checkInv` -/
def inv (K n one : Nat) : Nat → List Op → List Nat → Bool
  | _, [], _ => true
  | _, _ :: _, [] => false
  | i, _ :: ss, k :: ks =>
    Nat.blt k n && compOK (digit wide K i) (digit wide K k) one && inv K n one (Nat.succ i) ss ks

def codes (s : String) : List Nat := s.toByteArray.data.toList.map UInt8.toNat

/-- `checkCentring`, the first letters read off the bytes of the two names: `String.toList` of a literal makes
the kernel encode the string to UTF-8 and decode it again by well-founded recursion -/
def fastCentring (g : SG) : Bool :=
  (codes g.short).all (Nat.blt · 128) && (codes g.pdb).all (Nat.blt · 128) &&
  match (codes g.short).head?, (codes g.pdb).head? with
  | some n1, some n2 =>
    Char.ofNat n1 == Char.ofNat n2 &&
    (match centringOf (Char.ofNat n1) with
     | some alts => alts.any (fun e => sameSet (centringVecs g.ops) e)
     | none => false)
  | _, _ => false

/-! Counting with one numeral instead of one pass over the list per value counted. -/

/-- `Σₐ B ^ f a`: while the list is shorter than `B`, digit `k` in base `B` is the number of `a` with
`f a = k` (`DS.OpCode.digit_tally`) -/
def tally {α : Type} (B : Nat) (f : α → Nat) : List α → Nat
  | [] => 0
  | a :: as => Nat.add (Nat.pow B (f a)) (tally B f as)

/-- `trace + 3` for determinant `1`, `trace + 11` for determinant `-1`, else `16`, where the determinant is
`E - O` and `s` is `trace + 3`; arithmetic and not a `match`, whose numerals the kernel tests one after the other -/
def rotSel (E O s : Nat) : Nat :=
  bif Nat.beq E (Nat.succ O) then s else bif Nat.beq (Nat.succ E) O then Nat.add s 8 else 16

/-- `pq + pr + qr` -/
def pairs (p q r : Nat) : Nat := Nat.add (Nat.mul p (Nat.add q r)) (Nat.mul q r)

/-- the digit of the tally that counts the rotation type of `a`.  The entries are read shifted by one,
`r = x - 1`: in the signed sum over the six permutations of the products `(x - 1)(x' - 1)(x'' - 1)` the
constant and the linear terms cancel, so the determinant is `E - O` with `E` the triple products of the even
permutations and the pair products of the odd ones, and `O` the other way round; no subtraction needed -/
def rotType (a : Op) : Nat :=
  let x11 := encR a.r11; let x12 := encR a.r12; let x13 := encR a.r13
  let x21 := encR a.r21; let x22 := encR a.r22; let x23 := encR a.r23
  let x31 := encR a.r31; let x32 := encR a.r32; let x33 := encR a.r33
  rotSel
    (Nat.add
      (Nat.add (Nat.add (Nat.mul x11 (Nat.mul x22 x33)) (Nat.mul x12 (Nat.mul x23 x31))) (Nat.mul x13 (Nat.mul x21 x32)))
      (Nat.add (Nat.add (pairs x11 x23 x32) (pairs x12 x21 x33)) (pairs x13 x22 x31)))
    (Nat.add
      (Nat.add (Nat.add (Nat.mul x11 (Nat.mul x23 x32)) (Nat.mul x12 (Nat.mul x21 x33))) (Nat.mul x13 (Nat.mul x22 x31)))
      (Nat.add (Nat.add (pairs x11 x22 x33) (pairs x12 x23 x31)) (pairs x13 x21 x32)))
    (Nat.add (Nat.add x11 x22) x33)

/-- `checkClass`, `census` read off the tally of the rotation types: `det` and `trace` once per operation.
The positions are those of `[1, 2, 3, 4, 6, -1, m, -3, -4, -6]` under `rotSel`. -/
def fastClass (g : SG) : Bool :=
  match classOfNumber (g.number % 1000) with
  | some (_, cen, sys, _, _) =>
    decide (sys = g.system) && Nat.blt g.ops.length 1024 &&
    withVal (ncentring g.ops) fun nc => withVal (tally 1024 rotType g.ops) fun T =>
      decide ([6, 2, 3, 4, 5, 8, 12, 11, 10, 9].map (digit 1024 T) = cen.map (· * nc))
  | none => false

/-- `Op.key` of an operation in range, on the shifted entries -/
def keyF (a : Op) : Nat :=
  Nat.add (encR a.r11) (Nat.mul 3 (Nat.add (encR a.r12) (Nat.mul 3 (Nat.add (encR a.r13) (Nat.mul 3
  (Nat.add (encR a.r21) (Nat.mul 3 (Nat.add (encR a.r22) (Nat.mul 3 (Nat.add (encR a.r23) (Nat.mul 3
  (Nat.add (encR a.r31) (Nat.mul 3 (Nat.add (encR a.r32) (Nat.mul 3 (Nat.add (encR a.r33) (Nat.mul 3
  (Nat.add (encT a.t1) (Nat.mul 24 (Nat.add (encT a.t2) (Nat.mul 24 (encT a.t3))))))))))))))))))))))

/-- the key modulo 65521: operations with different residues have different keys -/
def slot (a : Op) : Nat := Nat.mod (keyF a) 65521

/-- `nodupNat (ops.map Op.key)` in two passes instead of one per operation: tally the residues of the keys,
then see that every residue was met once.  Where two keys share a residue that test fails and the `||` falls
back on `nodupNat`. -/
def fastNodup (ops : List Op) : Bool :=
  (Nat.blt ops.length 1024 &&
    withVal (tally 1024 slot ops) fun T => ops.all fun a => Nat.beq (digit 1024 T (slot a)) 1) ||
  nodupNat (ops.map Op.key)

end OpCode

open OpCode in
/-- `checkGroup`, products evaluated on codes -/
def fastGroup (ops : List Op) (c : Cert) : Bool :=
  decide (ops.head? = some Op.one) &&
  ops.all inRangeF &&
  c.gens.all inRangeF &&
  fastNodup ops &&
  withVal (table ops) fun K => withVal (table c.gens) fun G => withVal (code Op.one) fun one =>
  withVal ops.length fun n => withVal c.gens.length fun m =>
    cay K G n c.gens 0 ops c.cay &&
    c.rank.all (Nat.blt · 1024) && withVal (pack 1024 c.rank) (fun Rk => par K G n m Rk 0 ops c.par) &&
    inv K n one 0 ops c.inv

/-- `checkSG`, each part by its evaluator -/
def fastSG (g : SG) (c : Cert) : Bool :=
  fastGroup g.ops c && checkCounts g && OpCode.fastCentring g && OpCode.fastClass g

end DS

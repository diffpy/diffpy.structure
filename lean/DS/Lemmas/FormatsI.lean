import DS.Lemmas.FormatsC

/-!
# Second round trip for CIF and XCFG

The reader's result has its own type (`CifRead`, `XcfgRead`), so the second trip needs the document
the writer sees for the re-read structure: `reloadCif`, `reloadXcfg` (ADP semantics of a lattice with
orthogonal axes: an isotropic atom has `U = Uiso·I`, the equivalent isotropic value of an anisotropic
atom is the mean of the diagonal).  `idem_f`: under the explicit stability predicate `stable_f`, the
second read is the first read.  For CIF `reprCif` is closed under the trip (`reprCif_reload`); for XCFG closure is the
first clause of the hypothesis `stableXcfg`, and the theorem is `idem_xcfg_partial`.

XCFG: a re-read atom carries its auxiliaries by name.  The stored columns come first and have
non-derived names (`AuxShape`), so a derived name is looked up in `derivedCols` alone, a list of
columns some of which exist only under a flag of the layout (`find?_optCol_*`); from the lookups,
`reload_occ'` and `reload_u` say what the writer sees the second time, and `sameCols_reload` that it
then chooses the columns it chose the first time.
-/
namespace DS.Formats
open DS.Dec

/-! ## CIF -/

/-- the nine components (row-major) of the symmetric tensor `U11 U22 U33 U12 U13 U23` -/
def sym9 (us : List Rat) : List Rat :=
  [us.getD 0 0, us.getD 3 0, us.getD 4 0, us.getD 3 0, us.getD 1 0, us.getD 5 0, us.getD 4 0, us.getD 5 0, us.getD 2 0]

def diag9 (x : Rat) : List Rat := [x, 0, 0, 0, x, 0, 0, 0, x]

/-- the atom `P_cif.toLines` sees for a re-read atom -/
def reloadCifAtom (a : CifRAtom) : CifAtom :=
  match a.u with
  | some us => ⟨a.el, a.xyz, (us.getD 0 0 + us.getD 1 0 + us.getD 2 0) / 3, a.occ, sym9 us⟩
  | none => ⟨a.el, a.xyz, a.uiso, a.occ, diag9 a.uiso⟩

/-- the document of the re-read structure (the CIF reader sets no title) -/
def reloadCif (r : CifRead) : CifS := ⟨[], r.cell, r.atoms.map reloadCifAtom⟩

/-- the six values of an atom's tensor that the anisotropic loop carries, rounded as printed -/
def six6 (a : CifAtom) : List Rat := [0, 4, 8, 1, 2, 5].map (fun k => roundTo 6 (a.u.getD k 0))

/-- stability of the printed classification under the trip (each clause excludes a real, small drift):
element symbols already in the reader's normal form (otherwise the site labels are renumbered:
`NA`,`Na` → `NA1`,`Na1` → `Na1`,`Na2`); an anisotropic tensor is still anisotropic after rounding to
six decimals (otherwise the ADP type switches, `cif:drift:adp-switch`); the equivalent isotropic value
recomputed from the rounded diagonal prints as before -/
def stableCif (d : CifS) : Bool :=
  d.atoms.all (fun a => capitalize a.el == a.el) &&
  d.atoms.all (fun a => uIsIso a.u ||
    (!uIsIso (sym9 (six6 a)) &&
     roundTo 6 (((six6 a).getD 0 0 + (six6 a).getD 1 0 + (six6 a).getD 2 0) / 3) == roundTo 6 a.uiso))

theorem uIsIso_diag9 (x : Rat) : uIsIso (diag9 x) = true := by simp [uIsIso, diag9]

/-! ### `cifElemOk` is kept by the reader's normalisation of the symbol -/

theorem isLetterA_toUpperA (c : Char) : isLetterA (toUpperA c) = isLetterA c := by
  have h := toUpperA_toNat c
  by_cases hl : isLowerA c = true
  · rw [if_pos hl] at h
    simp only [isLetterA, isUpperA, isLowerA, h] at hl ⊢
    simp only [Bool.and_eq_true, decide_eq_true_eq] at hl
    have e1 : (decide (65 ≤ c.toNat - 32) && decide (c.toNat - 32 ≤ 90)) = true := by
      simp only [Bool.and_eq_true, decide_eq_true_eq]; omega
    have e2 : (decide (97 ≤ c.toNat) && decide (c.toNat ≤ 122)) = true := by
      simp only [Bool.and_eq_true, decide_eq_true_eq]; omega
    rw [e1, e2]; simp
  · have : toUpperA c = c := by unfold toUpperA; rw [if_neg hl]
    rw [this]

theorem isLetterA_toLowerA (c : Char) : isLetterA (toLowerA c) = isLetterA c := by
  have h := toLowerA_toNat c
  by_cases hl : isUpperA c = true
  · rw [if_pos hl] at h
    simp only [isLetterA, isUpperA, isLowerA, h] at hl ⊢
    simp only [Bool.and_eq_true, decide_eq_true_eq] at hl
    have e1 : (decide (97 ≤ c.toNat + 32) && decide (c.toNat + 32 ≤ 122)) = true := by
      simp only [Bool.and_eq_true, decide_eq_true_eq]; omega
    have e2 : (decide (65 ≤ c.toNat) && decide (c.toNat ≤ 90)) = true := by
      simp only [Bool.and_eq_true, decide_eq_true_eq]; omega
    rw [e1, e2]; simp
  · have : toLowerA c = c := by unfold toLowerA; rw [if_neg hl]
    rw [this]

theorem toLowerA_nonletter {c : Char} (h : isLetterA c = false) : toLowerA c = c := by
  unfold toLowerA
  rw [if_neg]
  intro hu
  simp [isLetterA, hu] at h

theorem cifElemOk_capitalize {e : Str} (h : cifElemOk e = true) : cifElemOk (capitalize e) = true := by
  obtain ⟨L, R, rfl, hL, hLall, hR⟩ := (cifElemOk_iff e).1 h
  apply (cifElemOk_iff _).2
  cases L with
  | nil => exact absurd rfl hL
  | cons c L =>
    have hRl : lower R = R := by
      rcases hR with rfl | ⟨dg, sg, rfl, hdg, hsg⟩
      · rfl
      · have h1 : isLetterA dg = false := by
          simp only [isDigit, Bool.and_eq_true, decide_eq_true_eq] at hdg
          simp only [isLetterA, isUpperA, isLowerA, Bool.or_eq_false_iff, Bool.and_eq_false_iff, decide_eq_false_iff_not]
          omega
        have h2 : isLetterA sg = false := by rcases hsg with rfl | rfl <;> decide
        simp [lower, toLowerA_nonletter h1, toLowerA_nonletter h2]
    refine ⟨toUpperA c :: lower L, R, ?_, by simp, ?_, hR⟩
    · simp only [List.cons_append, capitalize, lower, List.map_append]
      rw [show List.map toLowerA R = lower R from rfl, hRl]
    · intro x hx
      rcases List.mem_cons.1 hx with rfl | hx
      · rw [isLetterA_toUpperA]; exact hLall c (by simp)
      · obtain ⟨y, hy, rfl⟩ := List.mem_map.1 hx
        rw [isLetterA_toLowerA]; exact hLall y (by simp [hy])

/-! ### closure and fixed point -/

theorem reloadCifAtom_quant (p : Str × CifAtom) :
    reloadCifAtom (quantCifAtom p) =
      if uIsIso p.2.u then ⟨capitalize p.2.el, p.2.xyz.map (roundTo 6), roundTo 6 p.2.uiso, roundTo 4 p.2.occ,
        diag9 (roundTo 6 p.2.uiso)⟩
      else ⟨capitalize p.2.el, p.2.xyz.map (roundTo 6),
        ((six6 p.2).getD 0 0 + (six6 p.2).getD 1 0 + (six6 p.2).getD 2 0) / 3, roundTo 4 p.2.occ, sym9 (six6 p.2)⟩ := by
  cases h : uIsIso p.2.u <;> simp [reloadCifAtom, quantCifAtom, h, six6]

theorem length_sym9 (us : List Rat) : (sym9 us).length = 9 := rfl
theorem length_diag9 (x : Rat) : (diag9 x).length = 9 := rfl

/-- what was read can be written and read again: the range is closed under the trip -/
theorem reprCif_reload (d : CifS) (h : reprCif d = true) : reprCif (reloadCif (quantCif d)) = true := by
  simp only [reprCif, rangeCif, defectCif, Bool.and_eq_true, Bool.not_eq_true', List.all_eq_true, beq_iff_eq] at h ⊢
  obtain ⟨hall, hne⟩ := h
  have hlen : (cifLabels [] (d.atoms.map (·.el))).length = d.atoms.length := by rw [cifLabels_length, List.length_map]
  constructor
  · intro a ha
    rw [quantCif_eq] at ha
    simp only [reloadCif, List.map_map, List.mem_map, Function.comp] at ha
    obtain ⟨p, hp, rfl⟩ := ha
    have hp2 : p.2 ∈ d.atoms := (List.of_mem_zip hp).2
    rw [reloadCifAtom_quant]
    split
    · exact ⟨cifElemOk_capitalize (hall p.2 hp2).1, rfl⟩
    · exact ⟨cifElemOk_capitalize (hall p.2 hp2).1, rfl⟩
  · rw [quantCif_eq]
    cases hd : d.atoms with
    | nil => rw [hd] at hne; simp at hne
    | cons a as => simp [reloadCif, cifLA, hd, cifLabels_cons]

theorem zip_map_zip {α β γ} (g : α × β → γ) : ∀ (l : List α) (as : List β),
    l.zip ((l.zip as).map g) = (l.zip as).map (fun p => (p.1, g p)) := by
  intro l
  induction l with
  | nil => intro as; rfl
  | cons x l ih =>
    intro as
    cases as with
    | nil => rfl
    | cons a as => simp [ih as]

theorem map_snd_zip_of_length {α β} (l : List α) (as : List β) (h : l.length = as.length) : (l.zip as).map (·.2) = as := by
  exact List.map_snd_zip (Nat.le_of_eq h.symm)

theorem quantCifAtom_reload (p : Str × CifAtom)
    (hs : (uIsIso p.2.u ||
      (!uIsIso (sym9 (six6 p.2)) &&
       roundTo 6 (((six6 p.2).getD 0 0 + (six6 p.2).getD 1 0 + (six6 p.2).getD 2 0) / 3) == roundTo 6 p.2.uiso)) = true) :
    quantCifAtom (p.1, reloadCifAtom (quantCifAtom p)) = quantCifAtom p := by
  rw [reloadCifAtom_quant]
  cases hiso : uIsIso p.2.u with
  | true =>
    simp [quantCifAtom, hiso, uIsIso_diag9, capitalize_idem, V3.map, roundTo_idem]
  | false =>
    simp only [hiso, Bool.false_or, Bool.and_eq_true, Bool.not_eq_true', beq_iff_eq] at hs
    obtain ⟨h4, h3⟩ := hs
    simp only [quantCifAtom, Bool.false_eq_true, if_false, h4, h3, capitalize_idem, V3.map, roundTo_idem, hiso, Bool.not_false,
      if_true]
    simp [sym9, six6, roundTo_idem]

/-- second trip for CIF: writing the re-read structure and reading it again gives the first reading,
for every representable document that is stable in the sense of `stableCif` -/
theorem idem_cif (d : CifS) (h : reprCif d = true) (hs : stableCif d = true) :
    parseCif (ofText (toText (writeCif (reloadCif (quantCif d))))) = .ok (quantCif d) := by
  rw [roundtrip_cif _ (reprCif_reload d h)]
  congr 1
  simp only [stableCif, Bool.and_eq_true, List.all_eq_true, beq_iff_eq] at hs
  obtain ⟨h1, h34⟩ := hs
  have hlen : (cifLabels [] (d.atoms.map (·.el))).length = d.atoms.length := by rw [cifLabels_length, List.length_map]
  have hels : (reloadCif (quantCif d)).atoms.map (·.el) = d.atoms.map (·.el) := by
    rw [quantCif_eq]
    simp only [reloadCif, List.map_map]
    have : ∀ p ∈ cifLA d, ((fun x => x.el) ∘ reloadCifAtom ∘ quantCifAtom) p = p.2.el := by
      intro p hp
      have hp2 : p.2 ∈ d.atoms := (List.of_mem_zip hp).2
      simp only [Function.comp, reloadCifAtom_quant]
      split <;> exact h1 p.2 hp2
    rw [List.map_congr_left this]
    have e : List.map (fun a : Str × CifAtom => a.2.el) (cifLA d) = List.map (fun x => x.el) (List.map (fun x => x.2) (cifLA d)) := by
      rw [List.map_map]; rfl
    rw [e, show List.map (fun x => x.2) (cifLA d) = d.atoms from map_snd_zip_of_length _ _ hlen]
  have hLA : cifLA (reloadCif (quantCif d)) = (cifLA d).map (fun p => (p.1, reloadCifAtom (quantCifAtom p))) := by
    unfold cifLA
    rw [hels]
    conv_lhs => rw [quantCif_eq]
    simp only [reloadCif, List.map_map]
    exact zip_map_zip (reloadCifAtom ∘ quantCifAtom) _ _
  rw [quantCif_eq (reloadCif (quantCif d)), hLA, quantCif_eq d]
  congr 1
  · simp [reloadCif, Cell6.map, roundSig_idem]
  · rw [List.map_map]
    apply List.map_congr_left
    intro p hp
    exact quantCifAtom_reload p (h34 p.2 (List.of_mem_zip hp).2)

/-! ## XCFG -/

/-- `getattr(a, name)` after `_assign_auxiliaries`: the value read for the column with that name (the first one here;
in the source a later column of the same name would overwrite it, but the names it is applied to occur once in a
written layout) -/
def auxVal (a : XRead) (nm : Str) : Option Rat := (a.aux.find? (fun p => p.1 == nm)).map (·.2)

/-- the displacement tensor of a re-read atom (`Uiso` → `U = Uiso·I`; `U11 …` set the symmetric components) -/
def reloadU (a : XRead) : List Rat :=
  match auxVal a nUiso with
  | some x => diag9 x
  | none =>
    match auxVal a nU11 with
    | some _ =>
      sym9 [(auxVal a nU11).getD 0, (auxVal a nU22).getD 0, (auxVal a nU33).getD 0,
            (auxVal a nU12).getD 0, (auxVal a nU13).getD 0, (auxVal a nU23).getD 0]
    | none => List.replicate 9 0

/-- the atom `P_xcfg.toLines` sees for a re-read atom (`mass`: the `AtomicMass` table) -/
def reloadXAtom (mass : Str → Rat) (a : XRead) : XAtom :=
  ⟨a.el, mass a.el, a.xyz, (auxVal a nOcc).getD 1, reloadU a, a.v,
   (a.aux.filter (fun p => !isDerivedAux p.1)).map (·.2)⟩

/-- the document of the re-read structure; `unit`: whether its cell passes the unit-cell test, `mass`: the
`AtomicMass` table (both outside the text model) -/
def reloadXcfg (unit : Bool) (mass : Str → Rat) (r : XcfgRead) : XcfgS :=
  ⟨r.base, unit, (match r.atoms with | a :: _ => a.aux.map (·.1) | [] => []), r.atoms.map (reloadXAtom mass)⟩

theorem derived_names : isDerivedAux nOcc = true ∧ isDerivedAux nUiso = true ∧ isDerivedAux nU11 = true ∧
    isDerivedAux nU22 = true ∧ isDerivedAux nU33 = true ∧ isDerivedAux nU12 = true ∧ isDerivedAux nU13 = true ∧
    isDerivedAux nU23 = true := by decide

theorem derivedNames_derived (L : XLayout) : ∀ n ∈ derivedNames L, isDerivedAux n = true := by
  obtain ⟨d1, d2, d3, d4, d5, d6, d7, d8⟩ := derived_names
  intro n hn
  have := derivedNames_subset L hn
  simp only [List.mem_cons, List.not_mem_nil, or_false] at this
  rcases this with rfl | rfl | rfl | rfl | rfl | rfl | rfl | rfl <;> assumption

/-- shape of the auxiliary list of a layout: stored non-derived names, then the derived columns -/
structure AuxShape (L : XLayout) (S : List Str) : Prop where
  aux : L.aux = S ++ derivedNames L
  stored : ∀ n ∈ S, isDerivedAux n = false

theorem layout_auxShape (d : XcfgS) : AuxShape (xcfgLayout d) (storedOf d) :=
  ⟨layout_aux d, fun n hn => by simpa using (List.mem_filter.1 hn).2⟩

/-- the numbers read from the derived columns -/
def derivedVals (L : XLayout) (a : XAtom) : List Rat := ((if L.occ then [a.occ] else []) ++ usOf L a).map (roundSig 8)

/-- the displacement columns of a re-read atom, name and value -/
def uCols (L : XLayout) (a : XAtom) : List (Str × Rat) :=
  uSel L (nUiso, roundSig 8 (a.u.getD 0 0)) (nU11, roundSig 8 (a.u.getD 0 0)) (nU22, roundSig 8 (a.u.getD 4 0))
    (nU33, roundSig 8 (a.u.getD 8 0)) (nU12, roundSig 8 (a.u.getD 1 0)) (nU13, roundSig 8 (a.u.getD 2 0))
    (nU23, roundSig 8 (a.u.getD 5 0))

/-- the derived columns of a re-read atom, name and value -/
def derivedCols (L : XLayout) (a : XAtom) : List (Str × Rat) :=
  (if L.occ then [(nOcc, roundSig 8 a.occ)] else []) ++ uCols L a

theorem derived_zip (L : XLayout) (a : XAtom) : (derivedNames L).zip (derivedVals L a) = derivedCols L a := by
  rw [derivedNames, derivedVals, derivedCols, uCols, uNames'_eq, usOf_eq, List.map_append, uSel_map, ← uSel_zip]
  cases L.occ <;> rfl

theorem xreadOf_aux (L : XLayout) (S : List Str) (hL : AuxShape L S) (aq : Rat) (a : XAtom) (hlen : a.aux.length = S.length) :
    (xreadOf L aq a).aux = S.zip (a.aux.map (roundSig 8)) ++ (derivedNames L).zip (derivedVals L a) := by
  rw [← List.zip_append (by rw [List.length_map, hlen])]
  simp only [xreadOf, hL.aux, derivedVals, List.map_append, List.append_assoc]

theorem reload_aux (L : XLayout) (S : List Str) (hL : AuxShape L S) (aq : Rat) (a : XAtom) (hlen : a.aux.length = S.length) :
    (((xreadOf L aq a).aux.filter (fun p => !isDerivedAux p.1)).map (·.2)) = a.aux.map (roundSig 8) := by
  rw [xreadOf_aux L S hL aq a hlen, List.filter_append]
  have h1 : (S.zip (a.aux.map (roundSig 8))).filter (fun p => !isDerivedAux p.1) = S.zip (a.aux.map (roundSig 8)) := by
    apply List.filter_eq_self.2
    intro p hp
    simp [hL.stored p.1 (List.of_mem_zip hp).1]
  have h2 : ((derivedNames L).zip (derivedVals L a)).filter (fun p => !isDerivedAux p.1) = [] := by
    apply List.filter_eq_nil_iff.2
    intro p hp
    simp [derivedNames_derived L p.1 (List.of_mem_zip hp).1]
  rw [h1, h2, List.append_nil]
  exact List.map_snd_zip (by simp [hlen])

/-- a derived name is looked up in the derived columns: the stored columns carry other names -/
theorem auxVal_derived (L : XLayout) (S : List Str) (hL : AuxShape L S) (aq : Rat) (a : XAtom) (hlen : a.aux.length = S.length)
    (nm : Str) (hnm : isDerivedAux nm = true) :
    auxVal (xreadOf L aq a) nm = ((derivedCols L a).find? (fun p => p.1 == nm)).map (·.2) := by
  have hS : (S.zip (a.aux.map (roundSig 8))).find? (fun p => p.1 == nm) = none := by
    rw [List.find?_eq_none]
    intro p hp
    have hd := hL.stored p.1 (List.of_mem_zip hp).1
    intro e
    rw [beq_iff_eq.1 e, hnm] at hd
    cases hd
  rw [auxVal, xreadOf_aux L S hL aq a hlen, List.find?_append, hS, Option.none_or, derived_zip]

/-! lookup of a name in a list of columns, some of them present only under a flag; the side conditions
(two of the fixed names differ) are closed by evaluation -/

theorem find?_col_ne {n nm : Str} (h : n ≠ nm) (v : Rat) (T : List (Str × Rat)) :
    ((n, v) :: T).find? (fun p => p.1 == nm) = T.find? (fun p => p.1 == nm) := by
  rw [List.find?_cons, beq_eq_false_iff_ne.2 h]

theorem find?_col_eq (nm : Str) (v : Rat) (T : List (Str × Rat)) :
    ((nm, v) :: T).find? (fun p => p.1 == nm) = some (nm, v) := by
  rw [List.find?_cons, beq_self_eq_true]

theorem find?_optCol_ne {n nm : Str} (h : n ≠ nm) (c : Bool) (v : Rat) (T : List (Str × Rat)) :
    ((if c then [(n, v)] else []) ++ T).find? (fun p => p.1 == nm) = T.find? (fun p => p.1 == nm) := by
  cases c
  · rfl
  · exact find?_col_ne h v T

theorem find?_optCol_eq (nm : Str) (c : Bool) (v : Rat) (T : List (Str × Rat)) :
    ((if c then [(nm, v)] else []) ++ T).find? (fun p => p.1 == nm) =
      if c then some (nm, v) else T.find? (fun p => p.1 == nm) := by
  cases c
  · rfl
  · exact find?_col_eq nm v T

theorem find?_lastCol_ne {n nm : Str} (h : n ≠ nm) (c : Bool) (v : Rat) :
    (if c then [(n, v)] else []).find? (fun p => p.1 == nm) = none := by
  rw [← List.append_nil (if c then _ else _), find?_optCol_ne h]
  rfl

theorem find?_lastCol_eq (nm : Str) (c : Bool) (v : Rat) :
    (if c then [(nm, v)] else []).find? (fun p => p.1 == nm) = if c then some (nm, v) else none := by
  rw [← List.append_nil (if c then _ else _), find?_optCol_eq]
  rfl

theorem reload_occ' (L : XLayout) (S : List Str) (hL : AuxShape L S) (aq : Rat) (mass : Str → Rat) (a : XAtom)
    (hlen : a.aux.length = S.length) :
    (reloadXAtom mass (xreadOf L aq a)).occ = if L.occ then roundSig 8 a.occ else 1 := by
  have hU : ∀ p ∈ uCols L a, (p.1 == nOcc) = false := by
    have ht : ∀ n ∈ [nUiso, nU11, nU22, nU33, nU12, nU13, nU23], (n == nOcc) = false := by decide
    intro p hp
    apply ht
    have : p.1 ∈ (uCols L a).map (·.1) := List.mem_map.2 ⟨p, hp, rfl⟩
    rw [uCols, uSel_map] at this
    exact (uSel_sublist L ..).subset this
  show ((auxVal (xreadOf L aq a) nOcc).getD 1) = _
  rw [auxVal_derived L S hL aq a hlen nOcc derived_names.1, derivedCols, find?_optCol_eq]
  cases L.occ
  · rw [if_neg Bool.false_ne_true, if_neg Bool.false_ne_true, List.find?_eq_none.2 (fun p hp => by simp [hU p hp])]
    rfl
  · rfl

theorem reload_u (L : XLayout) (S : List Str) (hL : AuxShape L S) (aq : Rat) (mass : Str → Rat) (a : XAtom)
    (hlen : a.aux.length = S.length) :
    (reloadXAtom mass (xreadOf L aq a)).u =
      if L.uMode = 0 then List.replicate 9 0 else if L.uMode = 1 then diag9 (roundSig 8 (a.u.getD 0 0))
      else sym9 [roundSig 8 (a.u.getD 0 0), roundSig 8 (a.u.getD 4 0), roundSig 8 (a.u.getD 8 0),
                 if L.u12 then roundSig 8 (a.u.getD 1 0) else 0, if L.u13 then roundSig 8 (a.u.getD 2 0) else 0,
                 if L.u23 then roundSig 8 (a.u.getD 5 0) else 0] := by
  obtain ⟨_, d2, d3, d4, d5, d6, d7, d8⟩ := derived_names
  have hv := fun nm h => auxVal_derived L S hL aq a hlen nm h
  show reloadU (xreadOf L aq a) = _
  simp only [reloadU, hv nUiso d2, hv nU11 d3, hv nU22 d4, hv nU33 d5, hv nU12 d6, hv nU13 d7, hv nU23 d8, derivedCols, uCols, uSel]
  by_cases h0 : L.uMode = 0
  · simp (disch := decide) only [h0, if_true, find?_optCol_ne, List.find?_nil, Option.map_none]
  · by_cases h1 : L.uMode = 1
    · simp (disch := decide) only [if_neg h0, if_pos h1, find?_optCol_ne, find?_col_eq, Option.map_some]
    · simp (disch := decide) only [if_neg h0, if_neg h1, List.append_assoc, List.cons_append, List.nil_append, find?_optCol_ne,
        find?_col_ne, find?_col_eq, find?_optCol_eq, find?_lastCol_ne, find?_lastCol_eq, Option.map_some, Option.map_none,
        Option.getD_some]
      cases L.u12 <;> cases L.u13 <;> cases L.u23 <;> rfl

theorem reload_us (L : XLayout) (S : List Str) (hL : AuxShape L S) (aq : Rat) (mass : Str → Rat) (a : XAtom)
    (hlen : a.aux.length = S.length) :
    usOf L (reloadXAtom mass (xreadOf L aq a)) = (usOf L a).map (roundSig 8) := by
  rw [usOf_eq, usOf_eq, uSel_map, reload_u L S hL aq mass a hlen]
  apply uSel_congr
  · intro m1
    rw [if_neg (by omega), if_pos m1]
    rfl
  · intro m0 m1
    rw [if_neg m0, if_neg m1]
    exact ⟨rfl, rfl, rfl, fun h => if_pos h, fun h => if_pos h, fun h => if_pos h⟩

theorem usOf_congr (L L' : XLayout) (a : XAtom) (h : L'.uMode = L.uMode ∧ L'.u12 = L.u12 ∧ L'.u13 = L.u13 ∧ L'.u23 = L.u23) :
    usOf L' a = usOf L a := by
  obtain ⟨h1, h2, h3, h4⟩ := h
  simp only [usOf, h1, h2, h3, h4]

/-- two layouts agree in the columns that decide what an entry line contains -/
def sameCols (L' L : XLayout) : Prop :=
  L'.noVel = L.noVel ∧ L'.aux = L.aux ∧ L'.occ = L.occ ∧ L'.uMode = L.uMode ∧ L'.u12 = L.u12 ∧ L'.u13 = L.u13 ∧ L'.u23 = L.u23

/-- the atom read on the second trip is the atom read on the first, when the second write uses the
same columns and the three position columns reprint -/
theorem xreadOf_reload (L L' : XLayout) (S : List Str) (hL : AuxShape L S) (aq : Rat) (mass : Str → Rat) (a : XAtom)
    (hlen : a.aux.length = S.length) (hc : sameCols L' L)
    (hpos : (xcfgPos L' (reloadXAtom mass (xreadOf L aq a))).map (roundSig 8) = (xcfgPos L a).map (roundSig 8)) :
    xreadOf L' aq (reloadXAtom mass (xreadOf L aq a)) = xreadOf L aq a := by
  obtain ⟨hnv, haux, hocc, hum, h12, h13, h23⟩ := hc
  have hrr : (roundSig 8 ∘ roundSig 8) = roundSig 8 := funext (roundSig_idem 8)
  have hvals : ((reloadXAtom mass (xreadOf L aq a)).aux ++ (if L'.occ then [(reloadXAtom mass (xreadOf L aq a)).occ] else []) ++
      usOf L' (reloadXAtom mass (xreadOf L aq a))).map (roundSig 8) =
      (a.aux ++ (if L.occ then [a.occ] else []) ++ usOf L a).map (roundSig 8) := by
    rw [usOf_congr L L' _ ⟨hum, h12, h13, h23⟩, reload_us L S hL aq mass a hlen, hocc, reload_occ' L S hL aq mass a hlen,
      show (reloadXAtom mass (xreadOf L aq a)).aux = a.aux.map (roundSig 8) from reload_aux L S hL aq a hlen]
    cases L.occ <;> simp [hrr, roundSig_idem]
  -- `xcfgPos` is a list of three, so `hpos` is three equations
  have hp0 : roundSig 8 ((xcfgPos L' (reloadXAtom mass (xreadOf L aq a))).getD 0 0) = roundSig 8 ((xcfgPos L a).getD 0 0) :=
    congrArg (fun l => l.getD 0 0) hpos
  have hp1 : roundSig 8 ((xcfgPos L' (reloadXAtom mass (xreadOf L aq a))).getD 1 0) = roundSig 8 ((xcfgPos L a).getD 1 0) :=
    congrArg (fun l => l.getD 1 0) hpos
  have hp2 : roundSig 8 ((xcfgPos L' (reloadXAtom mass (xreadOf L aq a))).getD 2 0) = roundSig 8 ((xcfgPos L a).getD 2 0) :=
    congrArg (fun l => l.getD 2 0) hpos
  have hel : (reloadXAtom mass (xreadOf L aq a)).el = capitalize a.el := rfl
  have hv : (reloadXAtom mass (xreadOf L aq a)).v = if L.noVel then none else a.v.map (fun v => v.map (roundSig 8)) := rfl
  clear hpos
  generalize reloadXAtom mass (xreadOf L aq a) = a' at *
  unfold xreadOf
  simp only [hp0, hp1, hp2, hel, capitalize_idem, hv, hnv, haux, hvals]
  cases L.noVel with
  | true => rfl
  | false =>
    cases a.v with
    | none => rfl
    | some v => simp [V3.map, roundSig_idem]

/-! ### the second write chooses the same columns (no auxiliary growth) -/

theorem roundSig_ne_zero (P : Nat) {x : Rat} (hx : x ≠ 0) : roundSig P x ≠ 0 := by
  unfold roundSig
  generalize hQ : (if P = 0 then 1 else P) = Q
  have hQ1 : 1 ≤ Q := by rw [← hQ]; split <;> omega
  have hnum : 0 < x.num.natAbs := by
    have : x.num ≠ 0 := Rat.num_ne_zero.2 hx
    omega
  obtain ⟨hm1, _⟩ := sci_spec Q x.num.natAbs x.den hQ1 hnum x.den_pos
  have hmpos : (0 : Rat) < ((sci Q x.num.natAbs x.den).2 : Rat) := by
    have : 0 < (sci Q x.num.natAbs x.den).2 := lt_of_lt_of_le (by positivity) hm1
    exact_mod_cast this
  have hv := scale10_pos hmpos ((sci Q x.num.natAbs x.den).1 - (Q : Int) + 1)
  simp only [roundSigP, hx, if_false]
  split
  · exact neg_ne_zero.2 (ne_of_gt hv)
  · exact ne_of_gt hv

theorem roundSig_zero (P : Nat) : roundSig P 0 = 0 := by simp [roundSig, roundSigP]

theorem roundSig_eq_zero_iff (P : Nat) (x : Rat) : roundSig P x = 0 ↔ x = 0 := by
  constructor
  · intro h; by_contra hx; exact roundSig_ne_zero P hx h
  · rintro rfl; exact roundSig_zero P

theorem layout_occ (d : XcfgS) : (xcfgLayout d).occ = d.atoms.any (fun a => a.occ != 1) := rfl
theorem layout_uMode (d : XcfgS) : (xcfgLayout d).uMode =
    if d.atoms.all (fun a => a.u.all (· == 0)) then 0 else if d.atoms.all (fun a => uIsIso a.u) then 1 else 2 := rfl
theorem layout_u12 (d : XcfgS) : (xcfgLayout d).u12 = d.atoms.any (fun a => a.u.getD 1 0 != 0) := rfl
theorem layout_u13 (d : XcfgS) : (xcfgLayout d).u13 = d.atoms.any (fun a => a.u.getD 2 0 != 0) := rfl
theorem layout_u23 (d : XcfgS) : (xcfgLayout d).u23 = d.atoms.any (fun a => a.u.getD 5 0 != 0) := rfl

theorem derivedNames_congr (L L' : XLayout)
    (h : L'.occ = L.occ ∧ L'.uMode = L.uMode ∧ L'.u12 = L.u12 ∧ L'.u13 = L.u13 ∧ L'.u23 = L.u23) :
    derivedNames L' = derivedNames L := by
  obtain ⟨h0, h1, h2, h3, h4⟩ := h
  simp only [derivedNames, uNames', h0, h1, h2, h3, h4]

theorem uIsIso_zeros : uIsIso (List.replicate 9 0) = true := by decide

theorem all_zero_getD {u : List Rat} (h : u.all (· == 0) = true) (k : Nat) : u.getD k 0 = 0 := by
  rw [List.getD_eq_getElem?_getD]
  cases hk : u[k]? with
  | none => rfl
  | some x =>
    have hx : x ∈ u := List.mem_of_getElem? hk
    have := List.all_eq_true.1 h x hx
    simpa using this

theorem uIsIso_getD {u : List Rat} (h : uIsIso u = true) :
    u.getD 1 0 = 0 ∧ u.getD 2 0 = 0 ∧ u.getD 5 0 = 0 ∧ (u.all (· == 0) = true ↔ u.getD 0 0 = 0) := by
  unfold uIsIso at h
  split at h
  · rename_i a b c d e f g hh i
    simp only [Bool.and_eq_true, beq_iff_eq] at h
    obtain ⟨⟨⟨⟨⟨⟨⟨hb, hc⟩, hd⟩, hf⟩, hg⟩, hh'⟩, he⟩, hi⟩ := h
    subst hb hc hd hf hg hh' he hi
    simp
  · cases h

theorem uIsIso_of_all_zero9 (u : List Rat) (h9 : u.length = 9) (hz : u.all (· == 0) = true) : uIsIso u = true := by
  obtain ⟨b0, b1, b2, b3, b4, b5, b6, b7, b8, rfl⟩ := list9 u h9
  simp only [List.all_cons, List.all_nil, Bool.and_true, Bool.and_eq_true, beq_iff_eq] at hz
  obtain ⟨z0, z1, z2, z3, z4, z5, z6, z7, z8⟩ := hz
  subst z0 z1 z2 z3 z4 z5 z6 z7 z8
  decide

theorem any_congr_mem {α} (l : List α) (p q : α → Bool) (h : ∀ a ∈ l, p a = q a) : l.any p = l.any q := by
  induction l with
  | nil => rfl
  | cons a l ih =>
    rw [List.any_cons, List.any_cons, h a (by simp), ih (fun x hx => h x (by simp [hx]))]

/-- the columns chosen by the second write are those of the first (in particular the list of
auxiliaries does not grow), when a non-unit occupancy and an anisotropic tensor survive printing -/
theorem sameCols_reload (unit : Bool) (mass : Str → Rat) (d : XcfgS) (h : reprXcfg d = true)
    (P1 : (xcfgLayout d).occ = true → d.atoms.any (fun a => roundSig 8 a.occ != 1) = true)
    (P2 : (xcfgLayout d).uMode = 2 → d.atoms.any (fun a =>
      !uIsIso (reloadXAtom mass (xreadOf (xcfgLayout d) (roundSig 8 ((xcfgLayout d).a : Rat)) a)).u) = true) :
    sameCols (xcfgLayout (reloadXcfg unit mass (quantXcfg d))) (xcfgLayout d) := by
  obtain ⟨hne, _, _, hwf⟩ := reprXcfg_spec d h
  have hshape := layout_auxShape d
  have hauxlen := layout_aux_length d
  have ho := layout_occ d
  have hm := layout_uMode d
  have h12 := layout_u12 d
  have h13 := layout_u13 d
  have h23 := layout_u23 d
  have hnv := layout_noVel d
  have hauxL := layout_aux d
  have ho' := layout_occ (reloadXcfg unit mass (quantXcfg d))
  have hm' := layout_uMode (reloadXcfg unit mass (quantXcfg d))
  have h12' := layout_u12 (reloadXcfg unit mass (quantXcfg d))
  have h13' := layout_u13 (reloadXcfg unit mass (quantXcfg d))
  have h23' := layout_u23 (reloadXcfg unit mass (quantXcfg d))
  have hnv' := layout_noVel (reloadXcfg unit mass (quantXcfg d))
  have haux' := layout_aux (reloadXcfg unit mass (quantXcfg d))
  rw [quantXcfg_eq d] at ho' hm' h12' h13' h23' hnv' haux' ⊢
  generalize xcfgLayout d = L at *
  generalize hL' : xcfgLayout (reloadXcfg unit mass (quantXcfgL L d)) = L' at *
  generalize haq : roundSig 8 (L.a : Rat) = aq at *
  have hatoms : (reloadXcfg unit mass (quantXcfgL L d)).atoms = d.atoms.map (fun a => reloadXAtom mass (xreadOf L aq a)) := by
    simp [reloadXcfg, quantXcfgL, haq]
  have hlen : ∀ a ∈ d.atoms, a.aux.length = (storedOf d).length := fun a ha => (hwf a ha).2.2.1
  have hocc_a : ∀ a ∈ d.atoms, (reloadXAtom mass (xreadOf L aq a)).occ = if L.occ then roundSig 8 a.occ else 1 :=
    fun a ha => reload_occ' L _ hshape aq mass a (hlen a ha)
  have hu_a := fun a ha => reload_u L _ hshape aq mass a (hlen a ha)
  rw [hatoms] at ho' hm' h12' h13' h23' hnv'
  simp only [List.any_map, List.all_map, Function.comp_def] at ho' hm' h12' h13' h23'
  have hocc : L'.occ = L.occ := by
    rw [ho']
    cases hLo : L.occ with
    | true =>
      rw [← P1 hLo]
      apply any_congr_mem
      intro a ha
      simp [hocc_a a ha, hLo]
    | false =>
      apply List.any_eq_false.2
      intro a ha
      simp [hocc_a a ha, hLo]
  -- displacement columns: the mode, and what the off-diagonal terms of a re-read tensor are (printed
  -- where the column exists, zero otherwise; in the first two modes no such column exists)
  have hmodeOff : L'.uMode = L.uMode ∧ ∀ a ∈ d.atoms,
      (reloadXAtom mass (xreadOf L aq a)).u.getD 1 0 = (if L.u12 then roundSig 8 (a.u.getD 1 0) else 0) ∧
      (reloadXAtom mass (xreadOf L aq a)).u.getD 2 0 = (if L.u13 then roundSig 8 (a.u.getD 2 0) else 0) ∧
      (reloadXAtom mass (xreadOf L aq a)).u.getD 5 0 = (if L.u23 then roundSig 8 (a.u.getD 5 0) else 0) := by
    have noCols : (∀ a ∈ d.atoms, a.u.getD 1 0 = 0 ∧ a.u.getD 2 0 = 0 ∧ a.u.getD 5 0 = 0) →
        L.u12 = false ∧ L.u13 = false ∧ L.u23 = false := by
      intro hg
      rw [h12, h13, h23]
      exact ⟨List.any_eq_false.2 (fun a ha => by rw [(hg a ha).1]; simp),
        List.any_eq_false.2 (fun a ha => by rw [(hg a ha).2.1]; simp), List.any_eq_false.2 (fun a ha => by rw [(hg a ha).2.2]; simp)⟩
    by_cases hz : d.atoms.all (fun a => a.u.all (· == 0)) = true
    · -- all tensors zero
      have h0 : L.uMode = 0 := by rw [hm, if_pos hz]
      have hgz : ∀ a ∈ d.atoms, ∀ k, a.u.getD k 0 = 0 := fun a ha k => all_zero_getD (List.all_eq_true.1 hz a ha) k
      obtain ⟨f12, f13, f23⟩ := noCols (fun a ha => ⟨hgz a ha 1, hgz a ha 2, hgz a ha 5⟩)
      have hz' : ∀ a ∈ d.atoms, (reloadXAtom mass (xreadOf L aq a)).u = List.replicate 9 0 := by
        intro a ha; rw [hu_a a ha, if_pos h0]
      refine ⟨?_, fun a ha => by rw [hz' a ha, f12, f13, f23]; exact ⟨rfl, rfl, rfl⟩⟩
      rw [hm', h0, if_pos]
      apply List.all_eq_true.2
      intro a ha
      rw [hz' a ha]; decide
    · by_cases hiso : d.atoms.all (fun a => uIsIso a.u) = true
      · -- all tensors isotropic, not all zero
        have h1 : L.uMode = 1 := by rw [hm, if_neg hz, if_pos hiso]
        have hg : ∀ a ∈ d.atoms, _ := fun a ha => uIsIso_getD (List.all_eq_true.1 hiso a ha)
        obtain ⟨f12, f13, f23⟩ := noCols (fun a ha => ⟨(hg a ha).1, (hg a ha).2.1, (hg a ha).2.2.1⟩)
        have hd' : ∀ a ∈ d.atoms, (reloadXAtom mass (xreadOf L aq a)).u = diag9 (roundSig 8 (a.u.getD 0 0)) := by
          intro a ha; rw [hu_a a ha, if_neg (by omega), if_pos h1]
        refine ⟨?_, fun a ha => by rw [hd' a ha, f12, f13, f23]; exact ⟨rfl, rfl, rfl⟩⟩
        have hnz' : ¬ d.atoms.all (fun a => (reloadXAtom mass (xreadOf L aq a)).u.all (· == 0)) = true := by
          intro hc
          apply hz
          apply List.all_eq_true.2
          intro a ha
          have := List.all_eq_true.1 hc a ha
          rw [hd' a ha] at this
          have hx : roundSig 8 (a.u.getD 0 0) = 0 := by simpa [diag9] using this
          exact (hg a ha).2.2.2.2 ((roundSig_eq_zero_iff 8 _).1 hx)
        rw [hm', h1, if_neg hnz', if_pos]
        apply List.all_eq_true.2
        intro a ha
        rw [hd' a ha]; exact uIsIso_diag9 _
      · -- anisotropic
        have h2 : L.uMode = 2 := by rw [hm, if_neg hz, if_neg hiso]
        have hs' : ∀ a ∈ d.atoms, (reloadXAtom mass (xreadOf L aq a)).u =
            sym9 [roundSig 8 (a.u.getD 0 0), roundSig 8 (a.u.getD 4 0), roundSig 8 (a.u.getD 8 0),
                   if L.u12 then roundSig 8 (a.u.getD 1 0) else 0, if L.u13 then roundSig 8 (a.u.getD 2 0) else 0,
                   if L.u23 then roundSig 8 (a.u.getD 5 0) else 0] := by
          intro a ha; rw [hu_a a ha, if_neg (by omega), if_neg (by omega)]
        refine ⟨?_, fun a ha => by rw [hs' a ha]; exact ⟨rfl, rfl, rfl⟩⟩
        have hniso' : ¬ d.atoms.all (fun a => uIsIso (reloadXAtom mass (xreadOf L aq a)).u) = true := by
          intro hc
          obtain ⟨a, ha, hna⟩ := List.any_eq_true.1 (P2 h2)
          have := List.all_eq_true.1 hc a ha
          simp [this] at hna
        have hnz' : ¬ d.atoms.all (fun a => (reloadXAtom mass (xreadOf L aq a)).u.all (· == 0)) = true := by
          intro hc
          apply hniso'
          apply List.all_eq_true.2
          intro a ha
          have hz := List.all_eq_true.1 hc a ha
          rw [hs' a ha] at hz ⊢
          exact uIsIso_of_all_zero9 _ rfl hz
        rw [hm', if_neg hnz', if_neg hniso', h2]
  obtain ⟨hmode, hoff⟩ := hmodeOff
  -- an off-diagonal column exists the second time iff it existed the first time: a non-zero term prints non-zero
  have flag : ∀ (k : Nat) (b : Bool), b = d.atoms.any (fun a => a.u.getD k 0 != 0) →
      d.atoms.any (fun a => (if b then roundSig 8 (a.u.getD k 0) else 0) != 0) = b := by
    intro k b hb
    cases hbb : b with
    | false => simp
    | true =>
      rw [hbb] at hb
      obtain ⟨a, ha, hne⟩ := List.any_eq_true.1 hb.symm
      apply List.any_eq_true.2
      refine ⟨a, ha, ?_⟩
      have : a.u.getD k 0 ≠ 0 := by simpa using hne
      simpa using roundSig_ne_zero 8 this
  have hU : L'.uMode = L.uMode ∧ L'.u12 = L.u12 ∧ L'.u13 = L.u13 ∧ L'.u23 = L.u23 := by
    refine ⟨hmode, ?_, ?_, ?_⟩
    · rw [h12', any_congr_mem _ _ _ (fun a ha => by rw [(hoff a ha).1])]
      exact flag 1 L.u12 h12
    · rw [h13', any_congr_mem _ _ _ (fun a ha => by rw [(hoff a ha).2.1])]
      exact flag 2 L.u13 h13
    · rw [h23', any_congr_mem _ _ _ (fun a ha => by rw [(hoff a ha).2.2])]
      exact flag 5 L.u23 h23
  have hnoVel : L'.noVel = L.noVel := by
    rw [hnv', hnv]
    cases hd : d.atoms with
    | nil => exact absurd hd hne
    | cons a0 as =>
      have hLnv : L.noVel = a0.v.isNone := by rw [hnv, hd]
      simp only [List.map_cons, reloadXAtom, xreadOf]
      rw [hLnv]
      cases hv0 : a0.v <;> simp
  have hauxEq : L'.aux = L.aux := by
    have hst : storedOf (reloadXcfg unit mass (quantXcfgL L d)) = storedOf d := by
      obtain ⟨a0, as, hd⟩ : ∃ a0 as, d.atoms = a0 :: as := by
        cases hd : d.atoms with
        | nil => exact absurd hd hne
        | cons a0 as => exact ⟨a0, as, rfl⟩
      have hnames : (reloadXcfg unit mass (quantXcfgL L d)).storedAux = L.aux := by
        simp only [reloadXcfg, quantXcfgL, hd, List.map_cons, haq]
        apply List.map_fst_zip
        simp only [List.length_map, List.length_append, optCol_length, usOf_length, hauxlen, hlen a0 (by rw [hd]; simp)]
        exact Nat.le_refl _
      unfold storedOf
      rw [hnames, hshape.aux, List.filter_append]
      have h1 : (storedOf d).filter (fun n => !isDerivedAux n) = storedOf d := by
        apply List.filter_eq_self.2
        intro n hn; simp [hshape.stored n hn]
      have h2 : (derivedNames L).filter (fun n => !isDerivedAux n) = [] := by
        apply List.filter_eq_nil_iff.2
        intro n hn; simp [derivedNames_derived L n hn]
      rw [show List.filter (fun n => !isDerivedAux n) (storedOf d) = storedOf d from h1, h2, List.append_nil]
      rfl
    rw [haux', hst, derivedNames_congr L L' ⟨hocc, hU⟩, hauxL]
  exact ⟨hnoVel, hauxEq, hocc, hU.1, hU.2.1, hU.2.2.1, hU.2.2.2⟩

/-- the occupancy / displacement classification of the atoms survives printing with 8 significant digits:
some non-unit occupancy is still non-unit, some anisotropic tensor is still anisotropic (otherwise the
second write drops the `occupancy` column, or switches from `U11 …` to `Uiso`: a real change of the text) -/
def classStableXcfg (mass : Str → Rat) (d : XcfgS) : Bool :=
  (!(xcfgLayout d).occ || d.atoms.any (fun a => roundSig 8 a.occ != 1)) &&
  ((xcfgLayout d).uMode != 2 || d.atoms.any (fun a =>
    !uIsIso (reloadXAtom mass (xreadOf (xcfgLayout d) (roundSig 8 ((xcfgLayout d).a : Rat)) a)).u))

/-- no auxiliary growth: the second write emits the auxiliary columns of the first, and makes the
same choices for velocities, occupancy and displacement terms -/
theorem xcfg_same_columns (unit : Bool) (mass : Str → Rat) (d : XcfgS) (h : reprXcfg d = true)
    (hs : classStableXcfg mass d = true) :
    sameCols (xcfgLayout (reloadXcfg unit mass (quantXcfg d))) (xcfgLayout d) := by
  simp only [classStableXcfg, Bool.and_eq_true, Bool.or_eq_true, Bool.not_eq_true', bne_iff_ne, ne_eq] at hs
  obtain ⟨h1, h2⟩ := hs
  apply sameCols_reload unit mass d h
  · intro ho
    rcases h1 with h1 | h1
    · rw [h1] at ho; cases ho
    · exact h1
  · intro hm
    rcases h2 with h2 | h2
    · exact absurd hm h2
    · exact h2

/-- stability of an XCFG document under the trip, for a given unit-cell flag and mass table of the
re-read structure: the re-read document is again representable; the classification of occupancies and
displacement tensors survives printing (`classStableXcfg`); the second write chooses the same length unit
`A`; the three position columns reprint (`%.8g` of `xyz'/A' + shift'` in double arithmetic gives the
digits read).  All four are hypotheses of `idem_xcfg_partial`; the last two are numerical facts about the layout
computation in double arithmetic. -/
def stableXcfg (unit : Bool) (mass : Str → Rat) (d : XcfgS) : Bool :=
  let L := xcfgLayout d
  let d' := reloadXcfg unit mass (quantXcfg d)
  let L' := xcfgLayout d'
  reprXcfg d' && classStableXcfg mass d && L'.a == L.a &&
  d.atoms.all (fun a => (xcfgPos L' (reloadXAtom mass (xreadOf L (roundSig 8 (L.a : Rat)) a))).map (roundSig 8)
                          == (xcfgPos L a).map (roundSig 8))

/-- second trip for XCFG (partial: representability of the re-read document and the two numerical clauses of
`stableXcfg` are hypotheses): writing the re-read structure and reading it again gives the first reading — same
atoms, same auxiliary columns (no growth), same values -/
theorem idem_xcfg_partial (unit : Bool) (mass : Str → Rat) (d : XcfgS) (h : reprXcfg d = true)
    (hs : stableXcfg unit mass d = true) :
    parseXcfg (ofText (toText (writeXcfg (reloadXcfg unit mass (quantXcfg d))))) = .ok (quantXcfg d) := by
  obtain ⟨_, _, _, hwf⟩ := reprXcfg_spec d h
  have hshape := layout_auxShape d
  simp only [stableXcfg, Bool.and_eq_true, beq_iff_eq, List.all_eq_true] at hs
  obtain ⟨⟨⟨hrepr, hclass⟩, hA⟩, hpos⟩ := hs
  have hc := xcfg_same_columns unit mass d h hclass
  rw [roundtrip_xcfg _ hrepr]
  congr 1
  rw [quantXcfg_eq (reloadXcfg unit mass (quantXcfg d))]
  rw [quantXcfg_eq d] at hA hc hpos ⊢
  generalize xcfgLayout d = L at *
  generalize xcfgLayout (reloadXcfg unit mass (quantXcfgL L d)) = L' at *
  unfold quantXcfgL reloadXcfg
  simp only [List.length_map, List.map_map, hA]
  congr 1
  · have hrr : (roundSig 8 ∘ roundSig 8) = roundSig 8 := by funext x; exact roundSig_idem 8 x
    rw [hrr]
  · apply List.map_congr_left
    intro a ha
    simp only [Function.comp]
    exact xreadOf_reload L L' (storedOf d) hshape _ mass a (hwf a ha).2.2.1 hc (hpos a ha)

end DS.Formats

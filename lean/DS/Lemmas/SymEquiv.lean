import DS.Lemmas.EquivCode
import DS.Lemmas.Group
import DS.Lemmas.SymType
import DS.Lemmas.Mat3
import Mathlib.Algebra.Order.Field.Rat
import Mathlib.Tactic.Ring
import Mathlib.Tactic.Linarith
import Mathlib.Tactic.FieldSimp
import Mathlib.Tactic.LinearCombination
import Mathlib.Tactic.Positivity

/-!
Specification of "affinely equivalent" for tabulated operation lists, soundness of the certificate checker
`DS.SymEquiv.checkEquiv`, and of its evaluator on codes `DS.SymEquiv.fastEquiv` with respect to it.
-/
namespace DS
namespace SymEquiv
open SymType

/-! ### specification level (over ℚ; translations in 24ths of the cell) -/

abbrev VQ := Vec3 ℚ
abbrev MQ := Mat3 ℚ

def castV (v : V) : VQ := ⟨v.x, v.y, v.z⟩
def castM (m : M) : MQ := ⟨m.a11, m.a12, m.a13, m.a21, m.a22, m.a23, m.a31, m.a32, m.a33⟩

/-- an affine map `x ↦ R x + t` -/
structure Aff where
  R : MQ
  t : VQ

/-- The (infinite) space group a tabulated operation list describes: every listed operation combined with every
translation of the lattice generated by the unit translations and the listed centring translations. -/
def Grp (ops : List Op) (x : Aff) : Prop :=
  ∃ a ∈ ops, ∃ l, Span (latGens ops) l ∧ x.R = castM (rot a) ∧ x.t = castV ((tr a).add l)

/-- the affine map `x` seen in the coordinates `x' = P x + p`:  `(P R P⁻¹, P t + p − P R P⁻¹ p)` (`Pi` stands for `P⁻¹`) -/
def conj (P Pi : MQ) (p : VQ) (x : Aff) : Aff :=
  ⟨(P.mul x.R).mul Pi, ((P.mulVec x.t).add p).sub (((P.mul x.R).mul Pi).mulVec p)⟩

/-- `x' = P x + p` is an orientation-preserving change of coordinates that carries the group described by `gops`
ONTO the group described by `rops`. -/
structure Equivalent (gops rops : List Op) (P Pi : MQ) (p : VQ) : Prop where
  inv_right : P.mul Pi = Mat3.one
  inv_left : Pi.mul P = Mat3.one
  orient : 0 < P.det
  maps : ∀ x, Grp gops x → Grp rops (conj P Pi p x)
  onto : ∀ y, Grp rops y → ∃ x, Grp gops x ∧ conj P Pi p x = y

/-- the rational matrix / vectors a certificate stands for -/
def EqCert.P (c : EqCert) : MQ := Mat3.smul (1 / (c.d : ℚ)) (castM c.Pn)
def EqCert.Pinv (c : EqCert) : MQ := Mat3.smul (1 / (c.e : ℚ)) (castM c.Qn)
def EqCert.p (c : EqCert) : VQ := Vec3.smul (1 / (c.f : ℚ)) (castV c.pn)

/-! ### small algebra over ℚ -/

theorem castM_mul (A B : M) : castM (A.mul B) = (castM A).mul (castM B) := by
  apply Mat3.ext' <;> simp only [castM, Mat3.mul] <;> push_cast <;> ring

theorem castM_scalar (k : Int) : castM (scalarM k) = Mat3.smul (k : ℚ) Mat3.one := by
  apply Mat3.ext' <;> simp only [castM, scalarM, Mat3.smul, Mat3.one] <;> push_cast <;> ring

theorem castV_mulVec (A : M) (v : V) : castV (A.mulVec v) = (castM A).mulVec (castV v) := by
  apply Vec3.ext' <;> simp only [castV, castM, Mat3.mulVec] <;> push_cast <;> ring

theorem castV_add (u v : V) : castV (u.add v) = (castV u).add (castV v) := by
  apply Vec3.ext' <;> simp only [castV, Vec3.add] <;> push_cast <;> ring

theorem castV_smul (k : Int) (v : V) : castV (Vec3.smul k v) = Vec3.smul (k : ℚ) (castV v) := by
  apply Vec3.ext' <;> simp only [castV, Vec3.smul] <;> push_cast <;> ring

theorem q_det_smul (k : ℚ) (a : MQ) : (Mat3.smul k a).det = k * k * k * a.det := by
  simp only [Mat3.det, Mat3.smul]; ring

theorem castM_det (A : M) : (castM A).det = ((A.det : Int) : ℚ) := by
  simp only [Mat3.det, castM]; push_cast; ring

/-! ### what the Boolean checks say (integers) -/

theorem checkLat_sound {A : M} {k : Int} {tgt : List V} : ∀ (vs : List V) (as : List (List Int)),
    checkLat A k tgt vs as = true → ∀ v ∈ vs, ∃ w, Span tgt w ∧ A.mulVec v = Vec3.smul k w
  | [], _, _ => fun v hv => by cases hv
  | _ :: _, [], h => by simp [checkLat] at h
  | v :: vs, a :: as, h => by
    simp only [checkLat, Bool.and_eq_true, decide_eq_true_eq] at h
    intro u hu
    rcases List.mem_cons.1 hu with rfl | hu
    · exact ⟨lincomb a tgt, span_lincomb a tgt (fun _ hw => hw), h.1⟩
    · exact checkLat_sound vs as h.2 u hu

theorem lat_span {A : M} {k : Int} {src tgt : List V}
    (h : ∀ v ∈ src, ∃ w, Span tgt w ∧ A.mulVec v = Vec3.smul k w) {l : V} (hl : Span src l) :
    ∃ w, Span tgt w ∧ A.mulVec l = Vec3.smul k w := by
  induction hl with
  | zero =>
    refine ⟨Vec3.zero, Span.zero, ?_⟩
    apply v_ext <;> simp only [Mat3.mulVec, Vec3.smul, Vec3.zero] <;> ring
  | @add v g _ hg ih =>
    obtain ⟨w1, hw1, e1⟩ := ih
    obtain ⟨w2, hw2, e2⟩ := h g hg
    refine ⟨w1.add w2, span_add hw1 hw2, ?_⟩
    rw [mulVec_add, e1, e2]
    apply v_ext <;> simp only [Vec3.smul, Vec3.add] <;> ring
  | @sub v g _ hg ih =>
    obtain ⟨w1, hw1, e1⟩ := ih
    obtain ⟨w2, hw2, e2⟩ := h g hg
    refine ⟨w1.sub w2, span_sub hw1 hw2, ?_⟩
    rw [mulVec_sub, e1, e2]
    apply v_ext <;> simp only [Vec3.smul, Vec3.sub] <;> ring

theorem divisible_sound {v : V} {q : Int} (h : divisible v q = true) : ∃ z : V, v = Vec3.smul q z := by
  simp only [divisible, Bool.and_eq_true, decide_eq_true_eq] at h
  obtain ⟨⟨h1, h2⟩, h3⟩ := h
  obtain ⟨z1, e1⟩ := Int.dvd_of_emod_eq_zero h1
  obtain ⟨z2, e2⟩ := Int.dvd_of_emod_eq_zero h2
  obtain ⟨z3, e3⟩ := Int.dvd_of_emod_eq_zero h3
  exact ⟨⟨z1, z2, z3⟩, by apply v_ext <;> simp only [Vec3.smul] <;> assumption⟩

theorem span_unit (ops : List Op) (z : V) : Span (latGens ops) (Vec3.smul 24 z) := by
  have h := span_lincomb (gens := latGens ops) [z.x, z.y, z.z] [⟨24, 0, 0⟩, ⟨0, 24, 0⟩, ⟨0, 0, 24⟩]
    (by intro v hv; simp only [latGens]; exact List.mem_append_left _ hv)
  have e : lincomb [z.x, z.y, z.z] [(⟨24, 0, 0⟩ : V), ⟨0, 24, 0⟩, ⟨0, 0, 24⟩] = Vec3.smul 24 z := by
    apply v_ext <;> simp only [lincomb, Vec3.smul, Vec3.add, Vec3.zero] <;> ring
  rw [e] at h; exact h

theorem checkFwd_sound {c : EqCert} {rops : List Op} : ∀ (as : List Op) (js : List Nat),
    checkFwd c rops as js = true → ∀ a ∈ as, ∃ b ∈ rops, (rot b).mul c.Pn = c.Pn.mul (rot a) ∧
      ∃ z, fwdVec c a b = Vec3.smul (24 * ((c.d : Int) * (c.f : Int))) z
  | [], _, _ => fun a ha => by cases ha
  | _ :: _, [], h => by simp [checkFwd] at h
  | a :: as, j :: js, h => by
    simp only [checkFwd, Bool.and_eq_true] at h
    intro u hu
    rcases List.mem_cons.1 hu with rfl | hu
    · have h1 := h.1
      split at h1
      · rename_i b hb
        simp only [checkFwdOne, rotRel, Bool.and_eq_true, decide_eq_true_eq] at h1
        exact ⟨b, List.mem_of_getElem? hb, h1.1, divisible_sound h1.2⟩
      · cases h1
    · exact checkFwd_sound as js h.2 u hu

theorem checkBwd_sound {c : EqCert} {gops : List Op} : ∀ (bs : List Op) (is : List Nat),
    checkBwd c gops bs is = true → ∀ b ∈ bs, ∃ a ∈ gops, (rot b).mul c.Pn = c.Pn.mul (rot a) ∧
      ∃ z, bwdVec c a b = Vec3.smul (24 * ((c.e : Int) * (c.f : Int))) z
  | [], _, _ => fun a ha => by cases ha
  | _ :: _, [], h => by simp [checkBwd] at h
  | b :: bs, i :: is, h => by
    simp only [checkBwd, Bool.and_eq_true] at h
    intro u hu
    rcases List.mem_cons.1 hu with rfl | hu
    · have h1 := h.1
      split at h1
      · rename_i a ha
        simp only [checkBwdOne, rotRel, Bool.and_eq_true, decide_eq_true_eq] at h1
        exact ⟨a, List.mem_of_getElem? ha, h1.1, divisible_sound h1.2⟩
      · cases h1
    · exact checkBwd_sound bs is h.2 u hu

/-! ### from the integer relations to the rational statement -/

theorem castM_mul_scalar {A B : M} {d e : Nat} (h : A.mul B = scalarM ((d : Int) * (e : Int))) :
    (castM A).mul (castM B) = Mat3.smul ((d : ℚ) * (e : ℚ)) Mat3.one := by
  rw [← castM_mul, h, castM_scalar]; push_cast; rfl

theorem inv_of_scalar {A B : M} {d e : Nat} (hd : 0 < d) (he : 0 < e)
    (h : A.mul B = scalarM ((d : Int) * (e : Int))) :
    (Mat3.smul (1 / (d : ℚ)) (castM A)).mul (Mat3.smul (1 / (e : ℚ)) (castM B)) = Mat3.one := by
  have hd' : (d : ℚ) ≠ 0 := by positivity
  have he' : (e : ℚ) ≠ 0 := by positivity
  rw [Mat3.smul_mul, Mat3.mul_smul, Mat3.smul_smul, castM_mul_scalar h, Mat3.smul_smul]
  have : 1 / (d : ℚ) * (1 / (e : ℚ)) * ((d : ℚ) * (e : ℚ)) = 1 := by field_simp
  rw [this, Mat3.one_smul]

theorem cert_inv_right {c : EqCert} (hd : 0 < c.d) (he : 0 < c.e)
    (hPQ : c.Pn.mul c.Qn = scalarM ((c.d : Int) * (c.e : Int))) : c.P.mul c.Pinv = Mat3.one :=
  inv_of_scalar hd he hPQ

theorem cert_inv_left {c : EqCert} (hd : 0 < c.d) (he : 0 < c.e)
    (hQP : c.Qn.mul c.Pn = scalarM ((c.d : Int) * (c.e : Int))) : c.Pinv.mul c.P = Mat3.one :=
  inv_of_scalar he hd (Int.mul_comm (c.d : Int) c.e ▸ hQP)

theorem cert_orient {c : EqCert} (hd : 0 < c.d) (hdet : 0 < c.Pn.det) : 0 < c.P.det := by
  unfold EqCert.P
  rw [q_det_smul, castM_det]
  have h1 : (0 : ℚ) < (c.d : ℚ) := by positivity
  have h2 : (0 : ℚ) < ((c.Pn.det : Int) : ℚ) := by exact_mod_cast hdet
  positivity

theorem rot_conj {c : EqCert} {a b : Op} (hd : 0 < c.d) (he : 0 < c.e)
    (hPQ : c.Pn.mul c.Qn = scalarM ((c.d : Int) * (c.e : Int)))
    (hrel : (rot b).mul c.Pn = c.Pn.mul (rot a)) :
    (c.P.mul (castM (rot a))).mul c.Pinv = castM (rot b) := by
  have h1 : (castM c.Pn).mul (castM (rot a)) = (castM (rot b)).mul (castM c.Pn) := by
    rw [← castM_mul, ← castM_mul, hrel]
  have h2 := castM_mul_scalar hPQ
  have hd' : (c.d : ℚ) ≠ 0 := by positivity
  have he' : (c.e : ℚ) ≠ 0 := by positivity
  unfold EqCert.P EqCert.Pinv
  rw [Mat3.smul_mul, Mat3.smul_mul, Mat3.mul_smul, Mat3.smul_smul, h1, Mat3.mul_assoc, h2, Mat3.mul_smul, Mat3.smul_smul, Mat3.mul_one]
  have : 1 / (c.d : ℚ) * (1 / (c.e : ℚ)) * ((c.d : ℚ) * (c.e : ℚ)) = 1 := by field_simp
  rw [this, Mat3.one_smul]

/-- one component of `fwd_trans`, with the entries as variables: `field_simp` once, on a small goal -/
theorem fwd_comp {d f r1 r2 r3 t1 t2 t3 l1 l2 l3 pk p1 p2 p3 b1 b2 b3 τ z w : ℚ} (hd : d ≠ 0) (hf : f ≠ 0)
    (hz : f * (r1 * t1 + r2 * t2 + r3 * t3) + d * (pk - (b1 * p1 + b2 * p2 + b3 * p3)) - d * f * τ = 24 * (d * f) * z)
    (hw : r1 * l1 + r2 * l2 + r3 * l3 = d * w) :
    1 / d * r1 * (t1 + l1) + 1 / d * r2 * (t2 + l2) + 1 / d * r3 * (t3 + l3) + 1 / f * pk
      - (b1 * (1 / f * p1) + b2 * (1 / f * p2) + b3 * (1 / f * p3)) = τ + (24 * z + w) := by
  field_simp
  linear_combination hz + f * hw

/-- translation part of the conjugate of `(R, t + l)`: it is `τ + (24 z + w)` -/
theorem fwd_trans {c : EqCert} {a b : Op} {z l w : V} (hd : 0 < c.d) (hf : 0 < c.f)
    (hz : fwdVec c a b = Vec3.smul (24 * ((c.d : Int) * (c.f : Int))) z)
    (hw : c.Pn.mulVec l = Vec3.smul (c.d : Int) w) :
    ((c.P.mulVec (castV ((tr a).add l))).add c.p).sub ((castM (rot b)).mulVec c.p)
      = castV ((tr b).add ((Vec3.smul 24 z).add w)) := by
  have hd' : (c.d : ℚ) ≠ 0 := by positivity
  have hf' : (c.f : ℚ) ≠ 0 := by positivity
  have hzx := congrArg (fun v : V => ((v.x : Int) : ℚ)) hz
  have hzy := congrArg (fun v : V => ((v.y : Int) : ℚ)) hz
  have hzz := congrArg (fun v : V => ((v.z : Int) : ℚ)) hz
  have hwx := congrArg (fun v : V => ((v.x : Int) : ℚ)) hw
  have hwy := congrArg (fun v : V => ((v.y : Int) : ℚ)) hw
  have hwz := congrArg (fun v : V => ((v.z : Int) : ℚ)) hw
  simp only [fwdVec, oneSub, Vec3.smul, Vec3.add, Vec3.sub, Mat3.mulVec, rot, tr] at hzx hzy hzz hwx hwy hwz
  push_cast at hzx hzy hzz hwx hwy hwz
  apply Vec3.ext' <;>
    simp only [EqCert.P, EqCert.p, castV, castM, Mat3.smul, Vec3.smul, Vec3.add, Vec3.sub, Mat3.mulVec, rot, tr] <;>
    push_cast
  · exact fwd_comp hd' hf' hzx hwx
  · exact fwd_comp hd' hf' hzy hwy
  · exact fwd_comp hd' hf' hzz hwz

theorem bwd_comp {e f q1 q2 q3 τ1 τ2 τ3 l1 l2 l3 p1 p2 p3 b11 b12 b13 b21 b22 b23 b31 b32 b33 t z w : ℚ}
    (he : e ≠ 0) (hf : f ≠ 0)
    (hz : q1 * (f * τ1 - (p1 - (b11 * p1 + b12 * p2 + b13 * p3)))
      + q2 * (f * τ2 - (p2 - (b21 * p1 + b22 * p2 + b23 * p3)))
      + q3 * (f * τ3 - (p3 - (b31 * p1 + b32 * p2 + b33 * p3))) - e * f * t = 24 * (e * f) * z)
    (hw : q1 * l1 + q2 * l2 + q3 * l3 = e * w) :
    t + (24 * z + w) =
      1 / e * q1 * (τ1 + l1 - (1 / f * p1 - (b11 * (1 / f * p1) + b12 * (1 / f * p2) + b13 * (1 / f * p3))))
      + 1 / e * q2 * (τ2 + l2 - (1 / f * p2 - (b21 * (1 / f * p1) + b22 * (1 / f * p2) + b23 * (1 / f * p3))))
      + 1 / e * q3 * (τ3 + l3 - (1 / f * p3 - (b31 * (1 / f * p1) + b32 * (1 / f * p2) + b33 * (1 / f * p3)))) := by
  field_simp
  linear_combination (-1 : ℚ) * hz - f * hw

/-- the operation `(R, t + 24 z + w')` of the setting is `P⁻¹` applied to `τ + l' − (1 − R') p` -/
theorem bwd_trans {c : EqCert} {a b : Op} {z l' w' : V} (he : 0 < c.e) (hf : 0 < c.f)
    (hz : bwdVec c a b = Vec3.smul (24 * ((c.e : Int) * (c.f : Int))) z)
    (hw : c.Qn.mulVec l' = Vec3.smul (c.e : Int) w') :
    castV ((tr a).add ((Vec3.smul 24 z).add w'))
      = c.Pinv.mulVec ((castV ((tr b).add l')).sub (c.p.sub ((castM (rot b)).mulVec c.p))) := by
  have he' : (c.e : ℚ) ≠ 0 := by positivity
  have hf' : (c.f : ℚ) ≠ 0 := by positivity
  have hzx := congrArg (fun v : V => ((v.x : Int) : ℚ)) hz
  have hzy := congrArg (fun v : V => ((v.y : Int) : ℚ)) hz
  have hzz := congrArg (fun v : V => ((v.z : Int) : ℚ)) hz
  have hwx := congrArg (fun v : V => ((v.x : Int) : ℚ)) hw
  have hwy := congrArg (fun v : V => ((v.y : Int) : ℚ)) hw
  have hwz := congrArg (fun v : V => ((v.z : Int) : ℚ)) hw
  simp only [bwdVec, oneSub, Vec3.smul, Vec3.sub, Mat3.mulVec, rot, tr] at hzx hzy hzz hwx hwy hwz
  push_cast at hzx hzy hzz hwx hwy hwz
  apply Vec3.ext' <;>
    simp only [EqCert.Pinv, EqCert.p, castV, castM, Mat3.smul, Vec3.smul, Vec3.add, Vec3.sub, Mat3.mulVec, rot, tr] <;>
    push_cast
  · exact bwd_comp he' hf' hzx hwx
  · exact bwd_comp he' hf' hzy hwy
  · exact bwd_comp he' hf' hzz hwz

/-- **Soundness of the certificate checker.**  If `checkEquiv` accepts then `x' = P x + p` (with the rational `P`, `p` the
certificate stands for) is an orientation-preserving change of coordinates that carries the group described by `gops`
onto the group described by `rops`: every element of the one is conjugated to an element of the other, and every element
of the other is such a conjugate. -/
theorem checkEquiv_sound {gops rops : List Op} {c : EqCert} (h : checkEquiv gops rops c = true) :
    Equivalent gops rops c.P c.Pinv c.p := by
  simp only [checkEquiv, Bool.and_eq_true, decide_eq_true_eq] at h
  obtain ⟨⟨⟨⟨⟨⟨⟨⟨⟨hd, he⟩, hf⟩, hPQ⟩, hQP⟩, hdet⟩, hLF⟩, hLB⟩, hF⟩, hB⟩ := h
  have hright := cert_inv_right hd he hPQ
  refine ⟨hright, cert_inv_left hd he hQP, cert_orient hd hdet, ?_, ?_⟩
  · rintro x ⟨a, ha, l, hl, hR, ht⟩
    obtain ⟨b, hb, hrel, z, hz⟩ := checkFwd_sound _ _ hF a ha
    obtain ⟨w, hw, hPw⟩ := lat_span (checkLat_sound _ _ hLF) hl
    have hrot := rot_conj hd he hPQ hrel
    refine ⟨b, hb, (Vec3.smul 24 z).add w, span_add (span_unit rops z) hw, ?_, ?_⟩
    · simp only [conj]; rw [hR]; exact hrot
    · simp only [conj]; rw [hR, ht, hrot]; exact fwd_trans hd hf hz hPw
  · rintro ⟨yR, yt⟩ ⟨b, hb, l', hl', hR, ht⟩
    simp only at hR ht
    subst hR ht
    obtain ⟨a, ha, hrel, z, hz⟩ := checkBwd_sound _ _ hB b hb
    obtain ⟨w', hw', hQw⟩ := lat_span (checkLat_sound _ _ hLB) hl'
    have hrot := rot_conj hd he hPQ hrel
    refine ⟨⟨castM (rot a), castV ((tr a).add ((Vec3.smul 24 z).add w'))⟩,
      ⟨a, ha, _, span_add (span_unit gops z) hw', rfl, rfl⟩, ?_⟩
    simp only [conj]
    rw [hrot, bwd_trans he hf hz hQw, ← Mat3.mulVec_mul, hright, Mat3.mulVec_one]
    congr 1
    apply Vec3.ext' <;> simp only [Vec3.add, Vec3.sub] <;> ring

/-! ### `Equivalent` is symmetric and transitive (so "setting of the same type" is an equivalence relation) -/

theorem q_mulVec_add (A : MQ) (u v : VQ) : A.mulVec (u.add v) = (A.mulVec u).add (A.mulVec v) := by
  apply Vec3.ext' <;> simp only [Mat3.mulVec, Vec3.add] <;> ring

theorem q_mulVec_zero (A : MQ) : A.mulVec Vec3.zero = Vec3.zero := by
  apply Vec3.ext' <;> simp only [Mat3.mulVec, Vec3.zero] <;> ring

/-- undoing a change of coordinates: `x = P⁻¹ x' − P⁻¹ p` -/
theorem conj_conj_inv {P Pi : MQ} (hl : Pi.mul P = Mat3.one) (p : VQ) (x : Aff) :
    conj Pi P (Vec3.zero.sub (Pi.mulVec p)) (conj P Pi p x) = x := by
  obtain ⟨R, t⟩ := x
  have hR : (Pi.mul ((P.mul R).mul Pi)).mul P = R := by
    rw [Mat3.mul_assoc, Mat3.mul_assoc, hl, Mat3.mul_one, ← Mat3.mul_assoc, hl, Mat3.one_mul]
  have hPiR : Pi.mul ((P.mul R).mul Pi) = R.mul Pi := by
    rw [← Mat3.mul_assoc, ← Mat3.mul_assoc, hl, Mat3.one_mul]
  simp only [conj]
  rw [hR]
  congr 1
  rw [Mat3.mulVec_sub, q_mulVec_add, ← Mat3.mulVec_mul, ← Mat3.mulVec_mul, hl, Mat3.mulVec_one, hPiR, Mat3.mulVec_mul,
    Mat3.mulVec_sub, q_mulVec_zero]
  apply Vec3.ext' <;> simp only [Vec3.add, Vec3.sub, Vec3.zero] <;> ring

/-- two changes of coordinates in a row are one: `x'' = Q (P x + p) + q` -/
theorem conj_comp {P Pi Q Qi : MQ} (hQ : Qi.mul Q = Mat3.one) (p q : VQ) (x : Aff) :
    conj Q Qi q (conj P Pi p x) = conj (Q.mul P) (Pi.mul Qi) ((Q.mulVec p).add q) x := by
  obtain ⟨R, t⟩ := x
  have hR : (Q.mul ((P.mul R).mul Pi)).mul Qi = ((Q.mul P).mul R).mul (Pi.mul Qi) := by
    simp only [Mat3.mul_assoc]
  have hRQ : ((Q.mul ((P.mul R).mul Pi)).mul Qi).mul Q = Q.mul ((P.mul R).mul Pi) := by
    rw [Mat3.mul_assoc, hQ, Mat3.mul_one]
  simp only [conj]
  rw [← hR]
  congr 1
  rw [Mat3.mulVec_sub, q_mulVec_add, ← Mat3.mulVec_mul, ← Mat3.mulVec_mul, q_mulVec_add, ← Mat3.mulVec_mul, hRQ]
  apply Vec3.ext' <;> simp only [Vec3.add, Vec3.sub] <;> ring

theorem Equivalent.symm {gops rops : List Op} {P Pi : MQ} {p : VQ} (h : Equivalent gops rops P Pi p) :
    Equivalent rops gops Pi P (Vec3.zero.sub (Pi.mulVec p)) := by
  refine ⟨h.inv_left, h.inv_right, ?_, ?_, ?_⟩
  · have h1 : P.det * Pi.det = 1 := by rw [← Mat3.det_mul, h.inv_right, Mat3.det_one]
    have h2 := h.orient
    by_contra hneg
    have h3 : Pi.det ≤ 0 := not_lt.mp hneg
    nlinarith
  · intro y hy
    obtain ⟨x, hx, e⟩ := h.onto y hy
    rw [← e, conj_conj_inv h.inv_left]; exact hx
  · intro x hx
    exact ⟨conj P Pi p x, h.maps x hx, conj_conj_inv h.inv_left p x⟩

theorem Equivalent.trans {gops rops sops : List Op} {P Pi Q Qi : MQ} {p q : VQ}
    (h1 : Equivalent gops rops P Pi p) (h2 : Equivalent rops sops Q Qi q) :
    Equivalent gops sops (Q.mul P) (Pi.mul Qi) ((Q.mulVec p).add q) := by
  refine ⟨?_, ?_, ?_, ?_, ?_⟩
  · rw [Mat3.mul_assoc, ← Mat3.mul_assoc P, h1.inv_right, Mat3.one_mul, h2.inv_right]
  · rw [Mat3.mul_assoc, ← Mat3.mul_assoc Qi, h2.inv_left, Mat3.one_mul, h1.inv_left]
  · rw [Mat3.det_mul]; exact mul_pos h2.orient h1.orient
  · intro x hx
    rw [← conj_comp h2.inv_left]; exact h2.maps _ (h1.maps x hx)
  · intro z hz
    obtain ⟨y, hy, e2⟩ := h2.onto z hz
    obtain ⟨x, hx, e1⟩ := h1.onto y hy
    exact ⟨x, hx, by rw [← conj_comp h2.inv_left, e1, e2]⟩

end SymEquiv

/-! ### the evaluator on codes (`DS.Lemmas.EquivCode`) implies `checkEquiv` -/

namespace EquivCode
open OpCode SymType SymEquiv

theorem okZ_iff (p : Int) : okZ p = true ↔ -32768 ≤ p ∧ p < 32768 := by
  cases p with
  | ofNat k =>
    rw [show okZ (.ofNat k) = Nat.blt k off from rfl, Nat.blt_eq, Int.ofNat_eq_natCast, off]; omega
  | negSucc k =>
    rw [show okZ (.negSucc k) = Nat.blt k off from rfl, Nat.blt_eq, Int.negSucc_eq, off]; omega

theorem encZ_cast {p : Int} (h : -32768 ≤ p) : (encZ p : Int) = p + 32768 := by
  cases p with
  | ofNat k => rw [show encZ (.ofNat k) = off + k from rfl, Int.ofNat_eq_natCast, off]; omega
  | negSucc k =>
    rw [Int.negSucc_eq] at h
    rw [show encZ (.negSucc k) = off - (k + 1) from rfl, Int.negSucc_eq, off]; omega

theorem encZ_lt {p : Int} (h : p < 32768) : encZ p < wd := by
  cases p with
  | ofNat k =>
    rw [Int.ofNat_eq_natCast] at h
    rw [show encZ (.ofNat k) = off + k from rfl, off, wd]; omega
  | negSucc k => rw [show encZ (.negSucc k) = off - (k + 1) from rfl, off, wd]; omega

theorem digit_mcode {A : M} (h : okM A = true) (k : Nat) :
    digit wd (mcode A) k = [encZ A.a11, encZ A.a12, encZ A.a13, encZ A.a21, encZ A.a22, encZ A.a23,
      encZ A.a31, encZ A.a32, encZ A.a33].getD k 0 := by
  simp only [okM, Bool.and_eq_true, okZ_iff] at h
  refine digit_pack k fun d hd => ?_
  simp only [List.mem_cons, List.mem_nil_iff, or_false] at hd
  rcases hd with rfl | rfl | rfl | rfl | rfl | rfl | rfl | rfl | rfl <;> exact encZ_lt (by omega)

theorem digit_vcode {v : V} (h : okV v = true) (k : Nat) :
    digit wd (vcode v) k = [encZ v.x, encZ v.y, encZ v.z].getD k 0 := by
  simp only [okV, Bool.and_eq_true, okZ_iff] at h
  refine digit_pack k fun d hd => ?_
  simp only [List.mem_cons, List.mem_nil_iff, or_false] at hd
  rcases hd with rfl | rfl | rfl <;> exact encZ_lt (by omega)

theorem relOK_sound {b1 b2 b3 c1 c2 c3 r1 r2 r3 a1 a2 a3 : Int}
    (hb1 : -1 ≤ b1) (hb2 : -1 ≤ b2) (hb3 : -1 ≤ b3)
    (hc1 : -32768 ≤ c1) (hc2 : -32768 ≤ c2) (hc3 : -32768 ≤ c3)
    (hr1 : -32768 ≤ r1) (hr2 : -32768 ≤ r2) (hr3 : -32768 ≤ r3)
    (ha1 : -1 ≤ a1) (ha2 : -1 ≤ a2) (ha3 : -1 ≤ a3)
    (h : relOK (encR b1) (encR b2) (encR b3) (encZ c1) (encZ c2) (encZ c3)
      (encZ r1) (encZ r2) (encZ r3) (encR a1) (encR a2) (encR a3) = true) :
    b1 * c1 + b2 * c2 + b3 * c3 = r1 * a1 + r2 * a2 + r3 * a3 := by
  have e : encR b1 * encZ c1 + encR b2 * encZ c2 + encR b3 * encZ c3 + (encZ r1 + encZ r2 + encZ r3)
        + 32768 * (encR a1 + encR a2 + encR a3)
      = encZ r1 * encR a1 + encZ r2 * encR a2 + encZ r3 * encR a3 + (encZ c1 + encZ c2 + encZ c3)
        + 32768 * (encR b1 + encR b2 + encR b3) := Nat.eq_of_beq_eq_true h
  have e := congrArg (Nat.cast : Nat → Int) e
  push_cast at e
  rw [encR_cast hb1, encR_cast hb2, encR_cast hb3, encR_cast ha1, encR_cast ha2, encR_cast ha3,
    encZ_cast hc1, encZ_cast hc2, encZ_cast hc3, encZ_cast hr1, encZ_cast hr2, encZ_cast hr3] at e
  linear_combination e

theorem rotOK_sound {a b : Op} {P : M} (ha : a.inRange = true) (hb : b.inRange = true)
    (hP : okM P = true) (h : rotOK (mcode P) (code a) (code b) = true) :
    (rot b).mul P = P.mul (rot a) := by
  simp only [rotOK, rotEntry, digit_code ha, digit_code hb, digit_mcode hP, Nat.add_eq, Nat.reduceAdd,
    Bool.and_eq_true] at h
  simp only [fields, List.getD_cons_zero, List.getD_cons_succ] at h
  simp only [okM, Bool.and_eq_true, okZ_iff] at hP
  obtain ⟨⟨⟨⟨⟨⟨⟨⟨e1, e2⟩, e3⟩, e4⟩, e5⟩, e6⟩, e7⟩, e8⟩, e9⟩ := h
  obtain ⟨⟨⟨⟨⟨⟨⟨⟨p1, p2⟩, p3⟩, p4⟩, p5⟩, p6⟩, p7⟩, p8⟩, p9⟩ := hP
  obtain ⟨a1, a2, a3, a4, a5, a6, a7, a8, a9⟩ := inRange_r ha
  obtain ⟨b1, b2, b3, b4, b5, b6, b7, b8, b9⟩ := inRange_r hb
  apply m_ext <;> simp only [Mat3.mul, rot]
  · exact relOK_sound b1.1 b2.1 b3.1 p1.1 p4.1 p7.1 p1.1 p2.1 p3.1 a1.1 a4.1 a7.1 e1
  · exact relOK_sound b1.1 b2.1 b3.1 p2.1 p5.1 p8.1 p1.1 p2.1 p3.1 a2.1 a5.1 a8.1 e2
  · exact relOK_sound b1.1 b2.1 b3.1 p3.1 p6.1 p9.1 p1.1 p2.1 p3.1 a3.1 a6.1 a9.1 e3
  · exact relOK_sound b4.1 b5.1 b6.1 p1.1 p4.1 p7.1 p4.1 p5.1 p6.1 a1.1 a4.1 a7.1 e4
  · exact relOK_sound b4.1 b5.1 b6.1 p2.1 p5.1 p8.1 p4.1 p5.1 p6.1 a2.1 a5.1 a8.1 e5
  · exact relOK_sound b4.1 b5.1 b6.1 p3.1 p6.1 p9.1 p4.1 p5.1 p6.1 a3.1 a6.1 a9.1 e6
  · exact relOK_sound b7.1 b8.1 b9.1 p1.1 p4.1 p7.1 p7.1 p8.1 p9.1 a1.1 a4.1 a7.1 e7
  · exact relOK_sound b7.1 b8.1 b9.1 p2.1 p5.1 p8.1 p7.1 p8.1 p9.1 a2.1 a5.1 a8.1 e8
  · exact relOK_sound b7.1 b8.1 b9.1 p3.1 p6.1 p9.1 p7.1 p8.1 p9.1 a3.1 a6.1 a9.1 e9

theorem dotOK_sound {v : Nat} {r1 r2 r3 c1 c2 c3 : Int}
    (hr1 : -32768 ≤ r1) (hr2 : -32768 ≤ r2) (hr3 : -32768 ≤ r3)
    (hc1 : -32768 ≤ c1) (hc2 : -32768 ≤ c2) (hc3 : -32768 ≤ c3)
    (h : dotOK (encZ r1) (encZ r2) (encZ r3) (encZ c1) (encZ c2) (encZ c3) v = true) :
    r1 * c1 + r2 * c2 + r3 * c3 = v := by
  have e : encZ r1 * encZ c1 + encZ r2 * encZ c2 + encZ r3 * encZ c3 + 3 * (32768 * 32768)
      = v + 32768 * (encZ r1 + encZ r2 + encZ r3 + (encZ c1 + encZ c2 + encZ c3)) :=
    Nat.eq_of_beq_eq_true h
  have e := congrArg (Nat.cast : Nat → Int) e
  push_cast at e
  rw [encZ_cast hr1, encZ_cast hr2, encZ_cast hr3, encZ_cast hc1, encZ_cast hc2, encZ_cast hc3] at e
  linear_combination e

theorem prodOK_sound {A C : M} {d e : Nat} (hA : okM A = true) (hC : okM C = true)
    (h : prodOK (mcode A) (mcode C) (Nat.mul d e) = true) : A.mul C = scalarM ((d : Int) * (e : Int)) := by
  simp only [prodOK, prodEntry, digit_mcode hA, digit_mcode hC, Nat.add_eq, Nat.reduceAdd,
    Bool.and_eq_true] at h
  simp only [List.getD_cons_zero, List.getD_cons_succ] at h
  simp only [okM, Bool.and_eq_true, okZ_iff] at hA hC
  obtain ⟨⟨⟨⟨⟨⟨⟨⟨e1, e2⟩, e3⟩, e4⟩, e5⟩, e6⟩, e7⟩, e8⟩, e9⟩ := h
  obtain ⟨⟨⟨⟨⟨⟨⟨⟨a1, a2⟩, a3⟩, a4⟩, a5⟩, a6⟩, a7⟩, a8⟩, a9⟩ := hA
  obtain ⟨⟨⟨⟨⟨⟨⟨⟨c1, c2⟩, c3⟩, c4⟩, c5⟩, c6⟩, c7⟩, c8⟩, c9⟩ := hC
  have hv : ((Nat.mul d e : Nat) : Int) = (d : Int) * (e : Int) := Int.natCast_mul d e
  apply m_ext <;> simp only [Mat3.mul, scalarM, ← hv]
  · exact dotOK_sound a1.1 a2.1 a3.1 c1.1 c4.1 c7.1 e1
  · exact dotOK_sound a1.1 a2.1 a3.1 c2.1 c5.1 c8.1 e2
  · exact dotOK_sound a1.1 a2.1 a3.1 c3.1 c6.1 c9.1 e3
  · exact dotOK_sound a4.1 a5.1 a6.1 c1.1 c4.1 c7.1 e4
  · exact dotOK_sound a4.1 a5.1 a6.1 c2.1 c5.1 c8.1 e5
  · exact dotOK_sound a4.1 a5.1 a6.1 c3.1 c6.1 c9.1 e6
  · exact dotOK_sound a7.1 a8.1 a9.1 c1.1 c4.1 c7.1 e7
  · exact dotOK_sound a7.1 a8.1 a9.1 c2.1 c5.1 c8.1 e8
  · exact dotOK_sound a7.1 a8.1 a9.1 c3.1 c6.1 c9.1 e9

theorem emod_of_beq {X Y m : Nat} {x : Int} (h : Nat.beq (Nat.mod X m) (Nat.mod Y m) = true)
    (hx : x = (X : Int) - Y) : x % (m : Int) = 0 := by
  have e : X % m = Y % m := Nat.eq_of_beq_eq_true h
  have e := congrArg (Nat.cast : Nat → Int) e
  push_cast at e
  rw [hx]
  exact Int.emod_eq_emod_iff_emod_sub_eq_zero.1 e

theorem fwdTest_sound {d f : Nat} {r1 r2 r3 t1 t2 t3 pi p1 p2 p3 b1 b2 b3 τ x : Int}
    (hr1 : -32768 ≤ r1) (hr2 : -32768 ≤ r2) (hr3 : -32768 ≤ r3)
    (ht1 : 0 ≤ t1) (ht2 : 0 ≤ t2) (ht3 : 0 ≤ t3)
    (hpi : -32768 ≤ pi)
    (hp1 : -32768 ≤ p1) (hp2 : -32768 ≤ p2) (hp3 : -32768 ≤ p3)
    (hb1 : -1 ≤ b1) (hb2 : -1 ≤ b2) (hb3 : -1 ≤ b3)
    (hτ : 0 ≤ τ)
    (h : fwdTest d f (Nat.mul 24 (Nat.mul d f)) (encZ r1) (encZ r2) (encZ r3) (encT t1) (encT t2) (encT t3)
      (uPos (encZ pi) (encZ p1) (encZ p2) (encZ p3) (encR b1) (encR b2) (encR b3))
      (uNeg (encZ p1) (encZ p2) (encZ p3) (encR b1) (encR b2) (encR b3)) (encT τ) = true)
    (hx : x = f * (r1 * t1 + r2 * t2 + r3 * t3) + d * (pi - (b1 * p1 + b2 * p2 + b3 * p3)) - d * f * τ) :
    x % (24 * ((d : Int) * f)) = 0 := by
  have e := emod_of_beq h (x := x) (by
    simp only [uPos, uNeg, sum3, dot3, off, Nat.add_eq, Nat.mul_eq]
    push_cast
    rw [hx, encZ_cast hr1, encZ_cast hr2, encZ_cast hr3, encT_cast ht1, encT_cast ht2, encT_cast ht3,
      encZ_cast hpi, encZ_cast hp1, encZ_cast hp2, encZ_cast hp3, encR_cast hb1, encR_cast hb2,
      encR_cast hb3, encT_cast hτ]
    ring)
  simpa using e

theorem bwdTest_sound {e f : Nat} {q1 q2 q3 p1 p2 p3 b11 b12 b13 b21 b22 b23 b31 b32 b33 τ1 τ2 τ3 t x : Int}
    (hq1 : -32768 ≤ q1) (hq2 : -32768 ≤ q2) (hq3 : -32768 ≤ q3)
    (hp1 : -32768 ≤ p1) (hp2 : -32768 ≤ p2) (hp3 : -32768 ≤ p3)
    (h11 : -1 ≤ b11) (h12 : -1 ≤ b12) (h13 : -1 ≤ b13)
    (h21 : -1 ≤ b21) (h22 : -1 ≤ b22) (h23 : -1 ≤ b23)
    (h31 : -1 ≤ b31) (h32 : -1 ≤ b32) (h33 : -1 ≤ b33)
    (hτ1 : 0 ≤ τ1) (hτ2 : 0 ≤ τ2) (hτ3 : 0 ≤ τ3)
    (ht : 0 ≤ t)
    (h : bwdTest e f (Nat.mul 24 (Nat.mul e f)) (encZ q1) (encZ q2) (encZ q3)
      (wPos f (encT τ1) (uNeg (encZ p1) (encZ p2) (encZ p3) (encR b11) (encR b12) (encR b13)))
      (wPos f (encT τ2) (uNeg (encZ p1) (encZ p2) (encZ p3) (encR b21) (encR b22) (encR b23)))
      (wPos f (encT τ3) (uNeg (encZ p1) (encZ p2) (encZ p3) (encR b31) (encR b32) (encR b33)))
      (uPos (encZ p1) (encZ p1) (encZ p2) (encZ p3) (encR b11) (encR b12) (encR b13))
      (uPos (encZ p2) (encZ p1) (encZ p2) (encZ p3) (encR b21) (encR b22) (encR b23))
      (uPos (encZ p3) (encZ p1) (encZ p2) (encZ p3) (encR b31) (encR b32) (encR b33))
      (encT t) = true)
    (hx : x = q1 * (f * τ1 - (p1 - (b11 * p1 + b12 * p2 + b13 * p3)))
      + q2 * (f * τ2 - (p2 - (b21 * p1 + b22 * p2 + b23 * p3)))
      + q3 * (f * τ3 - (p3 - (b31 * p1 + b32 * p2 + b33 * p3))) - e * f * t) :
    x % (24 * ((e : Int) * f)) = 0 := by
  have e := emod_of_beq h (x := x) (by
    simp only [wPos, uPos, uNeg, sum3, dot3, off, Nat.add_eq, Nat.mul_eq]
    push_cast
    rw [hx, encZ_cast hq1, encZ_cast hq2, encZ_cast hq3, encZ_cast hp1, encZ_cast hp2, encZ_cast hp3,
      encR_cast h11, encR_cast h12, encR_cast h13, encR_cast h21, encR_cast h22, encR_cast h23,
      encR_cast h31, encR_cast h32, encR_cast h33, encT_cast hτ1, encT_cast hτ2, encT_cast hτ3,
      encT_cast ht]
    ring)
  simpa using e

section Codes
variable {a b : Op} {c : EqCert} (ha : a.inRange = true) (hb : b.inRange = true)
  (hP : okM c.Pn = true) (hQ : okM c.Qn = true) (hp : okV c.pn = true)
include ha hb hP hp

theorem fwdOK_sound
    (h : fwdOK (mcode c.Pn) (vcode c.pn) c.d c.f (Nat.mul 24 (Nat.mul c.d c.f)) (code a) (code b) = true) :
    checkFwdOne c a b = true := by
  simp only [fwdOK, Bool.and_eq_true] at h
  obtain ⟨⟨⟨hrot, e1⟩, e2⟩, e3⟩ := h
  have hrot := rotOK_sound ha hb hP hrot
  simp only [fwdEntry, uP, uN, digit_code ha, digit_code hb, digit_mcode hP, digit_vcode hp, Nat.add_eq,
    Nat.reduceAdd] at e1 e2 e3
  simp only [fields, List.getD_cons_zero, List.getD_cons_succ] at e1 e2 e3
  simp only [okM, okV, Bool.and_eq_true, okZ_iff] at hP hp
  obtain ⟨⟨⟨⟨⟨⟨⟨⟨r1, r2⟩, r3⟩, r4⟩, r5⟩, r6⟩, r7⟩, r8⟩, r9⟩ := hP
  obtain ⟨⟨p1, p2⟩, p3⟩ := hp
  obtain ⟨b1, b2, b3, b4, b5, b6, b7, b8, b9⟩ := inRange_r hb
  obtain ⟨t1, t2, t3⟩ := inRange_t ha
  obtain ⟨s1, s2, s3⟩ := inRange_t hb
  simp only [checkFwdOne, rotRel, divisible, Bool.and_eq_true, decide_eq_true_eq]
  refine ⟨hrot, ⟨?_, ?_⟩, ?_⟩
  · exact fwdTest_sound r1.1 r2.1 r3.1 t1.1 t2.1 t3.1 p1.1 p1.1 p2.1 p3.1 b1.1 b2.1 b3.1 s1.1 e1 (by
      simp only [fwdVec, oneSub, Vec3.smul, Vec3.add, Vec3.sub, Mat3.mulVec, rot, tr])
  · exact fwdTest_sound r4.1 r5.1 r6.1 t1.1 t2.1 t3.1 p2.1 p1.1 p2.1 p3.1 b4.1 b5.1 b6.1 s2.1 e2 (by
      simp only [fwdVec, oneSub, Vec3.smul, Vec3.add, Vec3.sub, Mat3.mulVec, rot, tr])
  · exact fwdTest_sound r7.1 r8.1 r9.1 t1.1 t2.1 t3.1 p3.1 p1.1 p2.1 p3.1 b7.1 b8.1 b9.1 s3.1 e3 (by
      simp only [fwdVec, oneSub, Vec3.smul, Vec3.add, Vec3.sub, Mat3.mulVec, rot, tr])

include hQ in
theorem bwdOK_sound
    (h : bwdOK (mcode c.Pn) (mcode c.Qn) (vcode c.pn) c.e c.f (Nat.mul 24 (Nat.mul c.e c.f)) (code a) (code b)
      = true) :
    checkBwdOne c a b = true := by
  simp only [bwdOK, Bool.and_eq_true] at h
  obtain ⟨⟨⟨hrot, e1⟩, e2⟩, e3⟩ := h
  have hrot := rotOK_sound ha hb hP hrot
  simp only [bwdEntry, wP, uP, uN, digit_code ha, digit_code hb, digit_mcode hQ, digit_vcode hp, Nat.add_eq,
    Nat.reduceAdd] at e1 e2 e3
  simp only [fields, List.getD_cons_zero, List.getD_cons_succ] at e1 e2 e3
  simp only [okM, okV, Bool.and_eq_true, okZ_iff] at hQ hp
  obtain ⟨⟨⟨⟨⟨⟨⟨⟨q1, q2⟩, q3⟩, q4⟩, q5⟩, q6⟩, q7⟩, q8⟩, q9⟩ := hQ
  obtain ⟨⟨p1, p2⟩, p3⟩ := hp
  obtain ⟨b1, b2, b3, b4, b5, b6, b7, b8, b9⟩ := inRange_r hb
  obtain ⟨t1, t2, t3⟩ := inRange_t ha
  obtain ⟨s1, s2, s3⟩ := inRange_t hb
  simp only [checkBwdOne, rotRel, divisible, Bool.and_eq_true, decide_eq_true_eq]
  refine ⟨hrot, ⟨?_, ?_⟩, ?_⟩
  · exact bwdTest_sound q1.1 q2.1 q3.1 p1.1 p2.1 p3.1 b1.1 b2.1 b3.1 b4.1 b5.1 b6.1 b7.1 b8.1 b9.1 s1.1 s2.1 s3.1 t1.1 e1 (by
      simp only [bwdVec, oneSub, Vec3.smul, Vec3.sub, Mat3.mulVec, rot, tr])
  · exact bwdTest_sound q4.1 q5.1 q6.1 p1.1 p2.1 p3.1 b1.1 b2.1 b3.1 b4.1 b5.1 b6.1 b7.1 b8.1 b9.1 s1.1 s2.1 s3.1 t2.1 e2 (by
      simp only [bwdVec, oneSub, Vec3.smul, Vec3.sub, Mat3.mulVec, rot, tr])
  · exact bwdTest_sound q7.1 q8.1 q9.1 p1.1 p2.1 p3.1 b1.1 b2.1 b3.1 b4.1 b5.1 b6.1 b7.1 b8.1 b9.1 s1.1 s2.1 s3.1 t3.1 e3 (by
      simp only [bwdVec, oneSub, Vec3.smul, Vec3.sub, Mat3.mulVec, rot, tr])

end Codes

section Loops
variable {gops rops : List Op} {c : EqCert} (hg : ∀ a ∈ gops, a.inRange = true)
  (hr : ∀ b ∈ rops, b.inRange = true) (hP : okM c.Pn = true) (hQ : okM c.Qn = true)
  (hp : okV c.pn = true)
include hg hr hP hp

theorem fwd_sound : ∀ (i : Nat) (as : List Op) (js : List Nat), gops.drop i = as →
    fwd (mcode c.Pn) (vcode c.pn) c.d c.f (Nat.mul 24 (Nat.mul c.d c.f)) (table gops) (table rops)
      rops.length i as js = true →
    checkFwd c rops as js = true
  | _, [], [], _, _ => rfl
  | _, [], _ :: _, _, h => by simp [fwd] at h
  | _, _ :: _, [], _, h => by simp [fwd] at h
  | i, a :: as, j :: js, hd, h => by
    obtain ⟨hi, rfl, hd'⟩ := drop_cons hd
    simp only [fwd, Bool.and_eq_true, Nat.blt_eq] at h
    obtain ⟨⟨hj, hc⟩, hrest⟩ := h
    rw [digit_table hg hi, digit_table hr hj] at hc
    simp only [checkFwd, List.getElem?_eq_getElem hj, Bool.and_eq_true]
    exact ⟨fwdOK_sound (hg _ (List.getElem_mem hi)) (hr _ (List.getElem_mem hj)) hP hp hc,
      fwd_sound (i + 1) as js hd' hrest⟩

include hQ in
theorem bwd_sound : ∀ (j : Nat) (bs : List Op) (is : List Nat), rops.drop j = bs →
    bwd (mcode c.Pn) (mcode c.Qn) (vcode c.pn) c.e c.f (Nat.mul 24 (Nat.mul c.e c.f)) (table gops)
      (table rops) gops.length j bs is = true →
    checkBwd c gops bs is = true
  | _, [], [], _, _ => rfl
  | _, [], _ :: _, _, h => by simp [bwd] at h
  | _, _ :: _, [], _, h => by simp [bwd] at h
  | j, b :: bs, i :: is, hd, h => by
    obtain ⟨hj, rfl, hd'⟩ := drop_cons hd
    simp only [bwd, Bool.and_eq_true, Nat.blt_eq] at h
    obtain ⟨⟨hi, hc⟩, hrest⟩ := h
    rw [digit_table hg hi, digit_table hr hj] at hc
    simp only [checkBwd, List.getElem?_eq_getElem hi, Bool.and_eq_true]
    exact ⟨bwdOK_sound (hg _ (List.getElem_mem hi)) (hr _ (List.getElem_mem hj)) hP hQ hp hc,
      bwd_sound (j + 1) bs is hd' hrest⟩

end Loops

end EquivCode

namespace SymEquiv
open OpCode EquivCode

theorem fastEquiv_sound {gops rops : List Op} {c : EqCert} (h : fastEquiv gops rops c = true) :
    checkEquiv gops rops c = true := by
  simp only [fastEquiv, withVal_eq, Bool.and_eq_true, List.all_eq_true, inRangeF_eq,
    decide_eq_true_eq] at h
  obtain ⟨⟨⟨⟨⟨⟨⟨⟨⟨⟨⟨hd, he⟩, hf⟩, hdet⟩, hLF⟩, hLB⟩, hg⟩, hr⟩, hP⟩, hQ⟩, hp⟩, ⟨⟨hPQ, hQP⟩, hF⟩, hB⟩ := h
  simp only [checkEquiv, Bool.and_eq_true, decide_eq_true_eq]
  exact ⟨⟨⟨⟨⟨⟨⟨⟨⟨hd, he⟩, hf⟩, prodOK_sound hP hQ hPQ⟩, prodOK_sound hQ hP hQP⟩, hdet⟩, hLF⟩, hLB⟩,
    fwd_sound hg hr hP hp 0 gops c.fwd rfl hF⟩, bwd_sound hg hr hP hQ hp 0 rops c.bwd rfl hB⟩

theorem fastEquivSG_sound {g : SG} {c : EqCert} (h : fastEquivSG g c = true) : checkEquivSG g c = true :=
  fastEquiv_sound h

end SymEquiv
end DS

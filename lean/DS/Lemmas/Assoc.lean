/-!
Python's `dict` as the models have it: the list of its items in insertion order; `d.get(k)` is the value of the first item with
key `k`, `d[k] = v` overwrites in place or appends.  The models spell this out once per modelled module; all of these are `get`
by `rfl`: `Py.dictGet` (`Model/ConReal`), `RefDict.lookup` (`Model/SymReal`), `Orbit.lookupKey`, `Lookup.lookup`,
`Src.Lookup.hget`, `Src.CifSym.X.dictGet`; `List.lookup` (used by `Model/Load`) is `get` by `lookup_eq_get`.  The writers are `set`
up to spelling: `Load.setKey`, `Parsers.dictSet`, `Src.CifSym.X.dictSet` by `rfl`; `Src.Lookup.hset`, `Py.dictSet`,
`RefDict.assocSet` test `(get d k).isSome` (`set_eq_ite_isSome`), the last two write `(e.1, v)` (`map_set_fst`).
Core Lean only.
-/
namespace DS.Assoc
universe u v
variable {κ : Type u} {β : Type v} [BEq κ]

def get (d : List (κ × β)) (k : κ) : Option β := (d.find? fun e => e.1 == k).map (·.2)

def set (d : List (κ × β)) (k : κ) (v : β) : List (κ × β) :=
  if d.any (·.1 == k) then d.map fun e => if e.1 == k then (k, v) else e else d ++ [(k, v)]

@[simp] theorem get_nil (k : κ) : get ([] : List (κ × β)) k = none := rfl

theorem get_cons (e : κ × β) (d : List (κ × β)) (k : κ) :
    get (e :: d) k = if e.1 == k then some e.2 else get d k := by
  simp only [get, List.find?_cons]; cases e.1 == k <;> rfl

theorem get_append (d d' : List (κ × β)) (k : κ) : get (d ++ d') k = (get d k).or (get d' k) := by
  simp only [get, List.find?_append]; cases d.find? fun e => e.1 == k <;> rfl

theorem get_snoc (d : List (κ × β)) (k' : κ) (v : β) (k : κ) :
    get (d ++ [(k', v)]) k = (get d k).or (if k' == k then some v else none) := by
  rw [get_append, get_cons, get_nil]

theorem isSome_get (d : List (κ × β)) (k : κ) : (get d k).isSome = d.any (·.1 == k) := by
  induction d with
  | nil => rfl
  | cons e d ih => rw [get_cons, List.any_cons, ← ih]; cases e.1 == k <;> rfl

theorem get_eq_none_iff {d : List (κ × β)} {k : κ} : get d k = none ↔ d.any (·.1 == k) = false := by
  rw [← isSome_get]; cases get d k <;> simp

theorem set_eq_ite_isSome (d : List (κ × β)) (k : κ) (v : β) :
    set d k v = if (get d k).isSome then d.map fun e => if e.1 == k then (k, v) else e else d ++ [(k, v)] := by
  rw [isSome_get]; rfl

theorem set_of_fresh {d : List (κ × β)} {k : κ} (h : d.any (·.1 == k) = false) (v : β) : set d k v = d ++ [(k, v)] := by
  unfold set; rw [if_neg (by simp [h])]

variable [LawfulBEq κ]

/-- core's `List.lookup` compares the other way round -/
theorem lookup_eq_get (d : List (κ × β)) (k : κ) : d.lookup k = get d k := by
  induction d with
  | nil => rfl
  | cons e d ih =>
    obtain ⟨a, b⟩ := e
    rw [List.lookup_cons, get_cons, ih, BEq.comm (a := k)]
    cases a == k <;> rfl

theorem map_set_fst (d : List (κ × β)) (k : κ) (v : β) :
    (d.map fun e => if e.1 == k then (e.1, v) else e) = d.map fun e => if e.1 == k then (k, v) else e := by
  apply List.map_congr_left; intro e _
  split
  · rename_i h; rw [eq_of_beq h]
  · rfl

theorem get_map_set (d : List (κ × β)) (k k' : κ) (v : β) :
    get (d.map fun e => if e.1 == k then (k, v) else e) k' =
      if k' == k then (get d k).map (fun _ => v) else get d k' := by
  induction d with
  | nil => simp
  | cons e d ih =>
    rw [List.map_cons, get_cons, get_cons, get_cons, ih]
    by_cases h1 : e.1 = k
    · subst h1
      rw [if_pos (beq_self_eq_true _), if_pos (beq_self_eq_true _), BEq.comm (a := e.1)]
      cases k' == e.1 <;> rfl
    · have h1' : ¬(e.1 == k) = true := by simpa using h1
      rw [if_neg h1', if_neg h1']
      by_cases h2 : e.1 = k'
      · subst h2; simp only [beq_self_eq_true, if_true, if_neg h1']
      · have h2' : ¬(e.1 == k') = true := by simpa using h2
        simp only [if_neg h2']

/-- `d[k] = v; d.get(k')` -/
theorem get_set (d : List (κ × β)) (k k' : κ) (v : β) :
    get (set d k v) k' = if k' == k then some v else get d k' := by
  unfold set
  split
  · rename_i h
    rw [get_map_set]
    obtain ⟨w, hw⟩ := Option.isSome_iff_exists.1 ((isSome_get d k).trans h)
    rw [hw]; rfl
  · rename_i h
    have hn := get_eq_none_iff.2 (Bool.not_eq_true _ ▸ h)
    rw [get_snoc, BEq.comm (a := k)]
    by_cases hk : k' = k
    · subst hk; rw [hn]; simp
    · rw [if_neg (by simpa using hk), if_neg (by simpa using hk)]; exact Option.or_none

/-- the keys after `d[k] = v`: insertion order is kept -/
theorem map_fst_set (d : List (κ × β)) (k : κ) (v : β) :
    (set d k v).map (·.1) = if d.any (·.1 == k) then d.map (·.1) else d.map (·.1) ++ [k] := by
  unfold set
  split
  · rw [List.map_map]; apply List.map_congr_left; intro e _
    show (if e.1 == k then (k, v) else e).1 = e.1
    split
    · rename_i h; exact (eq_of_beq h).symm
    · rfl
  · simp

end DS.Assoc

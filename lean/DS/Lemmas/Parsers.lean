import DS.Model.Parsers
/-!
# Which exception kinds the parser models can raise

`RaisesIn S m`: if the computation `m` ends with an exception, its kind is in `S`.  The calculus below
is compositional over `bind`, `if`, `match`; per format a lemma `…Body_raises` (PDB: `pdbLoop_raises`; XYZ and raw
XYZ, which have no single outer `try`: `…Run_raises`, about the whole run) states that the body of the outer `try`
raises only kinds of `needed… ++ [SFE, NotImpl]`, for *every* abstract document (CIF: every well-formed one, `d.wf`)
and every value of the oracle fields; for pdffit, discus, xcfg, pdb and cif `witness…_raises` shows that each needed
kind is raised by some document.
-/
namespace DS.Parsers

universe u

def RaisesIn {α : Type u} (S : List Kind) (m : M α) : Prop := ∀ k, m = .error k → k ∈ S

namespace RaisesIn
variable {α β : Type u} {S : List Kind}

theorem ok (a : α) : RaisesIn S (.ok a : M α) := by intro k h; cases h
theorem pure (a : α) : RaisesIn S (Pure.pure a : M α) := ok a
theorem error {k : Kind} (h : k ∈ S) : RaisesIn S (.error k : M α) := by
  intro k' h'; cases h'; exact h
theorem raise {k : Kind} (h : k ∈ S) : RaisesIn S (DS.Parsers.raise k : M α) := error h

theorem bind {m : M α} {f : α → M β} (hm : RaisesIn S m) (hf : ∀ a, RaisesIn S (f a)) :
    RaisesIn S (m >>= f) := by
  cases m with
  | error e => exact error (hm e rfl)
  | ok a => exact hf a

/-- The `Decidable` instance is implicit so that it is read off the goal. -/
theorem ite_cond {c : Prop} {_ : Decidable c} {a b : M α} (ha : c → RaisesIn S a) (hb : ¬c → RaisesIn S b) :
    RaisesIn S (if c then a else b) := by
  split
  · exact ha ‹_›
  · exact hb ‹_›

theorem ite {c : Prop} {_ : Decidable c} {a b : M α} (ha : RaisesIn S a) (hb : RaisesIn S b) :
    RaisesIn S (if c then a else b) :=
  ite_cond (fun _ => ha) (fun _ => hb)

/-- `if c: raise k` followed by `b`, as `do` renders it: nothing runs after the `raise` -/
theorem ite_raise {c : Prop} {_ : Decidable c} {k : Kind} {f : α → M β} {b : M β} (h : k ∈ S) (hb : RaisesIn S b) :
    RaisesIn S (if c then DS.Parsers.raise k >>= f else b) :=
  ite (error h) hb

theorem map {m : M α} {f : α → β} (h : RaisesIn S m) : RaisesIn S (m.map f) := by
  cases m with
  | ok a => exact ok _
  | error e => exact error (h e rfl)

theorem mono {T : List Kind} {m : M α} (h : RaisesIn S m) (hST : ∀ k, k ∈ S → k ∈ T) : RaisesIn T m :=
  fun k hk => hST k (h k hk)

/-- inside `try … except H: raise SFE` -/
theorem tryExcept {H : List Kind} {m : M α} (hS : Kind.SFE ∈ S) (hm : ∀ k, m = .error k → k ∈ H ∨ k ∈ S) :
    RaisesIn S (DS.Parsers.tryExcept H m) := by
  cases m with
  | ok a => exact ok a
  | error e =>
    unfold DS.Parsers.tryExcept
    exact ite_cond (fun _ => error hS) (fun h => error ((hm e rfl).resolve_left h))

theorem tryExcept_of {H : List Kind} {m : M α} (hS : Kind.SFE ∈ S) (hm : RaisesIn S m) :
    RaisesIn S (DS.Parsers.tryExcept H m) :=
  tryExcept hS (fun k hk => Or.inr (hm k hk))

theorem trySwallow {H : List Kind} {m : M Unit} (hm : ∀ k, m = .error k → k ∈ H ∨ k ∈ S) :
    RaisesIn S (DS.Parsers.trySwallow H m) := by
  cases m with
  | ok a => exact ok a
  | error e =>
    unfold DS.Parsers.trySwallow
    exact ite_cond (fun _ => ok ()) (fun h => error ((hm e rfl).resolve_left h))

theorem trySwallow_of {H : List Kind} {m : M Unit} (hm : RaisesIn S m) :
    RaisesIn S (DS.Parsers.trySwallow H m) :=
  trySwallow (fun k hk => Or.inr (hm k hk))

end RaisesIn

/-- `raises [facts]` derives `RaisesIn S m` along the syntax of `m`: `>>=`, `pure`, `raise k` with `k ∈ S` among the
hypotheses, `if` (a guard `if c: raise k` first: `do` copies the rest of the block into both branches, and the copy
behind the `raise` is not visited), `<$>`, one of the given facts (about the operations `m` calls, or the induction
hypothesis), `match`; `dsimp only` exposes the next form.  Reducible transparency keeps a rule from firing on anything but its own syntactic form. -/
syntax "raises" (" [" term,* "]")? : tactic
macro_rules
  | `(tactic| raises) => `(tactic| raises [])
  | `(tactic| raises [$facts,*]) => `(tactic| repeat (with_reducible first
      | refine RaisesIn.bind ?_ (fun _ => ?_)
      | exact RaisesIn.pure _
      | exact RaisesIn.raise (by assumption)
      | refine RaisesIn.ite_raise (by assumption) ?_
      | refine RaisesIn.ite ?_ ?_
      | refine RaisesIn.map ?_
      $[| exact $facts]*
      | split
      | dsimp only))

section prims
variable {S : List Kind}

theorem idx_raises {α} (l : List α) (i : Nat) (hI : Kind.IndexError ∈ S) : RaisesIn S (idx l i) := by
  unfold idx; raises

theorem pyFloat_raises (t : Tok) (hV : Kind.ValueError ∈ S) : RaisesIn S (pyFloat t) := by
  unfold pyFloat; raises

theorem pyInt_raises (t : Tok) (hV : Kind.ValueError ∈ S) : RaisesIn S (pyInt t) := by
  unfold pyInt; raises

theorem floats_raises (ts : List Tok) (hV : Kind.ValueError ∈ S) : RaisesIn S (floats ts) := by
  induction ts with
  | nil => exact .pure _
  | cons t ts ih => exact .bind (pyFloat_raises t hV) fun _ => ih

theorem ints_raises (ts : List Tok) (hV : Kind.ValueError ∈ S) : RaisesIn S (ints ts) := by
  induction ts with
  | nil => exact .pure _
  | cons t ts ih => exact .bind (pyInt_raises t hV) fun _ => .bind ih fun _ => .pure _

theorem floatAt_raises (l : List Tok) (i : Nat) (hV : Kind.ValueError ∈ S) (hI : Kind.IndexError ∈ S) :
    RaisesIn S (floatAt l i) :=
  .bind (idx_raises l i hI) fun t => pyFloat_raises t hV

theorem latRun_raises (o : LatOut) (hV : Kind.ValueError ∈ S) (hZ : Kind.ZeroDivisionError ∈ S)
    (hL : Kind.LatticeError ∈ S) : RaisesIn S o.run := by
  cases o <;> unfold LatOut.run <;> raises

theorem parRun_raises (o : ParOut) (hV : Kind.ValueError ∈ S) (hZ : Kind.ZeroDivisionError ∈ S) :
    RaisesIn S o.run := by
  cases o <;> unfold ParOut.run <;> raises

theorem mulFloatInt_raises (n : Int) (hO : Kind.OverflowError ∈ S) : RaisesIn S (mulFloatInt n) := by
  unfold mulFloatInt; raises

theorem pyProduct_raises (b : Bool) (l : List Int) (hT : b = false → Kind.TypeError ∈ S) :
    RaisesIn S (pyProduct b l) := by
  unfold pyProduct
  split
  · exact .raise (hT rfl)
  · exact .pure _

theorem nextLine_raises {α} (l : List α) (hSt : Kind.StopIteration ∈ S) : RaisesIn S (nextLine l) := by
  unfold nextLine; raises

theorem step_raises (o : Option Kind) (h : ∀ k, o = some k → k ∈ S) : RaisesIn S (step o) := by
  unfold step
  split
  · exact .pure _
  · exact .raise (h _ rfl)

end prims

/-! ## PDFfit -/
section pdffit
variable {S : List Kind}

theorem latticeCtor_raises (n : Nat) (o : ParOut) (hV : Kind.ValueError ∈ S) (hZ : Kind.ZeroDivisionError ∈ S) :
    RaisesIn S (latticeCtor n o) := by
  unfold latticeCtor; raises [parRun_raises o hV hZ]

theorem pdffitShape_raises (l : Line) (hF : Kind.SFE ∈ S) (hV : Kind.ValueError ∈ S) (hI : Kind.IndexError ∈ S) :
    RaisesIn S (pdffitShape l) := by
  unfold pdffitShape; raises [idx_raises _ _ hI, floatAt_raises _ _ hV hI]

theorem pdffitHeader_raises (ls : List Line) (st : PState) (hF : Kind.SFE ∈ S) (hV : Kind.ValueError ∈ S)
    (hI : Kind.IndexError ∈ S) (hZ : Kind.ZeroDivisionError ∈ S) : RaisesIn S (pdffitHeader ls st) := by
  induction ls generalizing st with
  | nil => exact .raise hF
  | cons l rest ih =>
    unfold pdffitHeader
    raises [ih _, floats_raises _ hV, floatAt_raises _ _ hV hI, idx_raises _ _ hI, ints_raises _ hV,
      latticeCtor_raises _ _ hV hZ, pdffitShape_raises l hF hV hI]

theorem pdffitAtoms_raises (fuel : Nat) (ls : List Line) (n : Nat) (hV : Kind.ValueError ∈ S)
    (hI : Kind.IndexError ∈ S) (hSt : Kind.StopIteration ∈ S) : RaisesIn S (pdffitAtoms fuel ls n) := by
  induction fuel generalizing ls n with
  | zero => exact .pure _
  | succ fuel ih =>
    cases ls with
    | nil => exact .pure _
    | cons l1 rest =>
      unfold pdffitAtoms
      raises [floatAt_raises _ _ hV hI, nextLine_raises _ hSt, floats_raises _ hV, idx_raises _ _ hI, ih _ _]

theorem superStep_raises (nl : Nat) (ncell : List Int) (i : Nat) (hI : Kind.IndexError ∈ S)
    (hO : Kind.OverflowError ∈ S) : RaisesIn S (superStep nl ncell i) :=
  .ite (.raise hI) (.bind (idx_raises _ _ hI) fun n => mulFloatInt_raises n hO)

theorem superCell_raises (nl : Nat) (ncell : List Int) (o : ParOut) (hV : Kind.ValueError ∈ S)
    (hI : Kind.IndexError ∈ S) (hZ : Kind.ZeroDivisionError ∈ S) (hO : Kind.OverflowError ∈ S) :
    RaisesIn S (superCell nl ncell o) := by
  unfold superCell; raises [superStep_raises _ _ _ hI hO, parRun_raises o hV hZ]

/-- the body of the outer `try` of `P_pdffit.parseLines` raises only these kinds, for every document -/
theorem pdffitBody_raises (cfg : PdffitCfg) (d : PdffitDoc) (hF : Kind.SFE ∈ S)
    (hN : ∀ k, k ∈ neededPdffit cfg → k ∈ S) : RaisesIn S (pdffitBody cfg d) := by
  have hV : Kind.ValueError ∈ S := hN _ (by simp [neededPdffit])
  have hI : Kind.IndexError ∈ S := hN _ (by simp [neededPdffit])
  have hSt : Kind.StopIteration ∈ S := hN _ (by simp [neededPdffit])
  have hZ : Kind.ZeroDivisionError ∈ S := hN _ (by simp [neededPdffit])
  have hO : Kind.OverflowError ∈ S := hN _ (by simp [neededPdffit])
  have hT : cfg.reduceInit = false → Kind.TypeError ∈ S := fun h => hN _ (by simp [neededPdffit, h])
  unfold pdffitBody
  raises [pdffitHeader_raises _ _ hF hV hI hZ, pyProduct_raises _ _ hT, pdffitAtoms_raises _ _ _ hV hI hSt,
    superCell_raises _ _ _ hV hI hZ hO]

end pdffit

/-! ## DISCUS -/
section discus
variable {S : List Kind}

theorem discusShape_raises (l : Line) (hF : Kind.SFE ∈ S) (hV : Kind.ValueError ∈ S) (hI : Kind.IndexError ∈ S) :
    RaisesIn S (discusShape l) := by
  unfold discusShape; raises [idx_raises _ _ hI, floatAt_raises _ _ hV hI]

theorem discusHeader_raises (cfg : DiscusCfg) (ls : List Line) (st : DState) (hF : Kind.SFE ∈ S)
    (hNI : Kind.NotImpl ∈ S) (hV : Kind.ValueError ∈ S) (hI : Kind.IndexError ∈ S)
    (hZ : Kind.ZeroDivisionError ∈ S) : RaisesIn S (discusHeader cfg ls st) := by
  induction ls generalizing st with
  | nil => exact .raise hF
  | cons l rest ih =>
    unfold discusHeader
    raises [ih _, floats_raises _ hV, ints_raises _ hV, idx_raises _ _ hI,
      RaisesIn.tryExcept_of hF (parRun_raises l.lat hV hZ), discusShape_raises l hF hV hI]

theorem discusAtoms_raises (ls : List Line) (n : Nat) (hV : Kind.ValueError ∈ S) (hI : Kind.IndexError ∈ S) :
    RaisesIn S (discusAtoms ls n) := by
  induction ls generalizing n with
  | nil => exact .pure _
  | cons l rest ih =>
    unfold discusAtoms
    raises [ih _, floats_raises _ hV, floatAt_raises _ _ hV hI]

theorem discusBody_raises (cfg : DiscusCfg) (d : DiscusDoc) (hF : Kind.SFE ∈ S) (hNI : Kind.NotImpl ∈ S)
    (hN : ∀ k, k ∈ neededDiscus cfg → k ∈ S) : RaisesIn S (discusBody cfg d) := by
  have hV : Kind.ValueError ∈ S := hN _ (by simp [neededDiscus])
  have hI : Kind.IndexError ∈ S := hN _ (by simp [neededDiscus])
  have hZ : Kind.ZeroDivisionError ∈ S := hN _ (by simp [neededDiscus])
  have hO : Kind.OverflowError ∈ S := hN _ (by simp [neededDiscus])
  have hT : cfg.reduceInit = false → Kind.TypeError ∈ S := fun h => hN _ (by simp [neededDiscus, h])
  unfold discusBody
  raises [discusHeader_raises _ _ _ hF hNI hV hI hZ, pyProduct_raises _ _ hT, discusAtoms_raises _ _ hV hI,
    superCell_raises _ _ _ hV hI hZ hO]

end discus

/-! ## XYZ and RAWXYZ -/
section xyz
variable {S : List Kind}

theorem xyzTitle_raises (cfg : XyzCfg) (ls : List WLine) (start : Nat) (hI : Kind.IndexError ∈ S) :
    RaisesIn S (xyzTitle cfg ls start) := by
  unfold xyzTitle; raises [idx_raises _ _ hI]

theorem xyzHead_raises (cfg : XyzCfg) (ls : List WLine) (start : Nat) (hF : Kind.SFE ∈ S) (hV : Kind.ValueError ∈ S)
    (hI : Kind.IndexError ∈ S) : RaisesIn S (xyzHead cfg ls start) := by
  unfold xyzHead; raises [idx_raises _ _ hI, pyInt_raises _ hV, xyzTitle_raises cfg ls start hI]

theorem xyzRecords_raises (nf : Nat) (ls : List WLine) (n : Nat) (hF : Kind.SFE ∈ S) (hV : Kind.ValueError ∈ S) :
    RaisesIn S (xyzRecords nf ls n) := by
  induction ls generalizing n with
  | nil => exact .pure _
  | cons l rest ih =>
    unfold xyzRecords
    raises [ih _, floats_raises _ hV]

theorem rawRecords_raises (nf x0 : Nat) (ls : List WLine) (hF : Kind.SFE ∈ S) (hV : Kind.ValueError ∈ S) :
    RaisesIn S (rawRecords nf x0 ls) := by
  induction ls with
  | nil => exact .pure _
  | cons l rest ih =>
    unfold rawRecords
    raises [ih, floats_raises _ hV]

end xyz

/-! ## XCFG -/
section xcfg
variable {S : List Kind}

theorem tokAt_raises (t : Option Tok) (hI : Kind.IndexError ∈ S) : RaisesIn S (tokAt t) := by
  unfold tokAt; raises

theorem digitRun_raises (d : DigitRes) (hV : Kind.ValueError ∈ S) (hI : Kind.IndexError ∈ S) : RaisesIn S d.run := by
  cases d <;> unfold DigitRes.run <;> raises

theorem h0Index_raises (d : Nat) (hI : Kind.IndexError ∈ S) : RaisesIn S (h0Index d) := by
  unfold h0Index; raises

theorem auxOutRun_raises (o : AuxOut) (hV : Kind.ValueError ∈ S) (hI : Kind.IndexError ∈ S)
    (hT : Kind.TypeError ∈ S) (hA : Kind.AttributeError ∈ S) : RaisesIn S o.run := by
  cases o <;> unfold AuxOut.run <;> raises

theorem auxRun_raises (l : List (Nat × AuxOut)) (hV : Kind.ValueError ∈ S) (hI : Kind.IndexError ∈ S)
    (hT : Kind.TypeError ∈ S) (hA : Kind.AttributeError ∈ S) : RaisesIn S (auxRun l) := by
  induction l with
  | nil => exact .pure _
  | cons p ps ih => exact .bind (auxOutRun_raises p.2 hV hI hT hA) fun _ => ih

theorem xcfgFindNumber_raises (ls : List XLine) (hF : Kind.SFE ∈ S) (hV : Kind.ValueError ∈ S)
    (hI : Kind.IndexError ∈ S) : RaisesIn S (xcfgFindNumber ls) := by
  induction ls with
  | nil => exact .pure _
  | cons l rest ih =>
    unfold xcfgFindNumber
    raises [ih, tokAt_raises _ hI, pyInt_raises _ hV]

theorem xcfgHeader_raises (ls : List XLine) (st : XState) (hV : Kind.ValueError ∈ S)
    (hI : Kind.IndexError ∈ S) : RaisesIn S (xcfgHeader ls st) := by
  induction ls generalizing st with
  | nil => exact .pure _
  | cons l rest ih =>
    unfold xcfgHeader
    raises [ih _, tokAt_raises _ hI, pyFloat_raises _ hV, pyInt_raises _ hV, digitRun_raises _ hV hI,
      h0Index_raises _ hI]

theorem xcfgData_raises (aSet : Bool) (ec : Int) (aux : List (Nat × AuxOut)) (ls : List XLine) (e : Bool) (n : Nat)
    (hF : Kind.SFE ∈ S) (hV : Kind.ValueError ∈ S) (hI : Kind.IndexError ∈ S) (hT : Kind.TypeError ∈ S)
    (hA : Kind.AttributeError ∈ S) : RaisesIn S (xcfgData aSet ec aux ls e n) := by
  induction ls generalizing e n with
  | nil => exact .pure _
  | cons l rest ih =>
    unfold xcfgData
    raises [ih _ _, auxRun_raises aux hV hI hT hA]

theorem xcfgFill_raises (st : XState) (hR : Kind.Resource ∈ S) : RaisesIn S (xcfgFill st) := by
  unfold xcfgFill; raises

theorem xcfgEntryCount_raises (st : XState) (hF : Kind.SFE ∈ S) : RaisesIn S (xcfgEntryCount st) := by
  unfold xcfgEntryCount; raises

theorem xcfgAfterHeader_raises (cfg : XcfgCfg) (d : XcfgDoc) (na : Int) (st : XState) (rest : List XLine)
    (hF : Kind.SFE ∈ S) (hN : ∀ k, k ∈ neededXcfg cfg → k ∈ S) : RaisesIn S (xcfgAfterHeader cfg d na st rest) := by
  have hV : Kind.ValueError ∈ S := hN _ (by simp [neededXcfg])
  have hI : Kind.IndexError ∈ S := hN _ (by simp [neededXcfg])
  have hT : Kind.TypeError ∈ S := hN _ (by simp [neededXcfg])
  have hZ : Kind.ZeroDivisionError ∈ S := hN _ (by simp [neededXcfg])
  have hL : Kind.LatticeError ∈ S := hN _ (by simp [neededXcfg])
  have hA : Kind.AttributeError ∈ S := hN _ (by simp [neededXcfg])
  have hR : Kind.Resource ∈ S := hN _ (by simp [neededXcfg])
  unfold xcfgAfterHeader
  raises [xcfgFill_raises st hR, xcfgEntryCount_raises st hF, latRun_raises d.baseLat hV hZ hL,
    xcfgData_raises _ _ _ _ _ _ hF hV hI hT hA]

theorem xcfgBody_raises (cfg : XcfgCfg) (d : XcfgDoc) (hF : Kind.SFE ∈ S)
    (hN : ∀ k, k ∈ neededXcfg cfg → k ∈ S) : RaisesIn S (xcfgBody cfg d) := by
  have hV : Kind.ValueError ∈ S := hN _ (by simp [neededXcfg])
  have hI : Kind.IndexError ∈ S := hN _ (by simp [neededXcfg])
  unfold xcfgBody
  raises [xcfgFindNumber_raises _ hF hV hI, xcfgHeader_raises _ _ hV hI, xcfgAfterHeader_raises cfg d _ _ _ hF hN]

end xcfg

/-! ## PDB -/
section pdb
variable {S : List Kind}

theorem pdbScaleRow_raises (l : PLine) (hV : Kind.ValueError ∈ S) : RaisesIn S (pdbScaleRow l) := by
  unfold pdbScaleRow; raises

theorem pdbNoAtom_raises (cfg : PdbCfg) (hF : Kind.SFE ∈ S) (hA : cfg.guard = false → Kind.AttributeError ∈ S)
    (hU : cfg.lastAtomInit = false → Kind.UnboundLocalError ∈ S) : RaisesIn S (pdbNoAtom cfg) :=
  .ite_cond (fun _ => .raise hF) fun hg =>
    .ite_cond (fun _ => .raise (hA (Bool.eq_false_iff.mpr hg))) fun hl => .raise (hU (Bool.eq_false_iff.mpr hl))

theorem pdbGuard_raises (cfg : PdbCfg) (last : Option Bool) (hF : Kind.SFE ∈ S)
    (hU : cfg.lastAtomInit = false → Kind.UnboundLocalError ∈ S) : RaisesIn S (pdbGuard cfg last) :=
  .ite (.ite_cond (fun _ => .raise hF) fun hl => .raise (hU (Bool.eq_false_iff.mpr hl))) (.pure _)

theorem optCol_raises (H : List Kind) (b : Bool) (hV : Kind.ValueError ∈ S) :
    RaisesIn S (trySwallow H (if b then pure () else raise .ValueError)) :=
  .trySwallow_of (.ite (.pure _) (.raise hV))

theorem pdbLoopK_raises (kU : Kind) (cfg : PdbCfg) (ls : List PLine) (last : Option Bool) (hF : Kind.SFE ∈ S)
    (hNI : Kind.NotImpl ∈ S) (hK : kU ∈ S) (hN : ∀ k, k ∈ neededPdb cfg → k ≠ .AttributeError → k ∈ S)
    (hA : cfg.guard = false → Kind.AttributeError ∈ S) :
    RaisesIn S (pdbLoopK kU cfg ls last) := by
  have hV : Kind.ValueError ∈ S := hN _ (by simp [neededPdb]) (by decide)
  have hI : Kind.IndexError ∈ S := hN _ (by simp [neededPdb]) (by decide)
  have hZ : Kind.ZeroDivisionError ∈ S := hN _ (by simp [neededPdb]) (by decide)
  have hL : Kind.LatticeError ∈ S := hN _ (by simp [neededPdb]) (by decide)
  have hU : cfg.lastAtomInit = false → Kind.UnboundLocalError ∈ S :=
    fun h => hN _ (by simp [neededPdb, h]) (by decide)
  induction ls generalizing last with
  | nil => exact .pure _
  | cons l rest ih =>
    unfold pdbLoopK
    raises [ih _, latRun_raises l.lat hV hZ hL, pdbScaleRow_raises l hV, optCol_raises _ _ hV,
      pdbGuard_raises cfg last hF hU, pdbNoAtom_raises cfg hF hA hU]

theorem pdbLoop_raises (cfg : PdbCfg) (ls : List PLine) (last : Option Bool) (hF : Kind.SFE ∈ S)
    (hNI : Kind.NotImpl ∈ S) (hN : ∀ k, k ∈ neededPdb cfg → k ∈ S) : RaisesIn S (pdbLoop cfg ls last) :=
  pdbLoopK_raises _ cfg ls last hF hNI (hN _ (by simp [neededPdb])) (fun k hk _ => hN k hk)
    (fun _ => hN _ (by simp [neededPdb]))

/-- a document in which every SIGUIJ follows a SIGATM of the same atom never reads an unset `sigU` -/
theorem pdbLoopK_ordered (k1 k2 : Kind) (cfg : PdbCfg) (ls : List PLine) (last : Option Bool)
    (h : pdbOrdered ls last = true) : pdbLoopK k1 cfg ls last = pdbLoopK k2 cfg ls last := by
  induction ls generalizing last with
  | nil => rfl
  | cons l rest ih =>
    unfold pdbOrdered at h
    unfold pdbLoopK
    -- only the SIGUIJ arm mentions the kind, and there `h` excludes `last = some false`
    cases hk : l.kind <;> simp only [hk] at h ⊢
    case sigatm =>
      cases last with
      | none => rfl
      | some s => simp only [ih (some true) h]
    case anisou =>
      cases last with
      | none => rfl
      | some s => simp only [ih _ h]
    case siguij =>
      simp only [Bool.and_eq_true, bne_iff_ne, ne_eq] at h
      match last, h with
      | none, _ => rfl
      | some true, h => simp only [Bool.not_true, Bool.false_eq_true, ↓reduceIte, ih _ h.2]
      | some false, h => exact absurd rfl h.1
    all_goals rw [ih _ h]

end pdb

/-! ## CIF glue -/
section cif
variable {S : List Kind}

theorem optIn_mem {o : Option Kind} {T : List Kind} (h : optIn o T = true) : ∀ k, o = some k → k ∈ T := by
  intro k hk
  subst hk
  simpa [optIn] using h

theorem step_raises_of_optIn {o : Option Kind} {T : List Kind} (h : optIn o T = true) (hT : ∀ k, k ∈ T → k ∈ S) :
    RaisesIn S (step o) :=
  step_raises o fun k hk => hT k (optIn_mem h k hk)

theorem cifBlock_raises (cfg : CifCfg) (b : CifBlock) (hF : Kind.SFE ∈ S)
    (hN : ∀ k, k ∈ neededCif → k ∈ S) (hb : b.wf = true) : RaisesIn S (cifBlock cfg b) := by
  -- every kind the five steps may raise is `SFE` (from `_parse_space_group_symop_operation_xyz`) or needed
  have hS : ∀ {T : List Kind}, (∀ k, k ∈ T → k ∈ Kind.SFE :: neededCif) → ∀ k, k ∈ T → k ∈ S :=
    fun hT k hk => (List.mem_cons.mp (hT k hk)).elim (· ▸ hF) (hN k)
  simp only [CifBlock.wf, Bool.and_eq_true] at hb
  obtain ⟨⟨⟨⟨h1, h2⟩, h3⟩, h4⟩, h5⟩ := hb
  unfold cifBlock
  raises [RaisesIn.tryExcept_of hF (step_raises_of_optIn h1 (hS (by decide))), step_raises_of_optIn h2 (hS (by decide)),
    step_raises_of_optIn h3 (hS (by decide)), step_raises_of_optIn h4 (hS (by decide)),
    step_raises_of_optIn h5 (hS (by decide))]

theorem cifBlocks_raises (cfg : CifCfg) (bs : List CifBlock) (hF : Kind.SFE ∈ S)
    (hN : ∀ k, k ∈ neededCif → k ∈ S) (hwf : bs.all CifBlock.wf = true) : RaisesIn S (cifBlocks cfg bs) := by
  induction bs with
  | nil => exact .pure _
  | cons b rest ih =>
    simp only [List.all_cons, Bool.and_eq_true] at hwf
    unfold cifBlocks
    exact .ite (ih hwf.2) (.map (cifBlock_raises cfg b hF hN hwf.1))

theorem cifBody_raises (cfg : CifCfg) (d : CifDoc) (hF : Kind.SFE ∈ S)
    (hN : ∀ k, k ∈ neededCif → k ∈ S) (hwf : d.wf = true) : RaisesIn S (cifBody cfg d) := by
  simp only [CifDoc.wf, Bool.and_eq_true] at hwf
  exact .bind (step_raises_of_optIn hwf.1 fun k hk => hN k ((by decide : ∀ k, k ∈ cifFileKinds → k ∈ neededCif) k hk))
    fun _ => cifBlocks_raises cfg d.blocks hF hN hwf.2

end cif

/-! ## From "raises only" to the outcome of `parse` -/

/-- kinds of `needed` that the handler tuple `H` lacks -/
def missingKinds (needed H : List Kind) : List Kind := needed.filter (fun k => !H.contains k)

theorem mem_missingKinds {needed H : List Kind} {k : Kind} :
    k ∈ missingKinds needed H ↔ k ∈ needed ∧ k ∉ H := by
  simp [missingKinds]

theorem mem_or_mem_missingKinds {needed H : List Kind} {k : Kind} (hk : k ∈ needed) :
    k ∈ H ∨ k ∈ missingKinds needed H :=
  (Decidable.em (k ∈ H)).imp_right fun h => mem_missingKinds.mpr ⟨hk, h⟩

def passKinds : List Kind := [.SFE, .NotImpl]

theorem sfe_mem_pass {T : List Kind} : Kind.SFE ∈ T ++ passKinds := List.mem_append_right _ (.head _)
theorem notImpl_mem_pass {T : List Kind} : Kind.NotImpl ∈ T ++ passKinds :=
  List.mem_append_right _ (.tail _ (.head _))

/-- what is left after `try … except H`: the needed kinds that `H` lacks, plus what is allowed to pass -/
theorem RaisesIn.tryExcept_missing {α : Type u} {needed H : List Kind} {m : M α}
    (hm : RaisesIn (needed ++ passKinds) m) :
    RaisesIn (missingKinds needed H ++ passKinds) (DS.Parsers.tryExcept H m) := by
  refine RaisesIn.tryExcept sfe_mem_pass (fun k hk => ?_)
  by_cases hH : k ∈ H
  · exact Or.inl hH
  · exact Or.inr ((List.mem_append.mp (hm k hk)).elim
      (fun h => List.mem_append_left _ (mem_missingKinds.mpr ⟨h, hH⟩)) (List.mem_append_right _))

theorem RaisesIn.mono_pass {α : Type u} {A B : List Kind} {m : M α} (h : RaisesIn (A ++ passKinds) m)
    (hAB : ∀ k, k ∈ A → k ∈ B) : RaisesIn (B ++ passKinds) m :=
  h.mono fun k hk => (List.mem_append.mp hk).elim (fun h => List.mem_append_left _ (hAB k h)) (List.mem_append_right _)

theorem err_allowed_or {T : List Kind} {k : Kind} (h : k ∈ T ++ passKinds) :
    (Outcome.err k).allowed = true ∨ k ∈ T := by
  rcases List.mem_append.mp h with h | h
  · exact Or.inr h
  · simp only [passKinds, List.mem_cons, List.not_mem_nil, or_false] at h
    rcases h with rfl | rfl <;> exact Or.inl rfl

theorem allowed_or_of_raises {T : List Kind} {m : M Unit} (h : RaisesIn (T ++ passKinds) m) :
    (toOutcome m).allowed = true ∨ ∃ k, k ∈ T ∧ toOutcome m = .err k := by
  cases m with
  | ok a => exact Or.inl rfl
  | error k => exact (err_allowed_or (h k rfl)).imp_right fun hk => ⟨k, hk, rfl⟩

/-- `parse = toOutcome (try body except H: raise SFE)` where `body` raises only kinds of `needed`, `SFE`, `NotImpl`:
the outcome is allowed, or is a kind of `needed` that `H` lacks -/
theorem cases_of_raises {needed H : List Kind} {m : M Unit} (h : RaisesIn (needed ++ passKinds) m) :
    (toOutcome (tryExcept H m)).allowed = true ∨
      ∃ k, k ∈ missingKinds needed H ∧ toOutcome (tryExcept H m) = .err k :=
  allowed_or_of_raises (h.tryExcept_missing)

/-! ### per format: outcome is allowed, or is one of the missing kinds -/

theorem parsePdffit_cases (cfg : PdffitCfg) (d : PdffitDoc) :
    (parsePdffit cfg d).allowed = true ∨
      ∃ k, k ∈ missingKinds (neededPdffit cfg) cfg.H ∧ parsePdffit cfg d = .err k :=
  cases_of_raises (pdffitBody_raises cfg d sfe_mem_pass fun _ => List.mem_append_left _)

theorem parseDiscus_cases (cfg : DiscusCfg) (d : DiscusDoc) :
    (parseDiscus cfg d).allowed = true ∨
      ∃ k, k ∈ missingKinds (neededDiscus cfg) cfg.H ∧ parseDiscus cfg d = .err k :=
  cases_of_raises (discusBody_raises cfg d sfe_mem_pass notImpl_mem_pass fun _ => List.mem_append_left _)

theorem parseXcfg_cases (cfg : XcfgCfg) (d : XcfgDoc) :
    (parseXcfg cfg d).allowed = true ∨
      ∃ k, k ∈ missingKinds (neededXcfg cfg) cfg.H ∧ parseXcfg cfg d = .err k :=
  cases_of_raises (xcfgBody_raises cfg d sfe_mem_pass fun _ => List.mem_append_left _)

theorem parsePdb_cases (cfg : PdbCfg) (d : PdbDoc) :
    (parsePdb cfg d).allowed = true ∨
      ∃ k, k ∈ missingKinds (neededPdb cfg) cfg.H ∧ parsePdb cfg d = .err k :=
  cases_of_raises (pdbLoop_raises cfg d.lines none sfe_mem_pass notImpl_mem_pass fun _ => List.mem_append_left _)

/-- PDB documents in which every SIGUIJ follows a SIGATM of the same atom: with the `last_atom is None`
guard in place, `AttributeError` is not needed in the handler tuple -/
theorem parsePdb_cases_ordered (cfg : PdbCfg) (hg : cfg.guard = true) (d : PdbDoc)
    (ho : pdbOrdered d.lines none = true) :
    (parsePdb cfg d).allowed = true ∨
      ∃ k, k ∈ missingKinds ((neededPdb cfg).erase .AttributeError) cfg.H ∧ parsePdb cfg d = .err k := by
  unfold parsePdb
  rw [show pdbLoop cfg d.lines none = pdbLoopK .SFE cfg d.lines none from pdbLoopK_ordered _ _ cfg _ _ ho]
  exact cases_of_raises (pdbLoopK_raises .SFE cfg d.lines none sfe_mem_pass notImpl_mem_pass sfe_mem_pass
    (fun k hk hne => List.mem_append_left _ ((List.mem_erase_of_ne hne).mpr hk)) (fun h => by simp [hg] at h))

/-- XYZ has two `try` blocks; the code between them raises StructureFormatError only -/
theorem xyzRun_raises (cfg : XyzCfg) (d : XyzDoc) :
    RaisesIn ((missingKinds neededXyz1 cfg.H1 ++ missingKinds neededXyz2 cfg.H2) ++ passKinds) (xyzRun cfg d) := by
  have hF : Kind.SFE ∈ (missingKinds neededXyz1 cfg.H1 ++ missingKinds neededXyz2 cfg.H2) ++ passKinds := sfe_mem_pass
  have hV : Kind.ValueError ∈ [Kind.ValueError] ++ passKinds := .head _
  have h1 : ∀ ls st, RaisesIn (missingKinds neededXyz1 cfg.H1 ++ passKinds) (tryExcept cfg.H1 (xyzHead cfg ls st)) :=
    fun ls st => (xyzHead_raises cfg ls st sfe_mem_pass (.tail _ (.head _)) (.head _)).tryExcept_missing
  have h2 : ∀ nf ls n, RaisesIn (missingKinds neededXyz2 cfg.H2 ++ passKinds) (tryExcept cfg.H2 (xyzRecords nf ls n)) :=
    fun nf ls n => (xyzRecords_raises nf ls n sfe_mem_pass hV).tryExcept_missing
  unfold xyzRun
  raises [(h1 _ _).mono_pass fun _ => List.mem_append_left _, (h2 _ _ _).mono_pass fun _ => List.mem_append_right _]

theorem parseXyz_cases (cfg : XyzCfg) (d : XyzDoc) :
    (parseXyz cfg d).allowed = true ∨
      ∃ k, k ∈ missingKinds neededXyz1 cfg.H1 ++ missingKinds neededXyz2 cfg.H2 ∧ parseXyz cfg d = .err k :=
  allowed_or_of_raises (xyzRun_raises cfg d)

theorem rawxyzRun_raises (cfg : RawxyzCfg) (d : XyzDoc) :
    RaisesIn (missingKinds neededRawxyz cfg.H ++ passKinds) (rawxyzRun cfg d) := by
  have hF : Kind.SFE ∈ missingKinds neededRawxyz cfg.H ++ passKinds := sfe_mem_pass
  have hV : Kind.ValueError ∈ neededRawxyz ++ passKinds := .head _
  unfold rawxyzRun
  raises [(rawRecords_raises _ _ _ sfe_mem_pass hV).tryExcept_missing]

theorem parseRawxyz_cases (cfg : RawxyzCfg) (d : XyzDoc) :
    (parseRawxyz cfg d).allowed = true ∨
      ∃ k, k ∈ missingKinds neededRawxyz cfg.H ∧ parseRawxyz cfg d = .err k :=
  allowed_or_of_raises (rawxyzRun_raises cfg d)

theorem parseCif_cases (cfg : CifCfg) (d : CifDoc) (hwf : d.wf = true) :
    (parseCif cfg d).allowed = true ∨
      ∃ k, k ∈ missingKinds neededCif cfg.H ∧ parseCif cfg d = .err k := by
  have ht := (cifBody_raises cfg d sfe_mem_pass (fun _ => List.mem_append_left _) hwf).tryExcept_missing
    (H := cfg.H)
  unfold parseCif
  cases hm : tryExcept cfg.H (cifBody cfg d) with
  | ok b => left; cases b <;> rfl
  | error k => exact (err_allowed_or (ht k hm)).imp_right fun hk => ⟨k, hk, rfl⟩

theorem tryExcept_eq_ok {α : Type u} {H : List Kind} {m : M α} {a : α} (h : tryExcept H m = .ok a) : m = .ok a := by
  cases m with
  | ok b => exact h
  | error k => simp only [tryExcept] at h; split at h <;> cases h

theorem cifBlocks_false (cfg : CifCfg) (bs : List CifBlock) (h : cifBlocks cfg bs = .ok false) :
    bs.all (fun b => !b.hasSites) = true := by
  induction bs with
  | nil => rfl
  | cons b rest ih =>
    unfold cifBlocks at h
    cases hs : b.hasSites with
    | false =>
      simp only [hs, Bool.not_false, ↓reduceIte] at h
      simp [hs, ih h]
    | true =>
      -- a block with sites ends the search with `true` or an exception
      simp only [hs, Bool.not_true, Bool.false_eq_true, ↓reduceIte] at h
      cases hb : cifBlock cfg b <;> simp [hb, Except.map] at h

/-- `P_cif.parse` returns `None` only when PyCifRW succeeded and no block has `_atom_site_label` -/
theorem parseCif_none (cfg : CifCfg) (d : CifDoc) (h : parseCif cfg d = .none) :
    d.cifFile = none ∧ d.blocks.all (fun b => !b.hasSites) = true := by
  unfold parseCif at h
  have hb : cifBody cfg d = .ok false := by
    cases hm : tryExcept cfg.H (cifBody cfg d) with
    | error k => simp [hm] at h
    | ok b =>
      cases b with
      | true => simp [hm] at h
      | false => exact tryExcept_eq_ok hm
  unfold cifBody at hb
  cases hf : d.cifFile with
  | some k => rw [hf] at hb; cases hb
  | none => rw [hf] at hb; exact ⟨rfl, cifBlocks_false cfg _ hb⟩

/-! ## Necessity: every needed kind is raised by a concrete document -/

theorem tryExcept_error_not_mem {α : Type u} {H : List Kind} {k : Kind} (h : k ∉ H) :
    tryExcept H (.error k : M α) = .error k := by
  simp [tryExcept, h]

-- the witnesses are checked by evaluation, which meets `2 ^ 1024` (`hugeInt`) and `10 ^ 400` (`hugeVal`)
set_option exponentiation.threshold 2000

theorem witnessPdffit_raises (cfg : PdffitCfg) :
    ∀ k, k ∈ neededPdffit cfg → ∃ d, witnessPdffit k = some d ∧ pdffitBody cfg d = .error k := by
  intro k hk
  rcases cfg with ⟨H, ri⟩
  cases ri <;> simp [neededPdffit] at hk <;> rcases hk with rfl | rfl | rfl | rfl | rfl | rfl <;>
    exact ⟨_, rfl, rfl⟩

theorem witnessDiscus_raises (cfg : DiscusCfg) :
    ∀ k, k ∈ neededDiscus cfg → ∃ d, witnessDiscus k = some d ∧ discusBody cfg d = .error k := by
  intro k hk
  rcases cfg with ⟨H, Hc, ri⟩
  cases ri <;> simp [neededDiscus] at hk <;> rcases hk with rfl | rfl | rfl | rfl | rfl <;>
    exact ⟨_, rfl, rfl⟩

theorem witnessXcfg_raises (cfg : XcfgCfg) :
    ∀ k, k ∈ neededXcfg cfg → ∃ d, witnessXcfg k = some d ∧ xcfgBody cfg d = .error k := by
  intro k hk
  rcases cfg with ⟨H, ca, ef⟩
  cases ca <;> cases ef <;> simp [neededXcfg] at hk <;> rcases hk with rfl | rfl | rfl | rfl | rfl | rfl | rfl <;>
    exact ⟨_, rfl, rfl⟩

theorem witnessPdb_raises (cfg : PdbCfg) :
    ∀ k, k ∈ neededPdb cfg → ∃ d, witnessPdb k = some d ∧ pdbLoop cfg d.lines none = .error k := by
  intro k hk
  rcases cfg with ⟨H, Ho, gd, li⟩
  cases gd <;> cases li <;> simp [neededPdb] at hk <;> rcases hk with rfl | rfl | rfl | rfl | rfl | rfl <;>
    exact ⟨_, rfl, rfl⟩

/-- for CIF the witnesses are abstract (PyCifRW is a parameter): a well-formed abstract document -/
theorem witnessCif_raises (cfg : CifCfg) (hA : Kind.AttributeError ∉ cfg.Hlat) :
    ∀ k, k ∈ neededCif → ∃ d, witnessCif k = some d ∧ d.wf = true ∧ cifBody cfg d = .error k := by
  intro k hk
  simp only [neededCif, List.mem_cons, List.not_mem_nil, or_false] at hk
  rcases hk with rfl | rfl | rfl | rfl | rfl | rfl | rfl | rfl
  case inr.inr.inr.inr.inr.inr.inr =>
    -- AttributeError raised while reading the cell items passes the inner handler (it does not list it)
    refine ⟨_, rfl, rfl, ?_⟩
    simp [cifBody, cifBlocks, cifBlock, step, raise, tryExcept, hA, Bind.bind, Except.bind, Except.map, Pure.pure,
      Except.pure]
  all_goals exact ⟨_, rfl, rfl, rfl⟩

/-! ## The handler tuple is sufficient **and** necessary (`…_total_iff`: pdffit, discus, xcfg, pdb; `…_escapes` also cif) -/

/-- a kind raised by the witness document of a needed kind escapes `try … except H` when `H` lacks it -/
theorem escapes_of_witness {δ : Type} {needed H : List Kind} {wit : Kind → Option δ} {body : δ → M Unit}
    (hw : ∀ k, k ∈ needed → ∃ d, wit k = some d ∧ body d = .error k) :
    ∀ k, k ∈ missingKinds needed H → ∃ d, wit k = some d ∧ toOutcome (tryExcept H (body d)) = .err k := by
  intro k hk
  obtain ⟨hn, hH⟩ := mem_missingKinds.mp hk
  obtain ⟨d, hd, hb⟩ := hw k hn
  exact ⟨d, hd, by rw [hb, tryExcept_error_not_mem hH]; rfl⟩

theorem parsePdffit_escapes (cfg : PdffitCfg) : ∀ k, k ∈ missingKinds (neededPdffit cfg) cfg.H →
    ∃ d, witnessPdffit k = some d ∧ parsePdffit cfg d = .err k :=
  escapes_of_witness (witnessPdffit_raises cfg)

theorem parseDiscus_escapes (cfg : DiscusCfg) : ∀ k, k ∈ missingKinds (neededDiscus cfg) cfg.H →
    ∃ d, witnessDiscus k = some d ∧ parseDiscus cfg d = .err k :=
  escapes_of_witness (witnessDiscus_raises cfg)

theorem parseXcfg_escapes (cfg : XcfgCfg) : ∀ k, k ∈ missingKinds (neededXcfg cfg) cfg.H →
    ∃ d, witnessXcfg k = some d ∧ parseXcfg cfg d = .err k :=
  escapes_of_witness (witnessXcfg_raises cfg)

theorem parsePdb_escapes (cfg : PdbCfg) : ∀ k, k ∈ missingKinds (neededPdb cfg) cfg.H →
    ∃ d, witnessPdb k = some d ∧ parsePdb cfg d = .err k :=
  escapes_of_witness (body := fun d : PdbDoc => pdbLoop cfg d.lines none) (witnessPdb_raises cfg)

theorem parseCif_escapes (cfg : CifCfg) (hA : Kind.AttributeError ∉ cfg.Hlat) :
    ∀ k, k ∈ missingKinds neededCif cfg.H →
    ∃ d, witnessCif k = some d ∧ d.wf = true ∧ parseCif cfg d = .err k := by
  intro k hk
  obtain ⟨hn, hH⟩ := mem_missingKinds.mp hk
  obtain ⟨d, hw, hwf, hb⟩ := witnessCif_raises cfg hA k hn
  exact ⟨d, hw, hwf, by rw [parseCif, hb, tryExcept_error_not_mem hH]⟩

/-- generic packaging: `parse` is total iff no needed kind is missing from the handler tuple -/
theorem total_iff_of {δ : Type} (parse : δ → Outcome) (miss : List Kind)
    (hcases : ∀ d, (parse d).allowed = true ∨ ∃ k, k ∈ miss ∧ parse d = .err k)
    (hwit : ∀ k, k ∈ miss → ∃ d, parse d = .err k)
    (hna : ∀ k, k ∈ miss → (Outcome.err k).allowed = false) :
    (∀ d, (parse d).allowed = true) ↔ miss = [] := by
  constructor
  · intro h
    cases miss with
    | nil => rfl
    | cons k ks =>
      obtain ⟨d, hd⟩ := hwit k (.head _)
      have := h d
      rw [hd, hna k (.head _)] at this
      cases this
  · intro h d
    exact (hcases d).elim id fun ⟨k, hk, _⟩ => by simp [h] at hk

theorem needed_not_allowed {needed H : List Kind} (h : needed.all (fun k => !(Outcome.err k).allowed) = true) :
    ∀ k, k ∈ missingKinds needed H → (Outcome.err k).allowed = false := by
  intro k hk
  simpa using List.all_eq_true.mp h k (mem_missingKinds.mp hk).1

theorem parsePdffit_total_iff (cfg : PdffitCfg) :
    (∀ d, (parsePdffit cfg d).allowed = true) ↔ missingKinds (neededPdffit cfg) cfg.H = [] :=
  total_iff_of _ _ (parsePdffit_cases cfg)
    (fun k hk => (parsePdffit_escapes cfg k hk).imp fun _ h => h.2)
    (needed_not_allowed (by rcases cfg with ⟨H, ri⟩; cases ri <;> rfl))

theorem parseDiscus_total_iff (cfg : DiscusCfg) :
    (∀ d, (parseDiscus cfg d).allowed = true) ↔ missingKinds (neededDiscus cfg) cfg.H = [] :=
  total_iff_of _ _ (parseDiscus_cases cfg)
    (fun k hk => (parseDiscus_escapes cfg k hk).imp fun _ h => h.2)
    (needed_not_allowed (by rcases cfg with ⟨H, Hc, ri⟩; cases ri <;> rfl))

theorem parseXcfg_total_iff (cfg : XcfgCfg) :
    (∀ d, (parseXcfg cfg d).allowed = true) ↔ missingKinds (neededXcfg cfg) cfg.H = [] :=
  total_iff_of _ _ (parseXcfg_cases cfg)
    (fun k hk => (parseXcfg_escapes cfg k hk).imp fun _ h => h.2)
    (needed_not_allowed (by rfl))

theorem parsePdb_total_iff (cfg : PdbCfg) :
    (∀ d, (parsePdb cfg d).allowed = true) ↔ missingKinds (neededPdb cfg) cfg.H = [] :=
  total_iff_of _ _ (parsePdb_cases cfg)
    (fun k hk => (parsePdb_escapes cfg k hk).imp fun _ h => h.2)
    (needed_not_allowed (by rcases cfg with ⟨H, Ho, gd, li⟩; cases gd <;> cases li <;> rfl))

theorem allowed_or_mono {o : Outcome} {miss S : List Kind}
    (h : o.allowed = true ∨ ∃ k, k ∈ miss ∧ o = .err k) (hS : miss.all (fun k => S.contains k) = true) :
    o.allowed = true ∨ ∃ k, k ∈ S ∧ o = .err k :=
  h.imp_right fun ⟨k, hk, he⟩ => ⟨k, by simpa using List.all_eq_true.mp hS k hk, he⟩

theorem allowed_of_missing_nil {o : Outcome} {miss : List Kind}
    (h : o.allowed = true ∨ ∃ k, k ∈ miss ∧ o = .err k) (h0 : miss = []) : o.allowed = true :=
  h.elim id fun ⟨k, hk, _⟩ => by simp [h0] at hk

end DS.Parsers

import DS.Model.LatRule
import DS.Lemmas.RealElem
import Mathlib.Tactic.NormNum

/-!
Soundness of the lattice-rule certificates (`DS.LatRule.checkLatCert`) over the reals and the
bridge from linear conditions on the metric tensor to the parameter comparisons that
`isSpaceGroupLatPar` performs.

`Rᵀ G R = G` is the vanishing at `G` of the forms `entryForm R e` (`invariant_iff_forms`); a
certificate writes every form that an atom of the rule needs as a combination of these
(`checkLatCert_spec`), and on a valid cell the vanishing forms give back the equalities of
lengths and angles (`atom_sound`).
-/
namespace DS.LatRule
open DS Real

abbrev CellR := CellP ℝ

/-- a proper cell: positive lengths, angles strictly between 0 and 180 degrees -/
structure Valid (c : CellR) : Prop where
  a_pos : 0 < c.a
  b_pos : 0 < c.b
  c_pos : 0 < c.c
  alpha_pos : 0 < c.alpha
  alpha_lt : c.alpha < 180
  beta_pos : 0 < c.beta
  beta_lt : c.beta < 180
  gamma_pos : 0 < c.gamma
  gamma_lt : c.gamma < 180

theorem Valid.len_pos {c : CellR} (h : Valid c) (x : Len) : 0 < c.len x := by
  cases x
  · exact h.a_pos
  · exact h.b_pos
  · exact h.c_pos

theorem Valid.ang_pos {c : CellR} (h : Valid c) (x : Ang) : 0 < c.ang x := by
  cases x
  · exact h.alpha_pos
  · exact h.beta_pos
  · exact h.gamma_pos

theorem Valid.ang_lt {c : CellR} (h : Valid c) (x : Ang) : c.ang x < 180 := by
  cases x
  · exact h.alpha_lt
  · exact h.beta_lt
  · exact h.gamma_lt

/-! ### cosine in degrees -/

theorem cosd_def (x : ℝ) : (Elem.cosd x : ℝ) = Real.cos (x * π / 180) := rfl

theorem cosd_90 : (Elem.cosd (90 : ℝ) : ℝ) = 0 := by
  rw [cosd_def, show (90 : ℝ) * π / 180 = π / 2 by ring]
  exact Real.cos_pi_div_two

theorem cosd_120 : (Elem.cosd (120 : ℝ) : ℝ) = -(1 / 2) := by
  rw [cosd_def, show (120 : ℝ) * π / 180 = π - π / 3 by ring, Real.cos_pi_sub, Real.cos_pi_div_three]

theorem deg_mem_Icc {x : ℝ} (h0 : 0 < x) (h : x < 180) : x * π / 180 ∈ Set.Icc 0 π := by
  constructor
  · positivity
  · rw [div_le_iff₀ (by norm_num), mul_comm π]
    exact mul_le_mul_of_nonneg_right h.le pi_pos.le

theorem cosd_inj {x y : ℝ} (hx0 : 0 < x) (hx : x < 180) (hy0 : 0 < y) (hy : y < 180)
    (h : (Elem.cosd x : ℝ) = Elem.cosd y) : x = y :=
  mul_right_cancel₀ pi_ne_zero <| (div_left_inj' (by norm_num : (180 : ℝ) ≠ 0)).1 <|
    injOn_cos (deg_mem_Icc hx0 hx) (deg_mem_Icc hy0 hy) h

/-! ### entries of the metric tensor -/

theorem metric_diag (c : CellR) (x : Len) : (metric c).diag x = c.len x * c.len x := by
  cases x <;> rfl

theorem metric_off (c : CellR) (x : Ang) :
    (metric c).off x = c.len x.ax1 * c.len x.ax2 * Elem.cosd (c.ang x) := by
  cases x <;> rfl

/-! ### linear forms over the reals -/

namespace LF

theorem eval_zero (G : Metric ℝ) : LF.zero.eval G = 0 := by
  simp [LF.zero, LF.eval]

theorem eval_add (f g : LF) (G : Metric ℝ) : (f.add g).eval G = f.eval G + g.eval G := by
  simp only [LF.add, LF.eval, Int.cast_add]; ring

theorem eval_sub (f g : LF) (G : Metric ℝ) : (f.sub g).eval G = f.eval G - g.eval G := by
  simp only [LF.sub, LF.eval, Int.cast_sub]; ring

theorem eval_smul (k : Int) (f : LF) (G : Metric ℝ) : (f.smul k).eval G = (k : ℝ) * f.eval G := by
  simp only [LF.smul, LF.eval, Int.cast_mul]; ring

theorem eval_diag (x : Len) (G : Metric ℝ) : (LF.diag x).eval G = G.diag x := by
  cases x <;> simp [LF.diag, LF.eval, Metric.diag]

theorem eval_off (x : Ang) (G : Metric ℝ) : (LF.off x).eval G = G.off x := by
  cases x <;> simp [LF.off, LF.eval, Metric.off]

end LF

/-! ### `Rᵀ G R` through the forms `bil` -/

/-- `bil u v` evaluates to `uᵀ G v`, bracketed as `Mat3.mul` brackets an entry of `(Rᵀ G) R` -/
theorem bil_eval (u v : Int × Int × Int) (G : Metric ℝ) :
    (bil u v).eval G =
      ((u.1 : ℝ) * G.g11 + (u.2.1 : ℝ) * G.g12 + (u.2.2 : ℝ) * G.g13) * (v.1 : ℝ) +
      ((u.1 : ℝ) * G.g12 + (u.2.1 : ℝ) * G.g22 + (u.2.2 : ℝ) * G.g23) * (v.2.1 : ℝ) +
      ((u.1 : ℝ) * G.g13 + (u.2.1 : ℝ) * G.g23 + (u.2.2 : ℝ) * G.g33) * (v.2.2 : ℝ) := by
  simp only [bil, LF.eval, Int.cast_add, Int.cast_mul]; ring

theorem bil_eval_comm (u v : Int × Int × Int) (G : Metric ℝ) : (bil u v).eval G = (bil v u).eval G := by
  rw [bil_eval, bil_eval]; ring

/-- entry `(i, j)` of `Rᵀ G R` is `uᵀ G v` for the columns `u`, `v` number `i`, `j` of `R` -/
theorem invariant_iff_bil (R : Op) (G : Metric ℝ) : Invariant R G ↔
    (bil (col1 R) (col1 R)).eval G = G.g11 ∧ (bil (col1 R) (col2 R)).eval G = G.g12 ∧
    (bil (col1 R) (col3 R)).eval G = G.g13 ∧ (bil (col2 R) (col1 R)).eval G = G.g12 ∧
    (bil (col2 R) (col2 R)).eval G = G.g22 ∧ (bil (col2 R) (col3 R)).eval G = G.g23 ∧
    (bil (col3 R) (col1 R)).eval G = G.g13 ∧ (bil (col3 R) (col2 R)).eval G = G.g23 ∧
    (bil (col3 R) (col3 R)).eval G = G.g33 := by
  simp only [bil_eval]
  exact Mat3.ext'_iff

/-- invariance is the vanishing of the six upper entries of `Rᵀ G R − G` (the lower ones by symmetry),
each a linear form evaluated at `G` -/
theorem invariant_iff_forms (R : Op) (G : Metric ℝ) :
    Invariant R G ↔ ∀ e, (entryForm R e).eval G = 0 := by
  rw [invariant_iff_bil]
  constructor
  · rintro ⟨h11, h12, h13, -, h22, h23, -, -, h33⟩ e
    match e with
    | 0 => rw [entryForm, LF.eval_sub, h11, LF.eval_diag]; exact sub_self _
    | 1 => rw [entryForm, LF.eval_sub, h22, LF.eval_diag]; exact sub_self _
    | 2 => rw [entryForm, LF.eval_sub, h33, LF.eval_diag]; exact sub_self _
    | 3 => rw [entryForm, LF.eval_sub, h12, LF.eval_off]; exact sub_self _
    | 4 => rw [entryForm, LF.eval_sub, h13, LF.eval_off]; exact sub_self _
    | 5 => rw [entryForm, LF.eval_sub, h23, LF.eval_off]; exact sub_self _
    | n + 6 => exact LF.eval_zero G
  · intro h
    have h11 := h 0; have h22 := h 1; have h33 := h 2; have h12 := h 3; have h13 := h 4; have h23 := h 5
    simp only [entryForm, LF.eval_sub, LF.eval_diag, LF.eval_off, Metric.diag, Metric.off, sub_eq_zero]
      at h11 h22 h33 h12 h13 h23
    exact ⟨h11, h12, h13, (bil_eval_comm ..).trans h12, h22, h23, (bil_eval_comm ..).trans h13,
      (bil_eval_comm ..).trans h23, h33⟩

/-! ### soundness of the checker -/

theorem comboSum_eval {ops : List Op} {G : Metric ℝ} (hinv : ∀ op ∈ ops, Invariant op G)
    (rows : List Row) : (comboSum ops rows).eval G = 0 := by
  induction rows with
  | nil => exact LF.eval_zero G
  | cons r rs ih =>
    obtain ⟨i, e, k⟩ := r
    simp only [comboSum, LF.eval_add, ih, add_zero]
    cases hq : ops[i]? with
    | none => exact LF.eval_zero G
    | some R =>
      simp only [LF.eval_smul, (invariant_iff_forms R G).1 (hinv R (List.mem_of_getElem? hq)) e, mul_zero]

theorem checkCombo_sound {ops : List Op} {G : Metric ℝ} (hinv : ∀ op ∈ ops, Invariant op G)
    {t : LF} {cb : Combo} (h : checkCombo ops t cb = true) : t.eval G = 0 := by
  simp only [checkCombo, Bool.and_eq_true, decide_eq_true_eq] at h
  obtain ⟨hden, hsum⟩ := h
  have h0 := comboSum_eval hinv cb.rows
  rw [hsum, LF.eval_smul] at h0
  have hd : ((cb.den : Int) : ℝ) ≠ 0 := by exact_mod_cast hden
  exact (mul_eq_zero.1 h0).resolve_left hd

theorem checkForms_sound {ops : List Op} {G : Metric ℝ} (hinv : ∀ op ∈ ops, Invariant op G) :
    ∀ (ts : List LF) (cbs : List Combo), checkForms ops ts cbs = true → ∀ t ∈ ts, t.eval G = 0
  | [], _, _, t, ht => absurd ht List.not_mem_nil
  | t :: ts, [], h, _, _ => by simp [checkForms] at h
  | t :: ts, cb :: cbs, h, u, hu => by
    simp only [checkForms, Bool.and_eq_true] at h
    rcases List.mem_cons.1 hu with rfl | hu
    · exact checkCombo_sound hinv h.1
    · exact checkForms_sound hinv ts cbs h.2 u hu

/-! ### from metric conditions to parameter comparisons -/

theorem len_opp_mul (c : CellR) (x : Ang) :
    c.len x.opp * (c.len x.ax1 * c.len x.ax2) = c.a * c.b * c.c := by
  cases x <;> simp only [Ang.opp, Ang.ax1, Ang.ax2, CellP.len] <;> ring

theorem len_eq_of_form {c : CellR} (hv : Valid c) {x y : Len}
    (h : ((LF.diag x).sub (LF.diag y)).eval (metric c) = 0) : c.len x = c.len y := by
  rw [LF.eval_sub, LF.eval_diag, LF.eval_diag, metric_diag, metric_diag, sub_eq_zero] at h
  exact (mul_self_inj (hv.len_pos x).le (hv.len_pos y).le).1 h

theorem ang_eq_of_cosd {c : CellR} (hv : Valid c) (x : Ang) {v : ℝ} (h0 : 0 < v) (h : v < 180)
    (hc : (Elem.cosd (c.ang x) : ℝ) = Elem.cosd v) : c.ang x = v :=
  cosd_inj (hv.ang_pos x) (hv.ang_lt x) h0 h hc

theorem atom_sound {c : CellR} (hv : Valid c) {a : Atom} (hs : a.supported = true)
    (hf : ∀ f ∈ a.forms, f.eval (metric c) = 0) : evalAtom c a := by
  cases a with
  | lenEq x y => exact len_eq_of_form hv (hf _ List.mem_cons_self)
  | angEq x y =>
    have h := hf _ List.mem_cons_self
    rw [LF.eval_sub, LF.eval_off, LF.eval_off, metric_off, metric_off, sub_eq_zero] at h
    have hl := len_eq_of_form hv (hf _ (List.mem_cons_of_mem _ List.mem_cons_self))
    -- equal opposite axes: the products of the two other axes agree, and cancel from `h`
    have hP : c.len x.ax1 * c.len x.ax2 = c.len y.ax1 * c.len y.ax2 :=
      mul_left_cancel₀ (hv.len_pos x.opp).ne' (by rw [len_opp_mul, ← hl, len_opp_mul])
    rw [hP] at h
    exact ang_eq_of_cosd hv x (hv.ang_pos y) (hv.ang_lt y)
      (mul_left_cancel₀ (mul_pos (hv.len_pos _) (hv.len_pos _)).ne' h)
  | angIs x v =>
    simp only [Atom.supported, Bool.or_eq_true, beq_iff_eq] at hs
    rcases hs with rfl | rfl
    · have h := hf _ List.mem_cons_self
      rw [LF.eval_off, metric_off] at h
      refine ang_eq_of_cosd hv x (by norm_num) (by norm_num) ?_
      rw [(mul_eq_zero.1 h).resolve_left (mul_pos (hv.len_pos _) (hv.len_pos _)).ne', Nat.cast_ofNat, cosd_90]
    · have h := hf _ List.mem_cons_self
      rw [LF.eval_add, LF.eval_smul, LF.eval_off, LF.eval_diag, metric_off, metric_diag,
        ← len_eq_of_form hv (hf _ (List.mem_cons_of_mem _ List.mem_cons_self))] at h
      refine ang_eq_of_cosd hv x (by norm_num) (by norm_num) ?_
      rw [Nat.cast_ofNat, cosd_120]
      apply mul_left_cancel₀ (mul_self_pos.2 (hv.len_pos x.ax1).ne').ne'
      push_cast at h
      linear_combination (1 / 2 : ℝ) * h

/-- what an accepted certificate says: it names an alternative of the rule whose atoms are all
supported and whose linear forms vanish on every real metric invariant under the setting -/
theorem checkLatCert_spec {src : CSys → DNF} {g : SG} {lc : LatCert}
    (h : checkLatCert src g lc = true) :
    ∃ k, (src g.system)[lc.alt]? = some k ∧ (∀ a ∈ k, a.supported = true) ∧
      ∀ G : Metric ℝ, (∀ op ∈ g.ops, Invariant op G) → ∀ a ∈ k, ∀ f ∈ a.forms, f.eval G = 0 := by
  unfold checkLatCert checkLatCertD at h
  cases hk : (src g.system)[lc.alt]? with
  | none => rw [hk] at h; exact Bool.noConfusion h
  | some k =>
    rw [hk] at h
    simp only [checkConj, Bool.and_eq_true, List.all_eq_true] at h
    exact ⟨k, rfl, h.1, fun G hinv a ha f hf =>
      checkForms_sound hinv _ _ h.2 f (List.mem_flatMap.2 ⟨a, ha, hf⟩)⟩

/-- the linear conditions themselves (before the bridge): every form required by the chosen
alternative vanishes on every invariant real metric — valid cell or not -/
theorem checkLatCert_forms {src : CSys → DNF} {g : SG} {lc : LatCert}
    (h : checkLatCert src g lc = true) (G : Metric ℝ) (hinv : ∀ op ∈ g.ops, Invariant op G) :
    ∃ k, (src g.system)[lc.alt]? = some k ∧ ∀ a ∈ k, ∀ f ∈ a.forms, f.eval G = 0 :=
  let ⟨k, hk, _, hf⟩ := checkLatCert_spec h
  ⟨k, hk, hf G hinv⟩

/-- **soundness of the certificate checker.**  An accepted certificate for the rule table `src`
and the setting `g` implies: every valid real cell whose metric tensor is invariant under all
rotation parts of `g` satisfies the rule of `g`'s crystal system. -/
theorem checkLatCert_sound {src : CSys → DNF} {g : SG} {lc : LatCert}
    (h : checkLatCert src g lc = true) (c : CellR) (hv : Valid c)
    (hinv : ∀ op ∈ g.ops, Invariant op (metric c)) : evalDNF c (src g.system) :=
  let ⟨k, hk, hs, hf⟩ := checkLatCert_spec h
  ⟨k, List.mem_of_getElem? hk, fun a ha => atom_sound hv (hs a ha) (hf _ hinv a ha)⟩

/-! ### the data form of the rule is the rule -/

theorem evalConj_nil (c : CellR) : evalConj c [] :=
  fun _ h => absurd h List.not_mem_nil

theorem evalConj_cons (c : CellR) (a : Atom) (k : Conj) :
    evalConj c (a :: k) ↔ evalAtom c a ∧ evalConj c k :=
  List.forall_mem_cons

theorem evalDNF_nil (c : CellR) : ¬ evalDNF c [] :=
  fun ⟨_, h, _⟩ => absurd h List.not_mem_nil

theorem evalDNF_cons (c : CellR) (k : Conj) (d : DNF) :
    evalDNF c (k :: d) ↔ evalConj c k ∨ evalDNF c d :=
  List.exists_mem_cons_iff ..

/-- a Python chain `x == y == v` and its normal form `x == v, y == v` -/
theorem eq_chain {x y v : ℝ} : x = y ∧ y = v ↔ x = v ∧ y = v :=
  ⟨fun h => ⟨h.1.trans h.2, h.2⟩, fun h => ⟨h.1.trans h.2.symm, h.2⟩⟩

theorem eq_chain' {x y v : ℝ} {p : Prop} : x = y ∧ y = v ∧ p ↔ x = v ∧ y = v ∧ p := by
  rw [← and_assoc, eq_chain, and_assoc]

theorem rule_iff_table (S : CSys) (c : CellR) : rule S c ↔ evalDNF c (ruleTable S) := by
  cases S <;>
    simp only [rule, ruleTable, evalDNF_cons, evalDNF_nil, evalConj_cons, evalConj_nil, evalAtom,
      CellP.len, CellP.ang, Nat.cast_ofNat, and_true, or_false, and_assoc, eq_chain (v := 90),
      eq_chain' (v := 90)]
  -- monoclinic: the table lists the alternatives in another order
  exact or_left_comm

theorem mem_allSys (S : CSys) : S ∈ allSys := by
  -- `List.Mem.head` at the position of `S`, `List.Mem.tail` before it
  cases S <;> repeat constructor

theorem agreeing_spec {src : CSys → DNF} {S : CSys} (h : S ∈ agreeing src) : src S = ruleTable S := by
  simp only [agreeing, List.mem_filter, decide_eq_true_eq] at h
  exact h.2

theorem rule_of_src {src : CSys → DNF} {S : CSys} (h : S ∈ agreeing src) (c : CellR) :
    rule S c ↔ evalDNF c (src S) := by
  rw [agreeing_spec h]; exact rule_iff_table S c

/-! ### concrete invariant metrics (non-vacuity witnesses) -/

def Metric.castR (G : Metric Int) : Metric ℝ := ⟨G.g11, G.g22, G.g33, G.g12, G.g13, G.g23⟩

theorem LF.eval_castR (f : LF) (G : Metric Int) : f.eval (Metric.castR G) = ((f.eval G : Int) : ℝ) := by
  simp only [LF.eval, Metric.castR, Int.cast_id, Int.cast_add, Int.cast_mul]

theorem checkInvInt_sound {ops : List Op} {G : Metric Int} (h : checkInvInt ops G = true) :
    ∀ op ∈ ops, Invariant op (Metric.castR G) := by
  intro op hop
  simp only [checkInvInt, List.all_eq_true, List.mem_range, decide_eq_true_eq] at h
  refine (invariant_iff_forms op _).2 fun e => ?_
  rcases lt_or_ge e 6 with he | he
  · rw [LF.eval_castR, h op hop e he, Int.cast_zero]
  · obtain ⟨n, rfl⟩ := Nat.exists_eq_add_of_le' he
    exact LF.eval_zero _


end DS.LatRule

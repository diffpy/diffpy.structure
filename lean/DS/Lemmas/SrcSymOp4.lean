import DS.Lemmas.SrcSymOp3
import DS.Lemmas.SrcSymOp5
/-!
The split of a row at its variable terms against the one-pass scanner of the model (proof of `getSymOp_eq`).  The idea
is `decomp`: the scanner on `piece ++ tail` (no variable term starts inside `piece`; `tail` is empty or begins with one) is
the piece scanner on `piece`, then the scanner on `tail`.  With it the two loops of `getSymOp` over the odd and the even
pieces of `re.split` give `getSymOp_row_eq` (what `DS.Props.SrcSymOp` uses): one row of `getSymOp` is the model's
`parseRow` on the lower-cased component.
-/
namespace DS.SrcSymOp4
open DS.Rx DS.PyStr DS.SymText DS.Src.SymOp

/-- the texts on which `DS.Rx` and `Char.toLower` read `\d`, `(?i)` and `str.lower` as Python does -/
def Ascii (s : List Char) : Prop := ∀ c ∈ s, c.toNat < 128

theorem Ascii.left {a b : List Char} (h : Ascii (a ++ b)) : Ascii a :=
  fun x hx => h x (List.mem_append_left _ hx)

/-! ### signs and axis letters -/

theorem sign_lower {c : Char} (hs : isSign c = true) : c.toLower = c := by
  simp only [isSign, Bool.or_eq_true, decide_eq_true_eq] at hs
  rcases hs with rfl | rfl <;> decide

theorem sign_lower_ascii : ∀ n : Fin 128, isSign (Char.ofNat n) = true → (Char.ofNat n).toLower = Char.ofNat n :=
  fun _ => sign_lower

theorem sign_no_axis {c : Char} (hs : isSign c = true) : axCI c = none := by
  simp only [isSign, Bool.or_eq_true, decide_eq_true_eq] at hs
  rcases hs with rfl | rfl <;> decide

theorem axisCI_eq (c : Char) : isAxisCI c = (axCI c).isSome := isAxisCI_eq c

theorem stop_char {c : Char} (hs : (isSign c || (axCI c).isSome) = true) :
    c.isDigit = false ∧ c ≠ '.' ∧ c ≠ '/' := by
  have hl := toLower_code c
  rw [Bool.or_eq_true, isSign_iff, axCI, axisOf_isSome_iff] at hs
  rw [← Bool.not_eq_true, isDigit_iff, Ne, Ne, ← Char.toNat_inj, ← Char.toNat_inj]
  simp only [Char.reduceToNat]
  omega

/-! ### where a variable term starts -/

/-- no variable term starts inside `p` (read with `tail` behind it) -/
def NoVar (tail : List Char) : List Char → Prop
  | [] => True
  | c :: p => varRest (c :: (p ++ tail)) = none ∧ NoVar tail p

theorem NoVar_suffix (tail : List Char) : ∀ (a b : List Char), NoVar tail (a ++ b) → NoVar tail b
  | [], _, h => h
  | _ :: a, b, h => NoVar_suffix tail a b h.2

/-- `tail` is empty or begins with a variable term -/
def TailOK (tail : List Char) : Prop := tail = [] ∨ ∃ rest, varRest tail = some rest

theorem varRest_cons (c : Char) (r : List Char) :
    varRest (c :: r) =
      if isSign c then
        match r with
        | d :: r' => if (axCI d).isSome then some r' else none
        | [] => none
      else if (axCI c).isSome then some r else none := by
  unfold varRest
  dsimp only
  rw [isSignCI_eq]
  by_cases hs : isSign c = true
  · have hcn : isAxisCI c = false := by rw [axisCI_eq, sign_no_axis hs]; rfl
    simp only [hs, if_true, hcn, Bool.false_eq_true, if_false]
    cases r with
    | nil => rfl
    | cons d r' => simp only [axisCI_eq]
  · simp only [hs, Bool.false_eq_true, if_false, axisCI_eq]

theorem varRest_none_head {c : Char} {r : List Char} (h : varRest (c :: r) = none) : axCI c = none := by
  by_cases hs : isSign c = true
  · exact sign_no_axis hs
  · rw [varRest_cons, if_neg hs] at h
    cases hx : axCI c with
    | none => rfl
    | some a => rw [hx] at h; cases h

theorem varRest_none_second {c d : Char} {r : List Char} (hs : isSign c = true)
    (h : varRest (c :: d :: r) = none) : axCI d = none := by
  rw [varRest_cons, if_pos hs] at h
  dsimp only at h
  cases hx : axCI d with
  | none => rfl
  | some a => rw [hx] at h; cases h

theorem varRest_some_head {c : Char} {r rest : List Char} (h : varRest (c :: r) = some rest) :
    (isSign c || (axCI c).isSome) = true := by
  by_cases hs : isSign c = true
  · rw [hs]; rfl
  · rw [varRest_cons, if_neg hs] at h
    cases hx : (axCI c).isSome with
    | true => exact Bool.or_true _
    | false => rw [hx] at h; cases h

theorem TailOK.stop {tail : List Char} (h : TailOK tail) : Stop tail := by
  intro d r e
  subst e
  rcases h with h | ⟨rest, h⟩
  · cases h
  · exact stop_char (varRest_some_head h)

/-- every lower-cased term the split can produce is a key, with the model's signed unit vector -/
theorem symvec_unit (c : Char) (a : Nat) (h : axisOf c = some a) :
    dictGet symvec [c] = .ok (unitVec false a) ∧
      dictGet symvec ['+', c] = .ok (unitVec false a) ∧
      dictGet symvec ['-', c] = .ok (unitVec true a) := by
  rcases axisOf_eq_some h with ⟨rfl, rfl⟩ | ⟨rfl, rfl⟩ | ⟨rfl, rfl⟩ <;> exact ⟨rfl, rfl, rfl⟩

theorem varStep {tail rest : List Char} (h : varRest tail = some rest) :
    ∃ (neg : Bool) (a : Nat) (m : List Char), tail = m ++ rest ∧ m ≠ [] ∧
      tail.take (tail.length - rest.length) = m ∧
      (∀ fuel first, scanRowG axCI (fuel + 1) first tail = (scanRowG axCI fuel true rest).map (Tok.var neg a :: ·)) ∧
      dictGet symvec (lower m) = .ok (unitVec neg a) := by
  cases tail with
  | nil => cases h
  | cons c r =>
    rw [varRest_cons] at h
    by_cases hs : isSign c = true
    · rw [if_pos hs] at h
      cases r with
      | nil => cases h
      | cons d r' =>
        dsimp only at h
        cases hx : axCI d with
        | none => rw [hx] at h; cases h
        | some a =>
          rw [hx] at h
          cases h
          refine ⟨decide (c = '-'), a, [c, d], rfl, by simp, ?_, ?_, ?_⟩
          · exact take_of_append (m := [c, d]) rfl
          · exact fun fuel first => scanRowG_sign_axis (sign_no_axis hs) hs hx fuel first rest
          · have hu := symvec_unit d.toLower a hx
            simp only [isSign, Bool.or_eq_true, decide_eq_true_eq] at hs
            rcases hs with rfl | rfl
            · exact hu.2.1
            · exact hu.2.2
    · rw [if_neg hs] at h
      cases hx : axCI c with
      | none => rw [hx] at h; cases h
      | some a =>
        rw [hx] at h
        cases h
        refine ⟨false, a, [c], rfl, by simp, ?_, ?_, ?_⟩
        · exact take_of_append (m := [c]) rfl
        · exact fun fuel first => scanRowG_axis hx fuel first rest
        · exact (symvec_unit c.toLower a hx).1

/-! ### the scanner across a piece boundary -/

theorem bind_map_cons (x T : Option (List Tok)) (t : Tok) :
    ((x.map (t :: ·)).bind (fun a => T.map (a ++ ·))) = (x.bind (fun a => T.map (a ++ ·))).map (t :: ·) := by
  cases x <;> cases T <;> rfl

theorem scanRowG_tail_first {tail : List Char} (h : TailOK tail) (f : Nat) (first : Bool) :
    scanRowG axCI (f + 1) first tail = scanRowG axCI (f + 1) true tail := by
  rcases h with h | ⟨rest, h⟩
  · subst h; rfl
  · obtain ⟨neg, a, m, _, _, _, hstep, _⟩ := varStep h
    rw [hstep f first, hstep f true]

theorem decomp_num {m : Nat}
    (ih : ∀ (p : List Char), p.length ≤ m → ∀ (tail : List Char) (first : Bool) (fuel : Nat),
      NoVar tail p → TailOK tail → (p ++ tail).length < fuel →
      scanRowG axCI fuel first (p ++ tail) =
        (pieceToks (p.length + 1) first p).bind (fun a => (scanRowG axCI (tail.length + 1) true tail).map (a ++ ·)))
    (q tail : List Char) (hq : q.length ≤ m + 1) (hnv : NoVar tail q) (ht : TailOK tail)
    (f : Nat) (hf : (q ++ tail).length < f + 1) (g : Frac → Frac) (k : Nat) (hk : q.length ≤ k) :
    (match scanQuot (q ++ tail) with
      | none => none
      | some (v, r) => (scanRowG axCI f false r).map (Tok.num (g v) :: ·)) =
      (match scanQuot q with
        | none => none
        | some (v, r) => (pieceToks k false r).map (Tok.num (g v) :: ·)).bind
        (fun a => (scanRowG axCI (tail.length + 1) true tail).map (a ++ ·)) := by
  rw [scanQuot_append q tail ht.stop]
  cases hsq : scanQuot q with
  | none => rfl
  | some x =>
    obtain ⟨v, r⟩ := x
    have hlt := scanQuot_lt hsq
    obtain ⟨pre, hpre, _, _⟩ := scanQuot_prefix hsq
    dsimp only [Option.map_some]
    have hnr : NoVar tail r := NoVar_suffix tail pre r (hpre ▸ hnv)
    have hlen : (r ++ tail).length < f := by
      simp only [List.length_append] at hf ⊢
      omega
    rw [ih r (by omega) tail false f hnr ht hlen]
    have hfuel : pieceToks k false r = pieceToks (r.length + 1) false r :=
      scanRowG_fuel axNone _ _ false r (by omega) (Nat.lt_succ_self _)
    rw [hfuel, bind_map_cons]

theorem decomp_nil {tail : List Char} (ht : TailOK tail) (first : Bool) {f : Nat} (hf : tail.length < f + 1) :
    scanRowG axCI (f + 1) first tail =
      (pieceToks 1 first []).bind (fun a => (scanRowG axCI (tail.length + 1) true tail).map (a ++ ·)) := by
  rw [scanRowG_tail_first ht f first, scanRowG_fuel axCI (f + 1) (tail.length + 1) true tail hf (Nat.lt_succ_self _)]
  simp [pieceToks, scanRowG_nil]

theorem decomp : ∀ (n : Nat) (p : List Char), p.length ≤ n → ∀ (tail : List Char) (first : Bool) (fuel : Nat),
    NoVar tail p → TailOK tail → (p ++ tail).length < fuel →
    scanRowG axCI fuel first (p ++ tail) =
      (pieceToks (p.length + 1) first p).bind (fun a => (scanRowG axCI (tail.length + 1) true tail).map (a ++ ·)) := by
  intro n
  induction n with
  | zero =>
    intro p hp tail first fuel hnv ht hf
    have : p = [] := List.eq_nil_of_length_eq_zero (by omega)
    subst this
    cases fuel with
    | zero => omega
    | succ f => exact decomp_nil ht first hf
  | succ m ih =>
    intro p hp tail first fuel hnv ht hf
    cases fuel with
    | zero => omega
    | succ f =>
    cases p with
    | nil => exact decomp_nil ht first hf
    | cons c p' =>
      obtain ⟨hv, hnv'⟩ := hnv
      have hcx : axCI c = none := varRest_none_head hv
      rw [List.cons_append, scanRowG_cons, hcx, pieceToks_cons]
      dsimp only
      by_cases hs : isSign c = true
      · -- after a sign: no axis letter follows inside the piece, and none at the head of `tail` by `NoVar`
        have hnx : ∀ d r, p' ++ tail = d :: r → axCI d = none := fun d r e => varRest_none_second hs (e ▸ hv)
        have hu : unsign (c :: p') = p' := by simp only [unsign, hs, if_true]
        rw [if_pos hs, signStep_num hnx, hs, Bool.true_or, if_pos rfl, hu]
        exact decomp_num ih p' tail (by simp only [List.length_cons] at hp; omega) hnv' ht f
          (by simp only [List.length_append, List.length_cons] at hf ⊢; omega) _ _ (Nat.le_succ _)
      · have hu : unsign (c :: p') = c :: p' := by simp only [unsign, hs, Bool.false_eq_true, if_false]
        have hm : c ≠ '-' := fun e => hs (e ▸ rfl)
        rw [if_neg hs, Bool.eq_false_iff.mpr hs, Bool.false_or, hu]
        cases first with
        | false => rfl
        | true =>
          simp only [hm, if_false, if_true]
          exact decomp_num ih (c :: p') tail hp ⟨hv, hnv'⟩ ht f (by simpa using hf) (fun v => v) _ (Nat.le_refl _)
/-! ### `re.split` at the variable terms -/

theorem matchRest_split (n : Nat) (s : List Char) : matchRest rx_split n s = varRest s := matchRest_rxVar n s

theorem searchFrom_spec (n : Nat) : ∀ (s acc : List Char),
    (searchFrom rx_split n acc s = none → NoVar [] s) ∧
    (∀ a m rest, searchFrom rx_split n acc s = some (a, m, rest) →
      ∃ p tail, a = p.reverse ++ acc ∧ s = p ++ tail ∧ NoVar tail p ∧ varRest tail = some rest ∧
        m = tail.take (tail.length - rest.length)) := by
  intro s
  induction s with
  | nil =>
    intro acc
    simp [searchFrom, matchRest_split, varRest, NoVar]
  | cons c s ih =>
    intro acc
    unfold searchFrom
    rw [matchRest_split]
    cases h : varRest (c :: s) with
    | some rest =>
      refine ⟨by simp, ?_⟩
      intro a m rest' e
      simp only [Option.some.injEq, Prod.mk.injEq] at e
      obtain ⟨rfl, rfl, rfl⟩ := e
      exact ⟨[], c :: s, rfl, rfl, trivial, h, rfl⟩
    | none =>
      obtain ⟨ih1, ih2⟩ := ih (c :: acc)
      refine ⟨?_, ?_⟩
      · intro e
        exact ⟨by simpa using h, ih1 e⟩
      · intro a m rest e
        obtain ⟨p, tail, ha, hs, hnv, hv, hm⟩ := ih2 a m rest e
        refine ⟨c :: p, tail, by simp [ha], by simp [hs], ⟨?_, hnv⟩, hv, hm⟩
        rw [← hs]; exact h

theorem splitGo_succ (n fuel : Nat) (s : List Char) :
    splitGo rx_split n true (fuel + 1) s =
      match searchFrom rx_split n [] s with
      | none => [s]
      | some (acc, m, rest) =>
        if m.isEmpty then [s] else acc.reverse :: m :: splitGo rx_split n true fuel rest := by
  conv => lhs; unfold splitGo
  cases searchFrom rx_split n [] s with
  | none => rfl
  | some x => obtain ⟨a, m, r⟩ := x; simp

theorem pieceToks_rowVec : ∀ (f : Nat) (first : Bool) (s : List Char) (a : List Tok),
    pieceToks f first s = some a → rowVec a = (0, 0, 0) := by
  intro f
  induction f with
  | zero => intro first s a h; cases h
  | succ f ih =>
    intro first s a h
    cases s with
    | nil => rw [pieceToks, scanRowG_nil] at h; cases h; rfl
    | cons c r =>
      rw [pieceToks_cons] at h
      split at h
      · split at h
        · cases h
        · obtain ⟨b, hb, rfl⟩ := Option.map_eq_some_iff.mp h
          exact ih false _ b hb
      · cases h

theorem scan_split_none {n : Nat} {s : List Char} (h : searchFrom rx_split n [] s = none) :
    scanRowG axCI (s.length + 1) true s = pieceToks (s.length + 1) true s := by
  have hnv := (searchFrom_spec n s []).1 h
  have := decomp s.length s (Nat.le_refl _) [] true (s.length + 1) hnv (Or.inl rfl) (by simp)
  simp only [List.append_nil] at this
  rw [this]
  cases pieceToks (s.length + 1) true s with
  | none => rfl
  | some a => simp [scanRowG_nil]

theorem scan_split_some {n : Nat} {s a m rest : List Char}
    (h : searchFrom rx_split n [] s = some (a, m, rest)) :
    ∃ (neg : Bool) (ax : Nat), m.isEmpty = false ∧ rest.length < s.length ∧
      dictGet symvec (lower m) = .ok (unitVec neg ax) ∧
      scanRowG axCI (s.length + 1) true s =
        (pieceToks (a.reverse.length + 1) true a.reverse).bind (fun x =>
          (scanRowG axCI (rest.length + 1) true rest).map (fun b => x ++ Tok.var neg ax :: b)) := by
  obtain ⟨p, tail, hacc, hs, hnv, hv, hm⟩ := (searchFrom_spec n s []).2 a m rest h
  have hap : a.reverse = p := by simp [hacc]
  subst hs
  obtain ⟨neg, ax, m', htl, hne, htake, hstep, hdict⟩ := varStep hv
  have hmm : m = m' := hm.trans htake
  subst hmm
  have hrt : rest.length < tail.length := length_lt_of_append htl hne
  have hlen : rest.length < (p ++ tail).length := by rw [List.length_append]; omega
  have hme : m.isEmpty = false := by
    cases m with
    | nil => exact absurd rfl hne
    | cons _ _ => rfl
  refine ⟨neg, ax, hme, hlen, hdict, ?_⟩
  have hd := decomp p.length p (Nat.le_refl _) tail true ((p ++ tail).length + 1) hnv (Or.inr ⟨rest, hv⟩)
    (Nat.lt_succ_self _)
  rw [hap]
  rw [hd, hstep tail.length true]
  rw [scanRowG_fuel axCI tail.length (rest.length + 1) true rest hrt (Nat.lt_succ_self _)]
  cases pieceToks (p.length + 1) true p with
  | none => rfl
  | some x =>
    cases scanRowG axCI (rest.length + 1) true rest with
    | none => rfl
    | some b => rfl

theorem scan_split_some_ascii {n : Nat} {s a m rest : List Char} (ha : Ascii s)
    (h : searchFrom rx_split n [] s = some (a, m, rest)) :
    ∃ (neg : Bool) (ax : Nat), m.isEmpty = false ∧ rest.length < s.length ∧ Ascii rest ∧
      dictGet symvec (lower m) = .ok (unitVec neg ax) ∧
      scanRowG axCI (s.length + 1) true s =
        (pieceToks (a.reverse.length + 1) true a.reverse).bind (fun x =>
          (scanRowG axCI (rest.length + 1) true rest).map (fun b => x ++ Tok.var neg ax :: b)) := by
  obtain ⟨neg, ax, hme, hlen, hdict, hscan⟩ := scan_split_some h
  obtain ⟨p, tail, _, hs, _, hv, _⟩ := (searchFrom_spec n s []).2 a m rest h
  obtain ⟨_, _, m', htl, _⟩ := varStep hv
  exact ⟨neg, ax, hme, hlen, fun x hx => ha x (by rw [hs, htl]; simp [hx]), hdict, hscan⟩

/-! ### the two loops of `getSymOp` over the pieces of one row -/

def addRowP (R : Vec × Vec × Vec) (i : Nat) (v : Vec) : Vec × Vec × Vec :=
  if i = 0 then (addVec R.1 v, R.2.1, R.2.2) else if i = 1 then (R.1, addVec R.2.1 v, R.2.2)
  else (R.1, R.2.1, addVec R.2.2 v)

def addAtP (t : Frac × Frac × Frac) (i : Nat) (c : Frac) : Frac × Frac × Frac :=
  if i = 0 then (t.1.add c, t.2.1, t.2.2) else if i = 1 then (t.1, t.2.1.add c, t.2.2)
  else (t.1, t.2.1, t.2.2.add c)

theorem addRow_ok {i : Nat} (hi : i < 3) (R : Vec × Vec × Vec) (v : Vec) : addRow R i v = .ok (addRowP R i v) := by
  rcases i with _ | _ | _ | i
  · rfl
  · rfl
  · rfl
  · omega

theorem addAt_ok {i : Nat} (hi : i < 3) (t : Frac × Frac × Frac) (c : Frac) : addAt t i c = .ok (addAtP t i c) := by
  rcases i with _ | _ | _ | i
  · rfl
  · rfl
  · rfl
  · omega

theorem addRowP_add (R : Vec × Vec × Vec) (i : Nat) (u v : Vec) :
    addRowP (addRowP R i u) i v = addRowP R i (addVec u v) := by
  rcases i with _ | _ | i
  · exact congrArg (·, R.2.1, R.2.2) (addVec_assoc _ _ _)
  · exact congrArg (R.1, ·, R.2.2) (addVec_assoc _ _ _)
  · exact congrArg (R.1, R.2.1, ·) (addVec_assoc _ _ _)

theorem addAtP_add (t : Frac × Frac × Frac) (i : Nat) (a b : Frac) :
    addAtP (addAtP t i a) i b = addAtP t i (a.add b) := by
  rcases i with _ | _ | i
  · exact congrArg (·, t.2.1, t.2.2) (Frac.add_assoc _ _ _)
  · exact congrArg (t.1, ·, t.2.2) (Frac.add_assoc _ _ _)
  · exact congrArg (t.1, t.2.1, ·) (Frac.add_assoc _ _ _)

theorem addVec_zero_right (v : Int × Int × Int) : addVec v (0, 0, 0) = v := by
  simp [addVec]

theorem addRowP_zero (R : Vec × Vec × Vec) (i : Nat) : addRowP R i (0, 0, 0) = R := by
  rcases i with _ | _ | i
  · exact congrArg (·, R.2.1, R.2.2) (addVec_zero_right _)
  · exact congrArg (R.1, ·, R.2.2) (addVec_zero_right _)
  · exact congrArg (R.1, R.2.1, ·) (addVec_zero_right _)

theorem rowVec_append : ∀ (a b : List Tok), rowVec (a ++ b) = addVec (rowVec a) (rowVec b)
  | [], b => by simp [rowVec, addVec_zero_left]
  | .var n x :: a, b => by simp [rowVec, rowVec_append a b, addVec_assoc]
  | .num _ :: a, b => by simp [rowVec, rowVec_append a b]

theorem rowConst_append : ∀ (a b : List Tok), rowConst (a ++ b) = (rowConst a).add (rowConst b)
  | [], b => by simp [rowConst, Frac.zero_add]
  | .var n x :: a, b => by simp [rowConst, rowConst_append a b]
  | .num _ :: a, b => by simp [rowConst, rowConst_append a b, Frac.add_assoc]

def fR (i : Nat) (R : Vec × Vec × Vec) (Rpart : List Char) : Except Exn (Vec × Vec × Vec) := do
  let v ← dictGet symvec (lower Rpart)
  addRow R i v

def fT (i : Nat) (t : Frac × Frac × Frac) (tpart : List Char) : Except Exn (Frac × Frac × Frac) := do
  let c ← symop_constant tpart
  addAt t i c

theorem slice1_cons2 (p m : List Char) (L : List (List Char)) : sliceStep 1 2 (p :: m :: L) = m :: sliceStep 1 2 L := rfl
theorem slice0_cons2 (p m : List Char) (L : List (List Char)) : sliceStep 0 2 (p :: m :: L) = p :: sliceStep 0 2 L := rfl

theorem slice0_single (p : List Char) : sliceStep 0 2 [p] = [p] := rfl

theorem ok_bind {α β : Type} (a : α) (f : α → Except Exn β) : (Except.ok a >>= f) = f a := rfl
theorem err_bind {α β : Type} (e : Exn) (f : α → Except Exn β) : ((Except.error e : Except Exn α) >>= f) = .error e := rfl

theorem fT_eq {i : Nat} (hi : i < 3) (t : Frac × Frac × Frac) (p : List Char) :
    fT i t p = match pieceToks (p.length + 1) true p with
      | none => .error .structureFormatError
      | some a => .ok (addAtP t i (rowConst a)) := by
  unfold fT
  rw [DS.SrcSymOp3.symop_constant_eq]
  cases pieceToks (p.length + 1) true p with
  | none => rfl
  | some a => simp only [ok_bind]; exact addAt_ok hi _ _

/-- the loop over the variable terms never fails; it adds the model's row vector -/
theorem rowR (n : Nat) {i : Nat} (hi : i < 3) : ∀ (fuel : Nat) (s : List Char) (R0 : Vec × Vec × Vec),
    s.length < fuel →
    ∃ R', (sliceStep 1 2 (splitGo rx_split n true fuel s)).foldlM (fR i) R0 = .ok R' ∧
      ∀ T, scanRowG axCI (s.length + 1) true s = some T → R' = addRowP R0 i (rowVec T) := by
  intro fuel
  induction fuel with
  | zero => intro s R0 h; omega
  | succ f ih =>
    intro s R0 hf
    rw [splitGo_succ]
    cases hsf : searchFrom rx_split n [] s with
    | none =>
      refine ⟨R0, rfl, ?_⟩
      intro T hT
      rw [scan_split_none hsf] at hT
      rw [pieceToks_rowVec _ _ _ _ hT, addRowP_zero]
    | some x =>
      obtain ⟨a, m, rest⟩ := x
      obtain ⟨neg, ax, hme, hlen, hdict, hscan⟩ := scan_split_some hsf
      simp only [hme, Bool.false_eq_true, if_false, slice1_cons2, List.foldlM_cons]
      obtain ⟨R', hR', hT'⟩ := ih rest (addRowP R0 i (unitVec neg ax)) (by omega)
      refine ⟨R', ?_, ?_⟩
      · have : fR i R0 m = .ok (addRowP R0 i (unitVec neg ax)) := by
          unfold fR; rw [hdict]; exact addRow_ok hi _ _
        rw [this]; exact hR'
      · intro T hT
        rw [hscan] at hT
        cases hp : pieceToks (a.reverse.length + 1) true a.reverse with
        | none => rw [hp] at hT; cases hT
        | some x =>
          rw [hp] at hT
          cases hb : scanRowG axCI (rest.length + 1) true rest with
          | none => rw [hb] at hT; cases hT
          | some b =>
            rw [hb] at hT
            simp only [Option.bind_some, Option.map_some, Option.some.injEq] at hT
            subst hT
            rw [hT' b hb, addRowP_add, rowVec_append, pieceToks_rowVec _ _ _ _ hp, addVec_zero_left]
            rfl

/-- the loop over the constant pieces: `StructureFormatError` exactly when the model rejects the row, else the model's sum -/
theorem rowT (n : Nat) {i : Nat} (hi : i < 3) : ∀ (fuel : Nat) (s : List Char) (t0 : Frac × Frac × Frac),
    s.length < fuel →
    (sliceStep 0 2 (splitGo rx_split n true fuel s)).foldlM (fT i) t0 =
      match scanRowG axCI (s.length + 1) true s with
      | none => .error .structureFormatError
      | some T => .ok (addAtP t0 i (rowConst T)) := by
  intro fuel
  induction fuel with
  | zero => intro s t0 h; omega
  | succ f ih =>
    intro s t0 hf
    rw [splitGo_succ]
    cases hsf : searchFrom rx_split n [] s with
    | none =>
      rw [scan_split_none hsf]
      show List.foldlM (fT i) t0 [s] = _
      simp only [List.foldlM_cons, List.foldlM_nil, bind_pure]
      exact fT_eq hi t0 s
    | some x =>
      obtain ⟨a, m, rest⟩ := x
      obtain ⟨neg, ax, hme, hlen, hdict, hscan⟩ := scan_split_some hsf
      simp only [hme, Bool.false_eq_true, if_false, slice0_cons2, List.foldlM_cons]
      rw [hscan, fT_eq hi]
      cases hp : pieceToks (a.reverse.length + 1) true a.reverse with
      | none => rfl
      | some x =>
        simp only [Option.bind_some, ok_bind]
        rw [ih rest (addAtP t0 i (rowConst x)) (by omega)]
        cases hb : scanRowG axCI (rest.length + 1) true rest with
        | none => rfl
        | some b =>
          simp only [Option.map_some]
          rw [addAtP_add, rowConst_append]
          rfl

/-! ### one pass of `for i in (0, 1, 2)` -/

theorem pySplit_eq (e : List Char) :
    pySplit rx_split rx_split_keep e = some (splitGo rx_split e.length true (e.length + 1) e) := rfl

theorem parseRow_lower (e : List Char) : parseRow (lower e) = scanRowG axCI (e.length + 1) true e := by
  unfold parseRow
  rw [DS.SrcSymOp5.lower_length, DS.SrcSymOp5.scanRow_of_lower]

/-- **one row**: the body of the loop of `getSymOp` on component `i` — `IndexError` when there is no such component,
else the model's `parseRow` on the lower-cased component: `StructureFormatError` exactly when the model rejects it,
else the model's row vector and constant added -/
theorem getSymOp_row_eq {i : Nat} (hi : i < 3) (eqlist : List (List Char))
    (st : (Vec × Vec × Vec) × (Frac × Frac × Frac)) :
    getSymOp_row eqlist st i =
      match eqlist[i]? with
      | none => .error .indexError
      | some e =>
        match parseRow (lower e) with
        | none => .error .structureFormatError
        | some T => .ok (addRowP st.1 i (rowVec T), addAtP st.2 i (rowConst T)) := by
  show (do let e' ← listIndex eqlist i
           let eqparts ← (match pySplit rx_split rx_split_keep e' with | some l => pure l | none => .error .outside)
           let R ← (sliceStep 1 2 eqparts).foldlM (fR i) st.1
           let t ← (sliceStep 0 2 eqparts).foldlM (fT i) st.2
           pure (R, t)) = _
  unfold listIndex
  cases eqlist[i]? with
  | none => rfl
  | some e =>
    obtain ⟨R', hR, hRT⟩ := rowR e.length hi (e.length + 1) e st.1 (Nat.lt_succ_self _)
    have hT := rowT e.length hi (e.length + 1) e st.2 (Nat.lt_succ_self _)
    rw [ok_bind, pySplit_eq]
    simp only [pure_bind]
    rw [hR, ok_bind, hT, parseRow_lower]
    cases hs : scanRowG axCI (e.length + 1) true e with
    | none => rfl
    | some T => rw [hRT T hs]; rfl

theorem getSymOp_row_index {i : Nat} (eqlist : List (List Char))
    (st : (Vec × Vec × Vec) × (Frac × Frac × Frac)) (he : eqlist[i]? = none) :
    getSymOp_row eqlist st i = .error .indexError := by
  unfold getSymOp_row listIndex; rw [he]; rfl

end DS.SrcSymOp4

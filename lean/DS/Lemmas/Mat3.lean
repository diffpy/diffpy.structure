import DS.Model.Lin
import Mathlib.Algebra.Field.Basic
import Mathlib.Tactic.Ring

/-!
Algebra of the 3×3 matrices and 3-vectors of `DS.Model.Lin` over a commutative ring / field.

Entries are expanded in the base lemmas only (section `entrywise`, `isSymm_iff_transpose`, `inv` as scaled
adjugate); the other lemmas rewrite with those.
-/
set_option linter.unusedSectionVars false

namespace DS

theorem Vec3.ext' {α : Type} {u v : Vec3 α} (h1 : u.x = v.x) (h2 : u.y = v.y) (h3 : u.z = v.z) : u = v := by
  cases u; cases v; simp_all

def Vec3.cross {α : Type} [Mul α] [Sub α] (x y : Vec3 α) : Vec3 α :=
  ⟨x.y * y.z - x.z * y.y, x.z * y.x - x.x * y.z, x.x * y.y - x.y * y.x⟩

namespace Mat3

section ring
variable {R : Type} [CommRing R]

@[ext] theorem ext' {m n : Mat3 R} (h11 : m.a11 = n.a11) (h12 : m.a12 = n.a12) (h13 : m.a13 = n.a13)
    (h21 : m.a21 = n.a21) (h22 : m.a22 = n.a22) (h23 : m.a23 = n.a23)
    (h31 : m.a31 = n.a31) (h32 : m.a32 = n.a32) (h33 : m.a33 = n.a33) : m = n := by
  cases m; cases n; simp_all

/-! ### entrywise -/

theorem mul_one (a : Mat3 R) : a.mul one = a := by
  simp only [mul, one, _root_.mul_one, mul_zero, add_zero, zero_add]

theorem one_mul (a : Mat3 R) : one.mul a = a := by
  simp only [mul, one, _root_.one_mul, zero_mul, add_zero, zero_add]

theorem transpose_mul (a b : Mat3 R) : (a.mul b).transpose = b.transpose.mul a.transpose := by
  simp only [mul, transpose, mul_comm]

theorem transpose_transpose (a : Mat3 R) : a.transpose.transpose = a := rfl

theorem transpose_one : (one : Mat3 R).transpose = one := rfl

theorem transpose_smul (c : R) (a : Mat3 R) : (smul c a).transpose = smul c a.transpose := rfl

theorem smul_mul (c : R) (a b : Mat3 R) : (smul c a).mul b = smul c (a.mul b) := by
  simp only [mul, smul, _root_.mul_add, _root_.mul_assoc]

theorem mul_smul (c : R) (a b : Mat3 R) : a.mul (smul c b) = smul c (a.mul b) := by
  simp only [mul, smul, _root_.mul_add, mul_left_comm _ c]

private theorem add3 (x y z x' y' z' : R) : x + x' + (y + y') + (z + z') = x + y + z + (x' + y' + z') := by ring

theorem mul_add (a u v : Mat3 R) : a.mul (u.add v) = (a.mul u).add (a.mul v) := by
  simp only [mul, add, _root_.mul_add, add3]

theorem add_mul (u v b : Mat3 R) : (u.add v).mul b = (u.mul b).add (v.mul b) := by
  simp only [mul, add, _root_.add_mul, add3]

theorem smul_smul (c d : R) (a : Mat3 R) : smul c (smul d a) = smul (c * d) a := by
  simp only [smul, _root_.mul_assoc]

theorem one_smul (a : Mat3 R) : smul 1 a = a := by
  simp only [smul, _root_.one_mul]

theorem trace_smul_one (c : R) : (smul c (one : Mat3 R)).trace = 3 * c := by
  simp only [trace, smul, one]; ring

theorem det_mul (a b : Mat3 R) : (a.mul b).det = a.det * b.det := by
  simp only [mul, det]; ring

theorem det_transpose (a : Mat3 R) : a.transpose.det = a.det := by
  simp only [transpose, det]; ring

theorem det_one : (one : Mat3 R).det = 1 := by
  simp only [det, one]; ring

theorem adj_transpose (a : Mat3 R) : a.transpose.adj = a.adj.transpose := by
  simp only [adj, transpose, mul_comm]

theorem mul_adj (a : Mat3 R) : a.mul a.adj = smul a.det one := by
  apply ext' <;> simp only [mul, adj, smul, one, det] <;> ring

theorem vecMul_mul (v : Vec3 R) (a b : Mat3 R) : vecMul (vecMul v a) b = vecMul v (a.mul b) := by
  apply Vec3.ext' <;> simp only [vecMul, mul] <;> ring

theorem ofRows_vecMul (r1 r2 r3 : Vec3 R) (b : Mat3 R) :
    ofRows (vecMul r1 b) (vecMul r2 b) (vecMul r3 b) = (ofRows r1 r2 r3).mul b := rfl

theorem vecMul_one (v : Vec3 R) : vecMul v one = v := by
  simp only [vecMul, one, _root_.mul_one, mul_zero, add_zero, zero_add]

theorem vecMul_sub (u v : Vec3 R) (a : Mat3 R) : vecMul (u.sub v) a = (vecMul u a).sub (vecMul v a) := by
  apply Vec3.ext' <;> simp only [vecMul, Vec3.sub] <;> ring

theorem adj_eq_cross (a : Mat3 R) :
    a.adj = (ofRows (a.row2.cross a.row3) (a.row3.cross a.row1) (a.row1.cross a.row2)).transpose := by
  simp only [adj, ofRows, transpose, Vec3.cross, row1, row2, row3, mul_comm]

theorem cross_vecMul (u v : Vec3 R) (b : Mat3 R) :
    (vecMul u b).cross (vecMul v b) = vecMul (u.cross v) b.adj.transpose := by
  apply Vec3.ext' <;> simp only [Vec3.cross, vecMul, adj, transpose] <;> ring

theorem mulVec_eq_vecMul (a : Mat3 R) (v : Vec3 R) : a.mulVec v = vecMul v a.transpose := by
  simp only [mulVec, vecMul, transpose, mul_comm]

theorem dot_vecMul (u w : Vec3 R) (a : Mat3 R) :
    Vec3.dot (vecMul u a) w = Vec3.dot u (vecMul w a.transpose) := by
  simp only [Vec3.dot, vecMul, transpose]; ring

/-! ### consequences -/

theorem mul_eq_ofRows (a b : Mat3 R) :
    a.mul b = ofRows (vecMul a.row1 b) (vecMul a.row2 b) (vecMul a.row3 b) :=
  (ofRows_vecMul a.row1 a.row2 a.row3 b).symm

/-- the rows of `a·b` are the rows of `a` acting on `b`, so associativity is `vecMul_mul` row by row -/
theorem mul_assoc (a b c : Mat3 R) : (a.mul b).mul c = a.mul (b.mul c) := by
  rw [mul_eq_ofRows (a.mul b), mul_eq_ofRows a (b.mul c), ← vecMul_mul, ← vecMul_mul, ← vecMul_mul]
  rfl

theorem adj_mul_rev (a b : Mat3 R) : (a.mul b).adj = b.adj.mul a.adj := by
  rw [adj_eq_cross (a.mul b), mul_eq_ofRows a b]
  show (ofRows ((vecMul a.row2 b).cross (vecMul a.row3 b)) ((vecMul a.row3 b).cross (vecMul a.row1 b))
    ((vecMul a.row1 b).cross (vecMul a.row2 b))).transpose = _
  rw [cross_vecMul, cross_vecMul, cross_vecMul, ofRows_vecMul, transpose_mul, transpose_transpose, ← adj_eq_cross]

theorem adj_mul (a : Mat3 R) : a.adj.mul a = smul a.det one := by
  have h := congrArg transpose (mul_adj a.transpose)
  rwa [transpose_mul, adj_transpose, det_transpose] at h

theorem transpose_mulVec (a : Mat3 R) (v : Vec3 R) : a.transpose.mulVec v = vecMul v a :=
  mulVec_eq_vecMul a.transpose v

theorem mulVec_mul (a b : Mat3 R) (v : Vec3 R) : (a.mul b).mulVec v = a.mulVec (b.mulVec v) := by
  rw [mulVec_eq_vecMul, mulVec_eq_vecMul, mulVec_eq_vecMul, transpose_mul, vecMul_mul]

theorem mulVec_one (v : Vec3 R) : (one : Mat3 R).mulVec v = v := by
  rw [mulVec_eq_vecMul, transpose_one, vecMul_one]

theorem mulVec_sub (a : Mat3 R) (u v : Vec3 R) : a.mulVec (u.sub v) = (a.mulVec u).sub (a.mulVec v) := by
  rw [mulVec_eq_vecMul, mulVec_eq_vecMul, mulVec_eq_vecMul, vecMul_sub]

theorem mulVec_add (a : Mat3 R) (u v : Vec3 R) : a.mulVec (u.add v) = (a.mulVec u).add (a.mulVec v) := by
  apply Vec3.ext' <;> simp only [mulVec, Vec3.add] <;> ring

theorem mulVec_zero (a : Mat3 R) : a.mulVec Vec3.zero = Vec3.zero := by
  simp only [mulVec, Vec3.zero, mul_zero, add_zero]

theorem mulVec_smul (a : Mat3 R) (c : R) (v : Vec3 R) : a.mulVec (Vec3.smul c v) = Vec3.smul c (a.mulVec v) := by
  apply Vec3.ext' <;> simp only [mulVec, Vec3.smul] <;> ring

theorem add_mulVec (a b : Mat3 R) (v : Vec3 R) : (a.add b).mulVec v = (a.mulVec v).add (b.mulVec v) := by
  apply Vec3.ext' <;> simp only [mulVec, add, Vec3.add] <;> ring

theorem dot_mulVec (a : Mat3 R) (x y : Vec3 R) :
    Vec3.dot (a.mulVec x) y = Vec3.dot x (a.transpose.mulVec y) := by
  rw [mulVec_eq_vecMul, mulVec_eq_vecMul, dot_vecMul]

theorem dot_vecMul_mulVec (f : Vec3 R) (a : Mat3 R) (v : Vec3 R) :
    Vec3.dot (vecMul f a) v = Vec3.dot f (a.mulVec v) := by
  rw [dot_vecMul, ← mulVec_eq_vecMul]

theorem left_inv_eq_right_inv {X G M : Mat3 R} (h1 : X.mul G = one) (h2 : G.mul M = one) : X = M := by
  rw [← mul_one X, ← h2, ← mul_assoc, h1, one_mul]

theorem gram_det (a : Mat3 R) : (a.mul a.transpose).det = a.det ^ 2 := by
  rw [det_mul, det_transpose, pow_two]

/-! ### symmetric matrices -/

theorem isSymm_iff_transpose (m : Mat3 R) : m.isSymm ↔ m.transpose = m := by
  cases m
  simp only [isSymm, transpose, Mat3.mk.injEq, true_and, and_true]
  tauto

theorem isSymm_one : (one : Mat3 R).isSymm := ⟨rfl, rfl, rfl⟩
theorem isSymm_zero : (zero : Mat3 R).isSymm := ⟨rfl, rfl, rfl⟩

theorem isSymm_smul {m : Mat3 R} (c : R) (h : m.isSymm) : (smul c m).isSymm := by
  rw [isSymm_iff_transpose] at h ⊢
  rw [transpose_smul, h]

theorem ext_of_isSymm {m n : Mat3 R} (hm : m.isSymm) (hn : n.isSymm) (h11 : m.a11 = n.a11) (h12 : m.a12 = n.a12)
    (h13 : m.a13 = n.a13) (h22 : m.a22 = n.a22) (h23 : m.a23 = n.a23) (h33 : m.a33 = n.a33) : m = n := by
  obtain ⟨m12, m13, m23⟩ := hm
  obtain ⟨n12, n13, n23⟩ := hn
  exact ext' h11 h12 h13 (by rw [← m12, ← n12, h12]) h22 h23 (by rw [← m13, ← n13, h13])
    (by rw [← m23, ← n23, h23]) h33

theorem isSymm_adj {m : Mat3 R} (h : m.isSymm) : m.adj.isSymm := by
  rw [isSymm_iff_transpose] at h ⊢
  rw [← adj_transpose, h]

theorem isSymm_transpose_mul_self (m : Mat3 R) : (m.transpose.mul m).isSymm := by
  rw [isSymm_iff_transpose, transpose_mul, transpose_transpose]

theorem isSymm_conj {u : Mat3 R} (t : Mat3 R) (h : u.isSymm) : (t.transpose.mul (u.mul t)).isSymm := by
  rw [isSymm_iff_transpose] at h ⊢
  rw [transpose_mul, transpose_mul, transpose_transpose, h, mul_assoc]

end ring

/-! ### inverses over a field

`inv` is the adjugate divided by the determinant (and `x / 0 = 0`), so the identities that do not
cancel the determinant need no side condition. -/
section field
variable {K : Type} [Field K]

theorem inv_eq_smul_adj (a : Mat3 K) : a.inv = smul a.det⁻¹ a.adj := by
  simp only [inv, smul, div_eq_inv_mul]

theorem mul_inv {a : Mat3 K} (h : a.det ≠ 0) : a.mul a.inv = one := by
  rw [inv_eq_smul_adj, mul_smul, mul_adj, smul_smul, inv_mul_cancel₀ h, one_smul]

theorem inv_mul {a : Mat3 K} (h : a.det ≠ 0) : a.inv.mul a = one := by
  rw [inv_eq_smul_adj, smul_mul, adj_mul, smul_smul, inv_mul_cancel₀ h, one_smul]

theorem inv_mul_rev (a b : Mat3 K) : (a.mul b).inv = b.inv.mul a.inv := by
  rw [inv_eq_smul_adj, inv_eq_smul_adj, inv_eq_smul_adj, smul_mul, mul_smul, smul_smul, adj_mul_rev, det_mul,
    _root_.mul_inv, mul_comm a.det⁻¹]

theorem inv_transpose (a : Mat3 K) : a.transpose.inv = a.inv.transpose := by
  rw [inv_eq_smul_adj, inv_eq_smul_adj, det_transpose, adj_transpose, transpose_smul]

theorem det_inv {a : Mat3 K} (h : a.det ≠ 0) : a.inv.det * a.det = 1 := by
  rw [← det_mul, inv_mul h, det_one]

theorem mul_eq_one_comm {a b : Mat3 K} (h : a.mul b = one) : b.mul a = one := by
  have hd : a.det ≠ 0 := fun h0 => by
    have e := congrArg det h
    rw [det_mul, h0, zero_mul, det_one] at e
    exact zero_ne_one e
  rw [← left_inv_eq_right_inv (inv_mul hd) h]
  exact inv_mul hd

theorem inv_inv {a : Mat3 K} (h : a.det ≠ 0) : a.inv.inv = a :=
  left_inv_eq_right_inv (inv_mul (left_ne_zero_of_mul_eq_one (det_inv h))) (inv_mul h)

theorem inv_diag {a b c : K} (ha : a ≠ 0) (hb : b ≠ 0) (hc : c ≠ 0) :
    (⟨a, 0, 0, 0, b, 0, 0, 0, c⟩ : Mat3 K).inv = ⟨1 / a, 0, 0, 0, 1 / b, 0, 0, 0, 1 / c⟩ := by
  have hd : a * (b * c) ≠ 0 := mul_ne_zero ha (mul_ne_zero hb hc)
  have h1 : b * c / (a * (b * c)) = 1 / a := by rw [div_eq_div_iff hd ha]; ring
  have h2 : a * c / (a * (b * c)) = 1 / b := by rw [div_eq_div_iff hd hb]; ring
  have h3 : a * b / (a * (b * c)) = 1 / c := by rw [div_eq_div_iff hd hc]; ring
  simp only [inv, det, adj, mul_zero, zero_mul, sub_zero, sub_self, add_zero, zero_div, h1, h2, h3]

end field
end Mat3
end DS

import DS.Model.Partition
import DS.Lemmas.Orbit
import Mathlib.Data.List.Nodup
import Mathlib.Data.List.Perm.Basic

/-!
Lemmas on the orbit partition of `SymmetryConstraints._findConstraints` (`DS.Model.Partition`):
"same orbit" is an equivalence relation for a group of operations, and the greedy partition
`partAux` / `coremap` splits the listing into exactly the classes of that relation.
-/
namespace DS
namespace Partition
open Orbit

/-! ### the relation "same orbit" -/

/-- `R ops k p q`: `q` is, modulo lattice translations, an image of `p` under an operation of `ops` -/
def R (ops : List Op) (k : Int) (p q : P3) : Prop := inOrbit ops k p q = true

instance (ops : List Op) (k : Int) (p q : P3) : Decidable (R ops k p q) := by
  unfold R; infer_instance

/-- two indices lie in the same member list of a `coremap` -/
def SameClass (cm : List (Nat × List Nat)) (i j : Nat) : Prop := ∃ e ∈ cm, i ∈ e.2 ∧ j ∈ e.2

/-- translation of a position by the lattice vector `v` (`24·k` units per lattice step) -/
def shiftBy (k : Int) (p v : P3) : P3 := (p.1 + 24 * k * v.1, p.2.1 + 24 * k * v.2.1, p.2.2 + 24 * k * v.2.2)

theorem redP_eq_red (k : Int) (x : P3) : redP k x = Orbit.red k x := rfl

theorem redP_redP (k : Int) (x : P3) : redP k (redP k x) = redP k x := by
  simp only [redP, Int.emod_emod_of_dvd _ (dvd_refl _)]

theorem redP_shiftBy (k : Int) (p v : P3) : redP k (shiftBy k p v) = redP k p := by
  simp only [redP, shiftBy, Int.add_mul_emod_self_left]

theorem inOrbit_iff {ops : List Op} {k : Int} {p q : P3} :
    inOrbit ops k p q = true ↔ ∃ g ∈ ops, img g k (0, 0, 0) p = redP k q := by
  simp [inOrbit, List.any_eq_true]

theorem R_iff {ops : List Op} {k : Int} {p q : P3} :
    R ops k p q ↔ ∃ g ∈ ops, img g k (0, 0, 0) p = redP k q := inOrbit_iff

theorem one_mem {ops : List Op} (hG : IsGroup ops) : Op.one ∈ ops :=
  List.mem_of_mem_head? (by rw [hG.one_first]; rfl)

theorem R_refl {ops : List Op} (hG : IsGroup ops) (k : Int) (p : P3) : R ops k p p :=
  R_iff.2 ⟨Op.one, one_mem hG, img_one k _ p⟩

theorem R_symm {ops : List Op} (hG : IsGroup ops) {k : Int} {p q : P3} (h : R ops k p q) :
    R ops k q p := by
  obtain ⟨g, hg, e⟩ := R_iff.1 h
  obtain ⟨gi, hgi, _, hig⟩ := hG.inv g hg
  refine R_iff.2 ⟨gi, hgi, ?_⟩
  have := congrArg (fun z => img gi k (0, 0, 0) z) e
  simp only [img_comp, hig, img_one, redP_eq_red, img_red] at this
  rw [redP_eq_red, this]

theorem R_trans {ops : List Op} (hG : IsGroup ops) {k : Int} {p q r : P3}
    (h₁ : R ops k p q) (h₂ : R ops k q r) : R ops k p r := by
  obtain ⟨g, hg, e₁⟩ := R_iff.1 h₁
  obtain ⟨h, hh, e₂⟩ := R_iff.1 h₂
  refine R_iff.2 ⟨h.comp g, hG.closed h hh g hg, ?_⟩
  rw [← img_comp, e₁, redP_eq_red, img_red, e₂]

theorem R_equivalence {ops : List Op} (hG : IsGroup ops) (k : Int) : Equivalence (R ops k) :=
  ⟨R_refl hG k, R_symm hG, R_trans hG⟩

/-- the relation only looks at positions modulo lattice translations (no group needed) -/
theorem inOrbit_red (ops : List Op) (k : Int) (p q : P3) :
    inOrbit ops k p q = inOrbit ops k (redP k p) (redP k q) := by
  rw [Bool.eq_iff_iff, inOrbit_iff, inOrbit_iff, redP_redP]; simp only [redP_eq_red, img_red]

theorem R_img {ops : List Op} {g : Op} (hg : g ∈ ops) (k : Int) (p : P3) :
    R ops k p (img g k (0, 0, 0) p) :=
  R_iff.2 ⟨g, hg, by rw [redP_eq_red, red_img]⟩

theorem inOrbit_img_left {ops : List Op} (hG : IsGroup ops) {g : Op} (hg : g ∈ ops) (k : Int) (p q : P3) :
    inOrbit ops k (img g k (0, 0, 0) p) q = inOrbit ops k p q := by
  rw [Bool.eq_iff_iff]
  exact ⟨fun h => R_trans hG (R_img hg k p) h, fun h => R_trans hG (R_symm hG (R_img hg k p)) h⟩

theorem inOrbit_img_right {ops : List Op} (hG : IsGroup ops) {g : Op} (hg : g ∈ ops) (k : Int) (p q : P3) :
    inOrbit ops k p (img g k (0, 0, 0) q) = inOrbit ops k p q := by
  rw [Bool.eq_iff_iff]
  exact ⟨fun h => R_trans hG h (R_symm hG (R_img hg k q)), fun h => R_trans hG h (R_img hg k q)⟩

/-! ### the greedy partition -/

section part
variable (ops : List Op) (k : Int)

theorem partAux_nil (fuel : Nat) : partAux ops k fuel [] = [] := by
  cases fuel <;> rfl

theorem partAux_cons (fuel : Nat) (i : Nat) (p : P3) (rest : List (Nat × P3)) :
    partAux ops k (fuel + 1) ((i, p) :: rest) =
      (i, i :: (rest.filter (fun q => inOrbit ops k p q.2)).map (·.1)) ::
        partAux ops k fuel (rest.filter (fun q => !inOrbit ops k p q.2)) := rfl

/-- induction along the recursion of `partAux` when the fuel suffices: a generator with its class is
split off, the rest of the partition is that of the positions outside the class -/
theorem partAux_induction {motive : List (Nat × P3) → List (Nat × List Nat) → Prop} (nil : motive [] [])
    (cons : ∀ i p rest r, motive (rest.filter (fun q => !inOrbit ops k p q.2)) r →
      motive ((i, p) :: rest) ((i, i :: (rest.filter (fun q => inOrbit ops k p q.2)).map (·.1)) :: r)) :
    ∀ (fuel : Nat) (l : List (Nat × P3)), l.length ≤ fuel → motive l (partAux ops k fuel l)
  | fuel, [], _ => by rw [partAux_nil]; exact nil
  | 0, _ :: _, h => absurd h (Nat.not_succ_le_zero _)
  | fuel + 1, (i, p) :: rest, h =>
    cons i p rest _ (partAux_induction nil cons fuel _
      (Nat.le_trans (List.length_filter_le _ _) (Nat.le_of_succ_le_succ h)))

theorem partAux_perm : ∀ (fuel : Nat) (l : List (Nat × P3)), l.length ≤ fuel →
    ((partAux ops k fuel l).flatMap (·.2)).Perm (l.map (·.1)) :=
  partAux_induction ops k (motive := fun l r => (r.flatMap Prod.snd).Perm (l.map Prod.fst))
    (List.Perm.refl _)
    fun i p rest r ih => by
      show (i :: ((rest.filter _).map Prod.fst ++ r.flatMap Prod.snd)).Perm (i :: rest.map Prod.fst)
      refine List.Perm.cons _ ((ih.append_left _).trans ?_)
      rw [← List.map_append]
      exact (List.filter_append_perm _ rest).map _

theorem partAux_fst_sublist : ∀ (fuel : Nat) (l : List (Nat × P3)), l.length ≤ fuel →
    ((partAux ops k fuel l).map (·.1)).Sublist (l.map (·.1)) :=
  partAux_induction ops k (motive := fun l r => (r.map Prod.fst).Sublist (l.map Prod.fst))
    (List.Sublist.refl _)
    fun _ _ _ _ ih => (ih.trans (List.filter_sublist.map _)).cons_cons _

theorem partAux_mem_sublist : ∀ (fuel : Nat) (l : List (Nat × P3)), l.length ≤ fuel →
    ∀ e ∈ partAux ops k fuel l, e.2.Sublist (l.map (·.1)) :=
  partAux_induction ops k (motive := fun l r => ∀ e ∈ r, e.2.Sublist (l.map Prod.fst))
    (fun _ he => nomatch he)
    fun _ _ _ _ ih e he => by
      rcases List.mem_cons.1 he with rfl | he
      · exact (List.filter_sublist.map _).cons_cons _
      · exact ((ih e he).trans (List.filter_sublist.map _)).cons _

theorem partAux_head : ∀ (fuel : Nat) (l : List (Nat × P3)), l.length ≤ fuel →
    ∀ e ∈ partAux ops k fuel l, e.2.head? = some e.1 :=
  partAux_induction ops k (motive := fun _ r => ∀ e ∈ r, e.2.head? = some e.1)
    (fun _ he => nomatch he)
    fun _ _ _ _ ih e he => by
      rcases List.mem_cons.1 he with rfl | he
      · rfl
      · exact ih e he

theorem partAux_class (hE : Equivalence (R ops k)) : ∀ (fuel : Nat) (l : List (Nat × P3)),
    l.length ≤ fuel → (l.map (·.1)).Nodup →
    ∀ e ∈ partAux ops k fuel l, ∃ pg, (e.1, pg) ∈ l ∧ ∀ a ∈ l, a.1 ∈ e.2 ↔ R ops k pg a.2
  | 0, l, _, _, e, he => by cases l <;> simp [partAux] at he
  | fuel + 1, [], _, _, e, he => by simp [partAux_nil] at he
  | fuel + 1, (i, p) :: rest, h, hnd, e, he => by
    rw [partAux_cons, List.mem_cons] at he
    rw [List.map_cons, List.nodup_cons] at hnd
    have hmemO : ∀ a, a ∈ rest.filter (fun q => !inOrbit ops k p q.2) ↔ a ∈ rest ∧ ¬ R ops k p a.2 := by
      intro a; simp [R]
    rcases he with rfl | he
    · refine ⟨p, List.mem_cons_self, ?_⟩
      intro a ha
      rcases List.mem_cons.1 ha with rfl | ha
      · simp only [List.mem_cons, true_or, true_iff]; exact hE.refl _
      · have hne : a.1 ≠ i := fun e => hnd.1 (by rw [← e]; exact List.mem_map_of_mem (f := (·.1)) ha)
        simp only [List.mem_cons, hne, false_or, List.mem_map, List.mem_filter]
        constructor
        · rintro ⟨b, ⟨hb, hR⟩, hba⟩
          have := List.inj_on_of_nodup_map hnd.2 hb ha hba
          subst this; exact hR
        · intro hR; exact ⟨a, ⟨ha, hR⟩, rfl⟩
    · have hlen : (rest.filter (fun q => !inOrbit ops k p q.2)).length ≤ fuel :=
        Nat.le_trans (List.length_filter_le _ _) (Nat.le_of_succ_le_succ h)
      have hndO : ((rest.filter (fun q => !inOrbit ops k p q.2)).map (·.1)).Nodup :=
        hnd.2.sublist (List.filter_sublist.map _)
      obtain ⟨pg, hpg, hcl⟩ := partAux_class hE fuel _ hlen hndO e he
      have hpg' := (hmemO _).1 hpg
      refine ⟨pg, List.mem_cons_of_mem _ hpg'.1, ?_⟩
      have hsub := (partAux_mem_sublist ops k fuel _ hlen e he).subset
      -- members of `e` are indices of the pairs of `rest` that are not in the orbit of `p`
      have hmem : ∀ a ∈ (i, p) :: rest, a.1 ∈ e.2 → a ∈ rest ∧ ¬ R ops k p a.2 := by
        intro a ha hin
        obtain ⟨b, hb, hba⟩ := List.mem_map.1 (hsub hin)
        have hb' := (hmemO b).1 hb
        rcases List.mem_cons.1 ha with rfl | ha
        · exact absurd (by rw [← hba]; exact List.mem_map_of_mem (f := (·.1)) hb'.1) hnd.1
        · have := List.inj_on_of_nodup_map hnd.2 hb'.1 ha hba
          subst this; exact hb'
      intro a ha
      constructor
      · intro hin
        exact (hcl a ((hmemO a).2 (hmem a ha hin))).1 hin
      · intro hR
        rcases List.mem_cons.1 ha with rfl | ha
        · exact absurd (hE.symm hR) hpg'.2
        · have hna : ¬ R ops k p a.2 := fun h' => hpg'.2 (hE.trans h' (hE.symm hR))
          exact (hcl a ((hmemO a).2 ⟨ha, hna⟩)).2 hR

theorem partAux_map_red : ∀ (fuel : Nat) (l : List (Nat × P3)),
    partAux ops k fuel (l.map (fun a => (a.1, redP k a.2))) = partAux ops k fuel l
  | 0, l => by cases l <;> rfl
  | fuel + 1, [] => rfl
  | fuel + 1, (i, p) :: rest => by
    rw [List.map_cons, partAux_cons, partAux_cons, List.filter_map, List.filter_map, List.map_map,
      partAux_map_red fuel]
    have h1 : ((fun q : Nat × P3 => inOrbit ops k (redP k p) q.2) ∘ fun a : Nat × P3 => (a.1, redP k a.2))
        = fun q => inOrbit ops k p q.2 := by
      funext q; simp only [Function.comp]; exact (inOrbit_red ops k p q.2).symm
    have h2 : ((fun q : Nat × P3 => !inOrbit ops k (redP k p) q.2) ∘ fun a : Nat × P3 => (a.1, redP k a.2))
        = fun q => !inOrbit ops k p q.2 := by
      funext q; simp only [Function.comp]; rw [← inOrbit_red ops k p q.2]
    rw [h1, h2]
    rfl

end part

/-! ### `coremap` -/

/-- the (index, position) pairs `coremap` works on -/
def idxList (positions : List P3) : List (Nat × P3) := positions.zipIdx.map (fun pi => (pi.2, pi.1))

section core
variable (ops : List Op) (k : Int) (positions : List P3)

theorem coremap_eq : coremap ops k positions = partAux ops k positions.length (idxList positions) := rfl

theorem idxList_length : (idxList positions).length = positions.length := by simp [idxList]

theorem idxList_length_le : (idxList positions).length ≤ positions.length := (idxList_length positions).le

theorem idxList_fst : (idxList positions).map (·.1) = List.range positions.length := by
  simp only [idxList, List.map_map]
  rw [show ((fun a : Nat × P3 => a.1) ∘ fun pi : P3 × Nat => (pi.2, pi.1)) = Prod.snd from rfl,
    List.zipIdx_map_snd, List.range_eq_range']

theorem mem_idxList {a : Nat × P3} : a ∈ idxList positions ↔ positions[a.1]? = some a.2 := by
  simp only [idxList, List.mem_map, List.mem_zipIdx_iff_getElem?]
  constructor
  · rintro ⟨b, hb, rfl⟩; exact hb
  · intro h; exact ⟨(a.2, a.1), h, rfl⟩

theorem mem_idxList_of_lt {j : Nat} (hj : j < positions.length) : (j, positions[j]) ∈ idxList positions :=
  (mem_idxList positions).2 (List.getElem?_eq_getElem hj)

/-- the member lists list every index `0 … n-1` exactly once -/
theorem coremap_perm : ((coremap ops k positions).flatMap (·.2)).Perm (List.range positions.length) := by
  rw [← idxList_fst]
  exact partAux_perm ops k _ _ (idxList_length_le positions)

theorem coremap_mem_lt {e : Nat × List Nat} (he : e ∈ coremap ops k positions) {j : Nat} (hj : j ∈ e.2) :
    j < positions.length := by
  have := (partAux_mem_sublist ops k _ _ (idxList_length_le positions) e he).subset hj
  rw [idxList_fst] at this
  exact List.mem_range.1 this

theorem coremap_exists_class {i : Nat} (hi : i < positions.length) :
    ∃ e ∈ coremap ops k positions, i ∈ e.2 := by
  have := (coremap_perm ops k positions).symm.subset (List.mem_range.2 hi)
  obtain ⟨e, he, hie⟩ := List.mem_flatMap.1 this
  exact ⟨e, he, hie⟩

theorem coremap_members_sorted {e : Nat × List Nat} (he : e ∈ coremap ops k positions) :
    e.2.Pairwise (· < ·) := by
  have := partAux_mem_sublist ops k _ _ (idxList_length_le positions) e he
  rw [idxList_fst] at this
  exact List.pairwise_lt_range.sublist this

theorem coremap_generators_sorted : ((coremap ops k positions).map (·.1)).Pairwise (· < ·) := by
  have := partAux_fst_sublist ops k _ _ (idxList_length_le positions)
  rw [idxList_fst] at this
  exact List.pairwise_lt_range.sublist this

theorem coremap_head {e : Nat × List Nat} (he : e ∈ coremap ops k positions) : e.2.head? = some e.1 :=
  partAux_head ops k _ _ (idxList_length_le positions) e he

theorem coremap_gen_mem {e : Nat × List Nat} (he : e ∈ coremap ops k positions) : e.1 ∈ e.2 :=
  List.mem_of_mem_head? (by rw [coremap_head ops k positions he]; rfl)

/-- the generator is the least member -/
theorem coremap_gen_le {e : Nat × List Nat} (he : e ∈ coremap ops k positions) {j : Nat} (hj : j ∈ e.2) :
    e.1 ≤ j := by
  have hs := coremap_members_sorted ops k positions he
  have hh := coremap_head ops k positions he
  obtain ⟨g, ms⟩ := e
  cases ms with
  | nil => simp at hj
  | cons a as =>
    simp only [List.head?_cons, Option.some.injEq] at hh
    subst hh
    rcases List.mem_cons.1 hj with rfl | hj
    · exact Nat.le_refl _
    · exact Nat.le_of_lt ((List.pairwise_cons.1 hs).1 j hj)

theorem coremap_disjoint : ((coremap ops k positions).map (·.2)).Pairwise List.Disjoint := by
  have hnd : ((coremap ops k positions).flatMap (·.2)).Nodup :=
    (coremap_perm ops k positions).nodup_iff.2 List.nodup_range
  rw [List.pairwise_map]
  exact (List.nodup_flatMap.1 hnd).2

/-- the class of a generator consists of exactly the listed positions in its orbit -/
theorem coremap_class (hE : Equivalence (R ops k)) {e : Nat × List Nat} (he : e ∈ coremap ops k positions) :
    ∃ hg : e.1 < positions.length, ∀ (j : Nat) (hj : j < positions.length),
      j ∈ e.2 ↔ R ops k positions[e.1] positions[j] := by
  have hnd : ((idxList positions).map (·.1)).Nodup := by rw [idxList_fst]; exact List.nodup_range
  obtain ⟨pg, hpg, hcl⟩ := partAux_class ops k hE _ _ (idxList_length_le positions) hnd e he
  obtain ⟨hg, hpg'⟩ := List.getElem?_eq_some_iff.1 ((mem_idxList positions).1 hpg)
  simp only at hpg'
  refine ⟨hg, fun j hj => ?_⟩
  rw [hpg']
  exact hcl (j, positions[j]) (mem_idxList_of_lt positions hj)

/-- two listed indices share a member list iff their positions are in the same orbit -/
theorem sameClass_iff (hE : Equivalence (R ops k)) {i j : Nat} (hi : i < positions.length)
    (hj : j < positions.length) :
    SameClass (coremap ops k positions) i j ↔ R ops k positions[i] positions[j] := by
  constructor
  · rintro ⟨e, he, hie, hje⟩
    obtain ⟨hg, hcl⟩ := coremap_class ops k positions hE he
    exact hE.trans (hE.symm ((hcl i hi).1 hie)) ((hcl j hj).1 hje)
  · intro hR
    obtain ⟨e, he, hie⟩ := coremap_exists_class ops k positions hi
    obtain ⟨hg, hcl⟩ := coremap_class ops k positions hE he
    exact ⟨e, he, hie, (hcl j hj).2 (hE.trans ((hcl i hi).1 hie) hR)⟩

/-- a generator is the first listed position of its orbit -/
theorem coremap_gen_first (hE : Equivalence (R ops k)) {e : Nat × List Nat} (he : e ∈ coremap ops k positions)
    {j : Nat} (hj : j < positions.length) (hg : e.1 < positions.length)
    (hR : R ops k positions[j] positions[e.1]) : e.1 ≤ j := by
  obtain ⟨_, hcl⟩ := coremap_class ops k positions hE he
  exact coremap_gen_le ops k positions he ((hcl j hj).2 (hE.symm hR))

/-- index `i` is the first listed position of its orbit -/
def firstOfOrbit (i : Nat) : Bool :=
  (List.range i).all (fun j => !inOrbit ops k (positions.getD j (0, 0, 0)) (positions.getD i (0, 0, 0)))

theorem firstOfOrbit_iff {i : Nat} (hi : i < positions.length) :
    firstOfOrbit ops k positions i = true ↔
      ∀ (j : Nat) (hj : j < i), ¬ R ops k (positions[j]'(Nat.lt_trans hj hi)) positions[i] := by
  simp only [firstOfOrbit, List.all_eq_true, List.mem_range, Bool.not_eq_true', R, Bool.not_eq_true]
  constructor
  · intro h j hj
    have := h j hj
    rwa [List.getD_eq_getElem _ _ (Nat.lt_trans hj hi), List.getD_eq_getElem _ _ hi] at this
  · intro h j hj
    rw [List.getD_eq_getElem _ _ (Nat.lt_trans hj hi), List.getD_eq_getElem _ _ hi]
    exact h j hj

/-- the generators are exactly the indices that are first of their orbit, in listing order -/
theorem coremap_generators_eq (hE : Equivalence (R ops k)) :
    (coremap ops k positions).map (·.1) =
      (List.range positions.length).filter (firstOfOrbit ops k positions) := by
  have hs₁ := coremap_generators_sorted ops k positions
  have hs₂ : ((List.range positions.length).filter (firstOfOrbit ops k positions)).Pairwise (· < ·) :=
    List.pairwise_lt_range.sublist List.filter_sublist
  refine List.Perm.eq_of_pairwise (fun a b _ _ h₁ h₂ => absurd h₁ (Nat.lt_asymm h₂)) hs₁ hs₂ ?_
  rw [List.perm_ext_iff_of_nodup (hs₁.imp Nat.ne_of_lt) (hs₂.imp Nat.ne_of_lt)]
  intro g
  simp only [List.mem_map, List.mem_filter, List.mem_range]
  constructor
  · rintro ⟨e, he, rfl⟩
    obtain ⟨hg, _⟩ := coremap_class ops k positions hE he
    refine ⟨hg, (firstOfOrbit_iff ops k positions hg).2 fun j hj hR => ?_⟩
    exact absurd (coremap_gen_first ops k positions hE he (Nat.lt_trans hj hg) hg hR) (Nat.not_le.2 hj)
  · rintro ⟨hg, hf⟩
    obtain ⟨e, he, hge⟩ := coremap_exists_class ops k positions hg
    obtain ⟨hg', hcl⟩ := coremap_class ops k positions hE he
    refine ⟨e, he, ?_⟩
    rcases Nat.lt_or_eq_of_le (coremap_gen_le ops k positions he hge) with hlt | heq
    · exact absurd ((hcl g hg).1 hge) ((firstOfOrbit_iff ops k positions hg).1 hf e.1 hlt)
    · exact heq

end core

/-! ### invariance under lattice translations -/

theorem coremap_map_red (ops : List Op) (k : Int) (positions : List P3) :
    coremap ops k (positions.map (redP k)) = coremap ops k positions := by
  rw [coremap_eq, coremap_eq, List.length_map, ← partAux_map_red ops k _ (idxList positions)]
  congr 1
  simp only [idxList, List.zipIdx_map, List.map_map]
  rfl

theorem coremap_congr_red (ops : List Op) (k : Int) {positions positions' : List P3}
    (h : positions'.map (redP k) = positions.map (redP k)) :
    coremap ops k positions' = coremap ops k positions := by
  rw [← coremap_map_red ops k positions', h, coremap_map_red]

theorem map_red_zipWith_shiftBy (k : Int) : ∀ (positions shifts : List P3), positions.length ≤ shifts.length →
    (List.zipWith (shiftBy k) positions shifts).map (redP k) = positions.map (redP k)
  | [], _, _ => by simp
  | p :: ps, [], h => by simp at h
  | p :: ps, v :: vs, h => by
    simp only [List.zipWith_cons_cons, List.map_cons, redP_shiftBy,
      map_red_zipWith_shiftBy k ps vs (Nat.le_of_succ_le_succ h)]

/-! ### counting classes: two transversals of the same classes have the same length -/

theorem length_le_of_matching {α β : Type} [DecidableEq β] (r : α → β → Prop) :
    ∀ (T₁ : List α) (T₂ : List β), T₁.Pairwise (fun a a' => ∀ b ∈ T₂, r a b → ¬ r a' b) →
      (∀ a ∈ T₁, ∃ b ∈ T₂, r a b) → T₁.length ≤ T₂.length
  | [], _, _, _ => Nat.zero_le _
  | a :: T₁, T₂, hp, hex => by
    obtain ⟨b, hb, hab⟩ := hex a List.mem_cons_self
    rw [List.pairwise_cons] at hp
    have hp' : T₁.Pairwise (fun a a' => ∀ b' ∈ T₂.erase b, r a b' → ¬ r a' b') :=
      hp.2.imp (fun h b' hb' => h b' (List.mem_of_mem_erase hb'))
    have hex' : ∀ a' ∈ T₁, ∃ b' ∈ T₂.erase b, r a' b' := by
      intro a' ha'
      obtain ⟨b', hb', hab'⟩ := hex a' (List.mem_cons_of_mem _ ha')
      have hne : b' ≠ b := by
        rintro rfl
        exact hp.1 a' ha' b' hb hab hab'
      exact ⟨b', (List.mem_erase_of_ne hne).2 hb', hab'⟩
    have ih := length_le_of_matching r T₁ (T₂.erase b) hp' hex'
    rw [List.length_erase_of_mem hb] at ih
    have : 0 < T₂.length := List.length_pos_of_mem hb
    simp only [List.length_cons]
    omega

/-- a listing whose positions all occur in a second listing has at most as many classes -/
theorem coremap_length_le (ops : List Op) (k : Int) (hE : Equivalence (R ops k)) {positions positions' : List P3}
    (hsub : positions ⊆ positions') :
    (coremap ops k positions).length ≤ (coremap ops k positions').length := by
  refine length_le_of_matching
    (fun e e' => R ops k (positions.getD e.1 (0, 0, 0)) (positions'.getD e'.1 (0, 0, 0))) _ _ ?_ ?_
  · have hs := coremap_generators_sorted ops k positions
    rw [List.pairwise_map] at hs
    refine hs.imp_of_mem ?_
    intro e₁ e₂ he₁ he₂ hlt e' _ h₁ h₂
    obtain ⟨hg₁, _⟩ := coremap_class ops k positions hE he₁
    obtain ⟨hg₂, _⟩ := coremap_class ops k positions hE he₂
    have hR := hE.trans h₁ (hE.symm h₂)
    rw [List.getD_eq_getElem _ _ hg₁, List.getD_eq_getElem _ _ hg₂] at hR
    exact absurd (coremap_gen_first ops k positions hE he₂ hg₁ hg₂ hR) (Nat.not_le.2 hlt)
  · intro e he
    obtain ⟨hg, _⟩ := coremap_class ops k positions hE he
    obtain ⟨i', hi', hpi'⟩ := List.getElem_of_mem (hsub (List.getElem_mem hg))
    obtain ⟨e', he', hie'⟩ := coremap_exists_class ops k positions' hi'
    obtain ⟨hg', hcl'⟩ := coremap_class ops k positions' hE he'
    refine ⟨e', he', ?_⟩
    show R ops k (positions.getD e.1 (0, 0, 0)) (positions'.getD e'.1 (0, 0, 0))
    rw [List.getD_eq_getElem _ _ hg, List.getD_eq_getElem _ _ hg', ← hpi']
    exact hE.symm ((hcl' i' hi').1 hie')

end Partition
end DS

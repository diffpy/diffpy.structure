import DS.Model.SymText
/-!
Lemmas about the operator-text scanner (property C17a; also used by the source tie of `getSymOp`).  Core Lean only.
-/
namespace DS.SymText

/-! ### characters

`Char.toLower` / `Char.toUpper` move the 26 letters of one case by 32 and nothing else; the facts below about signs,
digits and axis letters are arithmetic on the character codes. -/

theorem toLower_code (c : Char) :
    (65 ≤ c.toNat ∧ c.toNat ≤ 90 ∧ c.toLower.toNat = c.toNat + 32) ∨
      (¬(65 ≤ c.toNat ∧ c.toNat ≤ 90) ∧ c.toLower.toNat = c.toNat) := by
  unfold Char.toLower
  split
  · rename_i h
    refine Or.inl ⟨h.1, h.2, ?_⟩
    show (c.val + ('a'.val - 'A'.val)).toNat = _
    rw [UInt32.toNat_add]
    show (c.toNat + 32) % 2 ^ 32 = _
    have : c.toNat ≤ 90 := h.2
    omega
  · rename_i h
    exact Or.inr ⟨h, rfl⟩

theorem toUpper_code (c : Char) :
    (97 ≤ c.toNat ∧ c.toNat ≤ 122 ∧ c.toUpper.toNat = c.toNat - 32) ∨
      (¬(97 ≤ c.toNat ∧ c.toNat ≤ 122) ∧ c.toUpper.toNat = c.toNat) := by
  unfold Char.toUpper
  split
  · rename_i h
    refine Or.inl ⟨h.1, h.2, ?_⟩
    show (c.val + ('A'.val - 'a'.val)).toNat = _
    rw [UInt32.toNat_add]
    -- `'A'.val - 'a'.val` wraps around in `UInt32`: it is `2 ^ 32 - 32`
    show (c.toNat + 4294967264) % 2 ^ 32 = _
    have : 97 ≤ c.toNat ∧ c.toNat ≤ 122 := h
    omega
  · rename_i h
    exact Or.inr ⟨h, rfl⟩

theorem isDigit_iff (c : Char) : c.isDigit = true ↔ 48 ≤ c.toNat ∧ c.toNat ≤ 57 := by
  simp only [Char.isDigit, Bool.and_eq_true, decide_eq_true_eq]; exact Iff.rfl

theorem isSign_iff (c : Char) : isSign c = true ↔ c.toNat = 43 ∨ c.toNat = 45 := by
  simp only [isSign, Bool.or_eq_true, decide_eq_true_eq, ← Char.toNat_inj]; exact Iff.rfl

theorem axisOf_eq_some {c : Char} {a : Nat} (h : axisOf c = some a) :
    (c = 'x' ∧ a = 0) ∨ (c = 'y' ∧ a = 1) ∨ (c = 'z' ∧ a = 2) := by
  unfold axisOf at h
  split at h
  · rename_i hc; cases h; exact Or.inl ⟨hc, rfl⟩
  · split at h
    · rename_i hc; cases h; exact Or.inr (Or.inl ⟨hc, rfl⟩)
    · split at h
      · rename_i hc; cases h; exact Or.inr (Or.inr ⟨hc, rfl⟩)
      · cases h

theorem axisOf_isSome_iff (c : Char) : (axisOf c).isSome = true ↔ 120 ≤ c.toNat ∧ c.toNat ≤ 122 := by
  constructor
  · intro h
    obtain ⟨a, ha⟩ := Option.isSome_iff_exists.mp h
    rcases axisOf_eq_some ha with ⟨rfl, _⟩ | ⟨rfl, _⟩ | ⟨rfl, _⟩ <;> decide
  · intro h
    have hc : c = 'x' ∨ c = 'y' ∨ c = 'z' := by
      simp only [← Char.toNat_inj, Char.reduceToNat]; omega
    rcases hc with rfl | rfl | rfl <;> rfl

theorem toLower_eq_iff {c d : Char} (hd : d.toNat < 65) : c.toLower = d ↔ c = d := by
  have := toLower_code c
  rw [← Char.toNat_inj, ← Char.toNat_inj]
  omega

theorem isSign_toLower (c : Char) : isSign c.toLower = isSign c := by
  have := toLower_code c
  rw [Bool.eq_iff_iff, isSign_iff, isSign_iff]
  omega

theorem isDigit_toLower (c : Char) : c.toLower.isDigit = c.isDigit := by
  have := toLower_code c
  rw [Bool.eq_iff_iff, isDigit_iff, isDigit_iff]
  omega

theorem toLower_of_isDigit {c : Char} (h : c.isDigit = true) : c.toLower = c := by
  have := toLower_code c
  rw [isDigit_iff] at h
  rw [← Char.toNat_inj]
  omega

/-! ### the literal scanner -/

theorem takeWhile_all {p : Char → Bool} : ∀ l : List Char, (∀ c ∈ l, p c = true) → l.takeWhile p = l
  | [], _ => rfl
  | c :: l, h => by
    have hc : p c = true := h c (by simp)
    simp only [List.takeWhile_cons, hc, if_true]
    rw [takeWhile_all l (fun d hd => h d (by simp [hd]))]

theorem dropWhile_all {p : Char → Bool} : ∀ l : List Char, (∀ c ∈ l, p c = true) → l.dropWhile p = []
  | [], _ => rfl
  | c :: l, h => by
    have hc : p c = true := h c (by simp)
    simp only [List.dropWhile_cons, hc, if_true]
    exact dropWhile_all l (fun d hd => h d (by simp [hd]))

theorem mem_takeWhile {p : Char → Bool} {l : List Char} {c : Char} (h : c ∈ l.takeWhile p) : p c = true :=
  List.all_eq_true.mp List.all_takeWhile c h

/-- `scanLit` after the split into the integer digits and the rest -/
def litOf (ip r1 : List Char) : Option (Frac × List Char) :=
  match r1 with
  | '.' :: r2 =>
    let fp := r2.takeWhile Char.isDigit
    if ip.isEmpty && fp.isEmpty then none
    else some (⟨digitsVal (ip ++ fp), 10 ^ fp.length⟩, r2.dropWhile Char.isDigit)
  | _ => if ip.isEmpty then none else some (⟨digitsVal ip, 1⟩, r1)

theorem scanLit_eq (s : List Char) : scanLit s = litOf (s.takeWhile Char.isDigit) (s.dropWhile Char.isDigit) := rfl

theorem litOf_dot (ip r2 : List Char) : litOf ip ('.' :: r2) =
    if ip.isEmpty && (r2.takeWhile Char.isDigit).isEmpty then none
    else some (⟨digitsVal (ip ++ r2.takeWhile Char.isDigit), 10 ^ (r2.takeWhile Char.isDigit).length⟩,
      r2.dropWhile Char.isDigit) := rfl

theorem litOf_nil (ip : List Char) : litOf ip [] = if ip.isEmpty then none else some (⟨digitsVal ip, 1⟩, []) := rfl

theorem litOf_other (ip : List Char) {d : Char} (r2 : List Char) (hd : d ≠ '.') :
    litOf ip (d :: r2) = if ip.isEmpty then none else some (⟨digitsVal ip, 1⟩, d :: r2) := by
  unfold litOf
  split
  · rename_i h; cases h; exact absurd rfl hd
  · rfl

theorem scanLit_build_dot (ip fp : List Char) (hip : ∀ c ∈ ip, c.isDigit = true)
    (hfp : ∀ c ∈ fp, c.isDigit = true) (hne : (ip.isEmpty && fp.isEmpty) = false) :
    scanLit (ip ++ '.' :: fp) = some (⟨digitsVal (ip ++ fp), 10 ^ fp.length⟩, []) := by
  have hdot : Char.isDigit '.' = false := by decide
  have ht : (ip ++ '.' :: fp).takeWhile Char.isDigit = ip := by
    rw [List.takeWhile_append_of_pos hip]; simp [hdot]
  have hd : (ip ++ '.' :: fp).dropWhile Char.isDigit = '.' :: fp := by
    rw [List.dropWhile_append_of_pos hip]; simp [hdot]
  rw [scanLit_eq, ht, hd, litOf_dot, takeWhile_all _ hfp, dropWhile_all _ hfp, hne]
  rfl

theorem scanLit_build_int (ip : List Char) (hip : ∀ c ∈ ip, c.isDigit = true) (hne : ip.isEmpty = false) :
    scanLit ip = some (⟨digitsVal ip, 1⟩, []) := by
  rw [scanLit_eq, takeWhile_all _ hip, dropWhile_all _ hip, litOf_nil, hne]
  rfl

theorem scanLit_shape {s r : List Char} {v : Frac} (h : scanLit s = some (v, r)) :
    ∃ pre, s = pre ++ r ∧ pre ≠ [] ∧ (∀ c ∈ pre, c.isDigit = true ∨ c = '.') ∧
      scanLit pre = some (v, []) ∧ 0 ≤ v.num ∧ 0 < v.den := by
  have hsplit : s = s.takeWhile Char.isDigit ++ s.dropWhile Char.isDigit :=
    (List.takeWhile_append_dropWhile (p := Char.isDigit) (l := s)).symm
  have hip : ∀ c ∈ s.takeWhile Char.isDigit, c.isDigit = true := fun c hc => mem_takeWhile hc
  rw [scanLit_eq] at h
  generalize s.takeWhile Char.isDigit = ip at h hsplit hip
  generalize s.dropWhile Char.isDigit = r1 at h hsplit
  by_cases hd : ∃ r2, r1 = '.' :: r2
  · obtain ⟨r2, rfl⟩ := hd
    have hfp : ∀ c ∈ r2.takeWhile Char.isDigit, c.isDigit = true := fun c hc => mem_takeWhile hc
    rw [litOf_dot] at h
    split at h
    · cases h
    · rename_i hne
      cases h
      refine ⟨ip ++ '.' :: r2.takeWhile Char.isDigit, ?_, by simp, ?_, ?_, Int.natCast_nonneg _,
        Nat.pow_pos (by decide)⟩
      · rw [hsplit, List.append_assoc, List.cons_append, List.takeWhile_append_dropWhile]
      · intro c hc
        simp only [List.mem_append, List.mem_cons] at hc
        rcases hc with hc | rfl | hc
        · exact Or.inl (hip c hc)
        · exact Or.inr rfl
        · exact Or.inl (hfp c hc)
      · exact scanLit_build_dot _ _ hip hfp (by simpa using hne)
  · have hlit : litOf ip r1 = if ip.isEmpty then none else some (⟨digitsVal ip, 1⟩, r1) := by
      cases r1 with
      | nil => rfl
      | cons d r2 => exact litOf_other ip r2 (fun e => hd ⟨r2, by rw [e]⟩)
    rw [hlit] at h
    split at h
    · cases h
    · rename_i hne
      cases h
      refine ⟨ip, hsplit, ?_, fun c hc => Or.inl (hip c hc), ?_, Int.natCast_nonneg _, Nat.one_pos⟩
      · intro h0; rw [h0] at hne; exact hne rfl
      · exact scanLit_build_int _ hip (by simpa using hne)

theorem length_lt_of_append {pre r s : List Char} (hs : s = pre ++ r) (hne : pre ≠ []) : r.length < s.length := by
  have := List.length_pos_iff.mpr hne
  rw [hs, List.length_append]; omega

theorem take_of_append {m r s : List Char} (hs : s = m ++ r) : s.take (s.length - r.length) = m := by
  rw [hs, List.length_append, Nat.add_sub_cancel, List.take_left']
  rfl

theorem scanLit_lt {cs r : List Char} {v : Frac} (h : scanLit cs = some (v, r)) : r.length < cs.length := by
  obtain ⟨pre, hs, hne, _⟩ := scanLit_shape h
  exact length_lt_of_append hs hne

end DS.SymText

/-! ### the quotient scanner by cases (`quotOf`; declared in the namespace `DS.SrcSymOp5`) -/
namespace DS.SrcSymOp5
open DS.SymText

/-- `scanQuot` after the numerator -/
def quotOf (a : Frac) (r : List Char) : Option (Frac × List Char) :=
  match r with
  | '/' :: r' =>
    match scanLit r' with
    | none => none
    | some (b, r'') => if b.num ≤ 0 then none else some (a.div b, r'')
  | _ => some (a, r)

theorem scanQuot_eq (s : List Char) : scanQuot s =
    match scanLit s with
    | none => none
    | some (a, r) => quotOf a r := rfl

theorem quotOf_slash (a : Frac) (r' : List Char) : quotOf a ('/' :: r') =
    match scanLit r' with
    | none => none
    | some (b, r'') => if b.num ≤ 0 then none else some (a.div b, r'') := rfl

theorem quotOf_nil (a : Frac) : quotOf a [] = some (a, []) := rfl

theorem quotOf_other (a : Frac) {d : Char} (r' : List Char) (hd : d ≠ '/') :
    quotOf a (d :: r') = some (a, d :: r') := by
  unfold quotOf
  split
  · rename_i h; cases h; exact absurd rfl hd
  · rfl

end DS.SrcSymOp5

namespace DS.SymText
open DS.SrcSymOp5

theorem digit_alpha {c : Char} (h : c.isDigit = true) : inAlphabet c = true := by
  simp [inAlphabet, h]

theorem litChar_alpha {c : Char} (h : c.isDigit = true ∨ c = '.') : inAlphabet c = true := by
  rcases h with h | rfl
  · exact digit_alpha h
  · decide

theorem scanQuot_prefix {cs r : List Char} {v : Frac} (h : scanQuot cs = some (v, r)) :
    ∃ pre, cs = pre ++ r ∧ pre ≠ [] ∧ (∀ c ∈ pre, inAlphabet c = true) ∧ 0 < v.den := by
  rw [scanQuot_eq] at h
  split at h
  · cases h
  · rename_i a r1 ha
    obtain ⟨p1, hp1, hne1, hal1, _, _, hd1⟩ := scanLit_shape ha
    by_cases hsl : ∃ r', r1 = '/' :: r'
    · obtain ⟨r', rfl⟩ := hsl
      rw [quotOf_slash] at h
      split at h
      · cases h
      · rename_i b r'' hb
        obtain ⟨p2, hp2, _, hal2, _, _, _⟩ := scanLit_shape hb
        split at h
        · cases h
        · rename_i hpos
          cases h
          refine ⟨p1 ++ '/' :: p2, ?_, by simp, ?_, ?_⟩
          · rw [hp1, hp2]; simp
          · intro c hc
            simp only [List.mem_append, List.mem_cons] at hc
            rcases hc with hc | rfl | hc
            · exact litChar_alpha (hal1 c hc)
            · decide
            · exact litChar_alpha (hal2 c hc)
          · have : 0 < b.num.toNat := by omega
            exact Nat.mul_pos hd1 this
    · have hq : quotOf a r1 = some (a, r1) := by
        cases r1 with
        | nil => rfl
        | cons d r2 => exact quotOf_other a r2 (fun e => hsl ⟨r2, by rw [e]⟩)
      rw [hq] at h
      cases h
      exact ⟨p1, hp1, hne1, fun c hc => litChar_alpha (hal1 c hc), hd1⟩

theorem scanQuot_lt {cs r : List Char} {v : Frac} (h : scanQuot cs = some (v, r)) : r.length < cs.length := by
  obtain ⟨pre, hs, hne, _⟩ := scanQuot_prefix h
  exact length_lt_of_append hs hne

theorem axis_alpha {c : Char} {a : Nat} (h : axisOf c = some a) : inAlphabet c = true := by
  rcases axisOf_eq_some h with ⟨rfl, _⟩ | ⟨rfl, _⟩ | ⟨rfl, _⟩ <;> decide

theorem sign_alpha {c : Char} (h : isSign c = true) : inAlphabet c = true := by
  simp only [isSign, Bool.or_eq_true, decide_eq_true_eq] at h
  rcases h with rfl | rfl <;> decide

/-- all denominators of the numbers of a token list are positive -/
def TokOK : List Tok → Prop
  | [] => True
  | .var _ _ :: r => TokOK r
  | .num v :: r => 0 < v.den ∧ TokOK r

/-- an accepted component consists of alphabet characters only, and its numbers are well formed -/
theorem scanRow_alphabet : ∀ (fuel : Nat) (first : Bool) (cs : List Char) (toks : List Tok),
    scanRow fuel first cs = some toks → (∀ c ∈ cs, inAlphabet c = true) ∧ TokOK toks := by
  intro fuel
  induction fuel with
  | zero => intro first cs toks h; cases h
  | succ n ih =>
    intro first cs toks h
    unfold scanRow at h
    split at h
    · cases h; exact ⟨fun _ hc => (nomatch hc), trivial⟩
    · rename_i c rest
      split at h
      · rename_i a ha
        obtain ⟨t, ht, rfl⟩ := Option.map_eq_some_iff.mp h
        obtain ⟨h1, h2⟩ := ih _ _ _ ht
        exact ⟨List.forall_mem_cons.mpr ⟨axis_alpha ha, h1⟩, h2⟩
      · split at h
        · rename_i hs
          split at h
          · cases h
          · rename_i d rest'
            split at h
            · rename_i a ha
              obtain ⟨t, ht, rfl⟩ := Option.map_eq_some_iff.mp h
              obtain ⟨h1, h2⟩ := ih _ _ _ ht
              exact ⟨List.forall_mem_cons.mpr ⟨sign_alpha hs, List.forall_mem_cons.mpr ⟨axis_alpha ha, h1⟩⟩, h2⟩
            · split at h
              · cases h
              · rename_i v r hq
                obtain ⟨t, ht, rfl⟩ := Option.map_eq_some_iff.mp h
                obtain ⟨h1, h2⟩ := ih _ _ _ ht
                obtain ⟨pre, hpre, _, hal, hden⟩ := scanQuot_prefix hq
                refine ⟨List.forall_mem_cons.mpr ⟨sign_alpha hs, ?_⟩, ?_, h2⟩
                · rw [hpre]; exact List.forall_mem_append.mpr ⟨hal, h1⟩
                · split
                  · exact hden
                  · exact hden
        · split at h
          · split at h
            · cases h
            · rename_i v r hq
              obtain ⟨t, ht, rfl⟩ := Option.map_eq_some_iff.mp h
              obtain ⟨h1, h2⟩ := ih _ _ _ ht
              obtain ⟨pre, hpre, _, hal, hden⟩ := scanQuot_prefix hq
              refine ⟨?_, hden, h2⟩
              rw [hpre]; exact List.forall_mem_append.mpr ⟨hal, h1⟩
          · cases h

theorem rowConst_den_pos : ∀ toks : List Tok, TokOK toks → 0 < (rowConst toks).den
  | [], _ => by decide
  | .var _ _ :: r, h => rowConst_den_pos r h
  | .num v :: r, h => by
    simp only [rowConst, Frac.add]
    exact Nat.mul_pos h.1 (rowConst_den_pos r h.2)

theorem fract_range (a : Frac) (h : 0 < a.den) : 0 ≤ a.fract.num ∧ a.fract.num < a.fract.den ∧ a.fract.den = a.den := by
  simp only [Frac.fract]
  have hd : (a.den : Int) ≠ 0 := by omega
  exact ⟨Int.emod_nonneg _ hd, Int.emod_lt_of_pos _ (by omega), trivial⟩

theorem fract_congr (a : Frac) : ∃ k : Int, a.num = a.fract.num + k * a.den := by
  refine ⟨a.num / a.den, ?_⟩
  simp only [Frac.fract]
  have := Int.emod_add_mul_ediv a.num a.den
  rw [Int.mul_comm] at this
  omega

end DS.SymText

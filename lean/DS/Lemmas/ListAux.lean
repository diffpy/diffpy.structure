/-!
List facts that several lemma files need and core Lean does not have in this form.

*Runs.*  Every scanner of the text models (`Dec.parseDec`, `SymText.scanLit`, `CifNum.mantissa`, the CIF and XCFG readers) takes a
run with `takeWhile p` and goes on with `dropWhile p`; what the correctness proofs need is that a run `a` of `p` followed by a text
that `Stops` (it ends, or goes on with an element on which `p` fails) is split off exactly (`span_run`), and that the look-ahead
does not see past a stop whatever precedes it (`takeWhile_append_stops`, `dropWhile_append_stops`).  Core has the positive half
(`List.takeWhile_append_of_pos`, `List.dropWhile_append_of_pos`, `List.all_takeWhile`, `List.head?_dropWhile_not`).

*Loops that cannot fail.*  `mapM` / `foldlM` whose body returns `pure` on every element of the list (any lawful monad: `Option`
for the readers, `Except` for the source ties); core has the form without the membership hypothesis (`List.mapM_pure`,
`List.foldlM_pure`).

Core Lean only.
-/
namespace DS.ListAux
universe u v w
variable {α : Type u}

/-! ### runs -/

/-- the text ends, or goes on with an element on which `p` fails -/
def Stops (p : α → Bool) (rest : List α) : Prop := ∀ c ∈ rest.head?, p c = false

theorem stops_nil (p : α → Bool) : Stops p [] := by simp [Stops]

theorem stops_cons {p : α → Bool} {c : α} {r : List α} : Stops p (c :: r) ↔ p c = false := by simp [Stops]

theorem takeWhile_append_stops {p : α → Bool} (a : List α) {rest : List α} (h : Stops p rest) :
    (a ++ rest).takeWhile p = a.takeWhile p := by
  induction a with
  | nil =>
    cases rest with
    | nil => rfl
    | cons c r => simp [stops_cons.1 h]
  | cons c a ih => by_cases hc : p c = true <;> simp [hc, ih]

theorem dropWhile_append_stops {p : α → Bool} (a : List α) {rest : List α} (h : Stops p rest) :
    (a ++ rest).dropWhile p = a.dropWhile p ++ rest := by
  induction a with
  | nil =>
    cases rest with
    | nil => rfl
    | cons c r => simp [stops_cons.1 h]
  | cons c a ih => by_cases hc : p c = true <;> simp [hc, ih]

theorem takeWhile_of_all {p : α → Bool} {a : List α} (ha : ∀ x ∈ a, p x = true) : a.takeWhile p = a := by
  simpa using List.takeWhile_append_of_pos (l₂ := []) ha

theorem dropWhile_of_all {p : α → Bool} {a : List α} (ha : ∀ x ∈ a, p x = true) : a.dropWhile p = [] := by
  simpa using List.dropWhile_append_of_pos (l₂ := []) ha

theorem span_run {p : α → Bool} {a rest : List α} (ha : ∀ x ∈ a, p x = true) (h : Stops p rest) :
    (a ++ rest).takeWhile p = a ∧ (a ++ rest).dropWhile p = rest := by
  rw [takeWhile_append_stops a h, dropWhile_append_stops a h, takeWhile_of_all ha, dropWhile_of_all ha]
  exact ⟨rfl, rfl⟩

theorem mem_takeWhile {p : α → Bool} {l : List α} {c : α} (h : c ∈ l.takeWhile p) : p c = true :=
  List.all_eq_true.mp List.all_takeWhile c h

/-! ### loops that cannot fail -/

section monad
variable {m : Type v → Type w} [Monad m] [LawfulMonad m] {β σ : Type v}

theorem mapM_total {f : α → m β} {g : α → β} :
    ∀ {l : List α}, (∀ x ∈ l, f x = pure (g x)) → l.mapM f = pure (l.map g)
  | [], _ => by simp
  | a :: l, h => by
    rw [List.mapM_cons, h a (by simp), mapM_total fun x hx => h x (by simp [hx])]
    simp

theorem foldlM_total {f : σ → α → m σ} {g : σ → α → σ} :
    ∀ {l : List α} (s : σ), (∀ x ∈ l, ∀ s, f s x = pure (g s x)) → l.foldlM f s = pure (l.foldl g s)
  | [], _, _ => by simp
  | a :: l, s, h => by
    rw [List.foldlM_cons, h a (by simp), pure_bind, foldlM_total _ fun x hx => h x (by simp [hx])]
    rfl

end monad

end DS.ListAux

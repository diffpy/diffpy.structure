import DS.Lemmas.OrbitExact

/-!
`expandPosition` (literal model `Orbit.expand`) on sites *within tolerance* of a special position:
under the gap hypothesis `Gap` (any two images are within `E/4` of each other or farther apart than
`2E`) "within `E/4`" is a relation the loop can decide (`closeness_of_gap`), so the algorithm lists the
first image of each closeness class and groups the operations by class; a perturbed special site
gets the classes of the exact site.
-/
namespace DS
namespace Orbit

/-! ### closeness and the gap hypothesis -/

/-- two positions are *close*: box distance at most a quarter of the tolerance -/
def closeB (D E : Int) (p q : P3) : Bool := decide (boxDist D p q * 4 ≤ E)

/-- **gap hypothesis**: any two images of the site are close (within `E/4`) or far (beyond `2E`) -/
def Gap (ops : List Op) (k E : Int) (off x : P3) : Prop :=
  ∀ a ∈ ops, ∀ b ∈ ops,
    boxDist (24 * k) (img a k off x) (img b k off x) * 4 ≤ E ∨
    2 * E < boxDist (24 * k) (img a k off x) (img b k off x)

instance (ops : List Op) (k E : Int) (off x : P3) : Decidable (Gap ops k E off x) := by
  unfold Gap; infer_instance

theorem closeB_iff {D E : Int} {p q : P3} : closeB D E p q = true ↔ boxDist D p q * 4 ≤ E := by
  simp [closeB]

/-- under the gap hypothesis closeness is what the loop's test decides, and it is transitive -/
theorem closeness_of_gap {k E : Int} (hk : 0 < k) (hE : 0 < E) {off x : P3} {ops : List Op}
    (hgap : Gap ops k E off x) : Closeness (closeB (24 * k) E) k E off x ops where
  iff_within a ha b hb := by
    rw [closeB_iff]
    have h0 := boxDist_nonneg (show 0 < 24 * k by omega) (img a k off x) (img b k off x)
    constructor
    · intro h; omega
    · intro h
      rcases hgap a ha b hb with h' | h'
      · exact h'
      · omega
  trans a ha b _ d hd hab hbd := by
    rw [closeB_iff] at hab hbd ⊢
    have := boxDist_triangle (show 0 < 24 * k by omega) (img a k off x) (img b k off x) (img d k off x)
    rcases hgap a ha d hd with h | h
    · exact h
    · omega

theorem far_of_not_close {k E : Int} {off x : P3} {ops : List Op} (hgap : Gap ops k E off x) {a b : Op}
    (ha : a ∈ ops) (hb : b ∈ ops) (h : closeB (24 * k) E (img a k off x) (img b k off x) = false) :
    2 * E < boxDist (24 * k) (img a k off x) (img b k off x) := by
  rcases hgap a ha b hb with h' | h'
  · rw [← closeB_iff, h] at h'; cases h'
  · exact h'

/-! ### the loop invariant for the relation "close" -/

/-- invariant of the loop of `expandPosition` after the operations `done`: `ClassInv` for the relation "close"
(`ginv_iff`), written out -/
structure GInv (k E : Int) (off x : P3) (done : List Op) (s : St) : Prop where
  pos : s.positions = dedupBy (closeB (24 * k) E) (done.map (fun g => img g k off x))
  keys_sound : ∀ b i, lookupKey s.keymap b = some i → ∃ g ∈ done, bucket E (img g k off x) = b
  keys_complete : ∀ g ∈ done, ∃ i p, s.positions[i]? = some p ∧
    lookupKey s.keymap (bucket E (img g k off x)) = some i ∧ closeB (24 * k) E p (img g k off x) = true
  cls : s.classes = classesBy (closeB (24 * k) E) (fun g => img g k off x) s.positions done

theorem ginv_iff {k E : Int} {off x : P3} {done : List Op} {s : St} :
    GInv k E off x done s ↔ ClassInv (closeB (24 * k) E) k E off x done s :=
  ⟨fun h => ⟨h.1, h.2, h.3, h.4⟩, fun h => ⟨h.1, h.2, h.3, h.4⟩⟩

/-- the listed positions are pairwise farther apart than `2E` -/
theorem positions_far {k E : Int} (hk : 0 < k) (hE : 0 < E) {off x : P3} {ops : List Op}
    (hgap : Gap ops k E off x) {i j : Nat} (hi : i < (expand ops k E off x).positions.length)
    (hj : j < (expand ops k E off x).positions.length) (hij : i ≠ j) :
    2 * E < boxDist (24 * k) (expand ops k E off x).positions[i] (expand ops k E off x).positions[j] := by
  have hc := closeness_of_gap hk hE hgap
  have hinv := expand_classInv hc hk hE
  obtain ⟨a, ha, ea⟩ := hinv.mem_positions (List.getElem_mem hi)
  obtain ⟨b, hb, eb⟩ := hinv.mem_positions (List.getElem_mem hj)
  rw [← ea, ← eb]
  apply far_of_not_close hgap ha hb
  rw [ea, eb]
  cases h : closeB (24 * k) E (expand ops k E off x).positions[i] (expand ops k E off x).positions[j] with
  | false => rfl
  | true => exact absurd (hinv.index_unique hc hk (fun _ h => h) hi hj h) hij

/-! ### a perturbed special site has the classes of the exact site -/

/-- `x` is a perturbation of `x0`: every image of `x` is within `E/8` of the same image of `x0` -/
def Near (ops : List Op) (k E : Int) (off x x0 : P3) : Prop :=
  ∀ g ∈ ops, boxDist (24 * k) (img g k off x) (img g k off x0) * 8 ≤ E

instance (ops : List Op) (k E : Int) (off x x0 : P3) : Decidable (Near ops k E off x x0) := by
  unfold Near; infer_instance

theorem Sep.weaken {ops : List Op} {k E E' : Int} {off x : P3} (h : Sep ops k E' off x) (hle : E ≤ E') :
    Sep ops k E off x := by
  intro a ha b hb
  rcases h a ha b hb with e | far
  · exact Or.inl e
  · exact Or.inr (by omega)

section perturbed
variable {k E : Int} {off x x0 : P3} {ops : List Op}

theorem close_iff_eq_of_near (hk : 0 < k) (hE : 0 < E) (hsep : Sep ops k E off x0)
    (hnear : Near ops k E off x x0) {a b : Op} (ha : a ∈ ops) (hb : b ∈ ops) :
    closeB (24 * k) E (img a k off x) (img b k off x) = true ↔ img a k off x0 = img b k off x0 := by
  have hD : 0 < 24 * k := by omega
  have na := hnear a ha
  have nb := hnear b hb
  rw [closeB_iff]
  constructor
  · intro h
    have t1 := boxDist_triangle hD (img a k off x0) (img a k off x) (img b k off x0)
    have t2 := boxDist_triangle hD (img a k off x) (img b k off x) (img b k off x0)
    rw [boxDist_comm hD (img a k off x)] at na
    rcases hsep a ha b hb with e | far
    · exact e
    · omega
  · intro e
    have t1 := boxDist_triangle hD (img a k off x) (img a k off x0) (img b k off x)
    rw [e] at t1 na
    rw [boxDist_comm hD (img b k off x)] at nb
    omega

/-- when the distinct images of the special site are farther apart than `3E`, every perturbation
within `E/8` satisfies the gap hypothesis -/
theorem gap_of_near (hk : 0 < k) (hE : 0 < E) (hsep : Sep ops k (3 * E) off x0)
    (hnear : Near ops k E off x x0) : Gap ops k E off x := by
  intro a ha b hb
  have hD : 0 < 24 * k := by omega
  have na := hnear a ha
  have nb := hnear b hb
  rcases hsep a ha b hb with e | far
  · left
    have t1 := boxDist_triangle hD (img a k off x) (img a k off x0) (img b k off x)
    rw [e] at t1 na
    rw [boxDist_comm hD (img b k off x)] at nb
    omega
  · right
    have t1 := boxDist_triangle hD (img a k off x0) (img a k off x) (img b k off x0)
    have t2 := boxDist_triangle hD (img a k off x) (img b k off x) (img b k off x0)
    rw [boxDist_comm hD (img a k off x)] at na
    omega

/-- operations generating the first occurrence of each distinct image of `x0` -/
def opReps (ops : List Op) (k : Int) (off x0 : P3) : List Op :=
  dedupBy (fun a b => img a k off x0 == img b k off x0) ops

theorem opReps_sub {h : Op} (hh : h ∈ opReps ops k off x0) : h ∈ ops := mem_of_mem_dedupBy hh

theorem dedupFirst_eq_opReps (ops : List Op) (k : Int) (off x0 : P3) :
    dedupFirst (ops.map (fun g => img g k off x0)) = (opReps ops k off x0).map (fun g => img g k off x0) := by
  rw [dedupFirst_eq_dedupBy, dedupBy_map]; rfl

/-- the fibres of the exact site, listed by `opReps` -/
def fibres (ops : List Op) (k : Int) (off x0 : P3) : List (List Op) :=
  (opReps ops k off x0).map (fun h => ops.filter (fun g => decide (img g k off x0 = img h k off x0)))

/-- `expandPosition` on the exactly special site, in terms of `opReps` -/
theorem result_exact_opReps (hk : 0 < k) (hE : 0 < E) (hsep : Sep ops k E off x0) :
    result ops k E off x0 =
      ((opReps ops k off x0).map (fun g => img g k off x0), fibres ops k off x0,
       (opReps ops k off x0).length) := by
  rw [result_exact hk hE hsep, dedupFirst_eq_opReps]
  simp only [fibres, List.map_map, List.length_map, Function.comp_def]

/-- `expandPosition` on the perturbed site: the representatives are the images of the same
operations, the classes are the fibres of the exact site -/
theorem result_near_opReps (hk : 0 < k) (hE : 0 < E) (hsep : Sep ops k E off x0)
    (hgap : Gap ops k E off x) (hnear : Near ops k E off x x0) :
    result ops k E off x =
      ((opReps ops k off x0).map (fun g => img g k off x), fibres ops k off x0,
       (opReps ops k off x0).length) := by
  have hiff := fun {a b} => close_iff_eq_of_near hk hE hsep hnear (a := a) (b := b)
  have hreps : dedupBy (closeB (24 * k) E) (ops.map (fun g => img g k off x)) =
      (opReps ops k off x0).map (fun g => img g k off x) := by
    rw [dedupBy_map, opReps]
    congr 1
    apply dedupBy_congr
    intro a ha b hb
    rw [Bool.eq_iff_iff, hiff ha hb, beq_iff_eq]
  rw [result_classes (closeness_of_gap hk hE hgap) hk hE, hreps]
  simp only [fibres, List.map_map, List.length_map, Prod.mk.injEq, true_and, and_true]
  apply List.map_congr_left
  intro h hh
  apply List.filter_congr
  intro g hg
  show closeB (24 * k) E (img h k off x) (img g k off x) = _
  rw [Bool.eq_iff_iff, hiff (opReps_sub hh) hg, decide_eq_true_eq, eq_comm]

/-- every fibre of the exact site has the size of the stabiliser, and
multiplicity × fibre size = group order -/
theorem fibres_count (hG : IsGroup ops) (cl : List Op) (hcl : cl ∈ fibres ops k off x0) :
    (opReps ops k off x0).length * cl.length = ops.length := by
  simp only [fibres, List.mem_map] at hcl
  obtain ⟨h, hh, rfl⟩ := hcl
  have h1 := orbit_stabiliser hG k off x0
  rw [dedupFirst_eq_opReps, List.length_map, ← fibre_count hG k off x0 (opReps_sub hh)] at h1
  rw [← List.countP_eq_length_filter]
  exact h1

end perturbed

end Orbit
end DS

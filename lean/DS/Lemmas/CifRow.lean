import DS.Model.CifRow
import DS.Lemmas.Adp
/-!
Lemmas for the row phase of the CIF reader (C07): a fold is invariant under permutation of its list when adjacent
steps commute up to a relation (`perm_foldl_rel`); what can be read from an atom (`SObs`, `ObsEq`); the setters of
displacement parameters by regime of the `anisotropy` flag and which pairs of them commute (`dop_comm`); the
hypothesis `RowShape` of column-order independence and its stability along a row.
-/

namespace DS.CifRow
open DS

section generic
variable {σ κ : Type} (f : σ → κ → σ) (R : σ → σ → Prop)

theorem foldl_rel_congr (Rcongr : ∀ a b x, R a b → R (f a x) (f b x)) :
    ∀ (l : List κ) (a b : σ), R a b → R (l.foldl f a) (l.foldl f b)
  | [], _, _, h => h
  | x :: l, a, b, h => foldl_rel_congr Rcongr l _ _ (Rcongr a b x h)

/-- `Q s l` is what is known of the state `s` together with the list `l` still to be folded -/
theorem perm_foldl_rel (Q : σ → List κ → Prop)
    (Rrefl : ∀ s, R s s) (Rtrans : ∀ a b c, R a b → R b c → R a c)
    (Rcongr : ∀ a b x, R a b → R (f a x) (f b x))
    (Qstep : ∀ s x l, Q s (x :: l) → Q (f s x) l)
    (Qswap : ∀ s x y l, Q s (x :: y :: l) → R (f (f s x) y) (f (f s y) x))
    (Qperm : ∀ s l l', l.Perm l' → Q s l → Q s l')
    {l l' : List κ} (h : l.Perm l') : ∀ s, Q s l → R (l.foldl f s) (l'.foldl f s) := by
  induction h with
  | nil => intro s _; exact Rrefl _
  | cons x _ ih => intro s hq; exact ih (f s x) (Qstep s x _ hq)
  | swap x y l =>
    intro s hq
    exact foldl_rel_congr f R Rcongr l _ _ (Qswap s y x l hq)
  | trans h1 _ ih1 ih2 =>
    intro s hq
    exact Rtrans _ _ _ (ih1 s hq) (ih2 s (Qperm s _ _ h1 hq))
end generic

/-! ### what can be read from an atom -/

/-- what can be read from the ADP/position state: with the flag off only `_U[0,0]` is meaningful
(every reader — `U`, `Uij`, `Uisoequiv`, `anisotropy = True` — derives the tensor from it) -/
def SObs (s t : AtomS ℝ) : Prop :=
  s.xyz = t.xyz ∧ s.aniso = t.aniso ∧ s.lat = t.lat ∧ (if s.aniso then s.U = t.U else s.U.a11 = t.U.a11)

theorem SObs.refl (s : AtomS ℝ) : SObs s s := ⟨rfl, rfl, rfl, by split <;> rfl⟩

theorem SObs.of_iso {s t : AtomS ℝ} (hs : s.aniso = false) (ht : t.aniso = false) (hx : s.xyz = t.xyz)
    (hl : s.lat = t.lat) (hu : s.U.a11 = t.U.a11) : SObs s t :=
  ⟨hx, by rw [hs, ht], hl, by rw [hs]; simpa using hu⟩

theorem SObs.eq_or_iso {s t : AtomS ℝ} (h : SObs s t) :
    s = t ∨ (s.aniso = false ∧ t.aniso = false ∧ s.xyz = t.xyz ∧ s.lat = t.lat ∧ s.U.a11 = t.U.a11) := by
  obtain ⟨hx, ha, hl, hu⟩ := h
  cases hs : s.aniso with
  | true =>
    rw [hs] at hu
    left
    cases s; cases t; simp_all
  | false =>
    rw [hs] at hu
    exact .inr ⟨rfl, by rw [← ha, hs], hx, hl, by simpa using hu⟩

theorem SObs.a11 {s t : AtomS ℝ} (h : SObs s t) : s.U.a11 = t.U.a11 := by
  rcases h.eq_or_iso with rfl | ⟨-, -, -, -, hu⟩
  · rfl
  · exact hu

theorem SObs.trans {a b c : AtomS ℝ} (h1 : SObs a b) (h2 : SObs b c) : SObs a c := by
  rcases h1.eq_or_iso with rfl | ⟨ha, hb, hx, hl, hu⟩
  · exact h2
  · exact SObs.of_iso ha (by rw [← h2.2.1, hb]) (hx.trans h2.1) (hl.trans h2.2.2.1) (hu.trans h2.a11)

theorem SObs.getU {s t : AtomS ℝ} (h : SObs s t) : (s.getU).1 = (t.getU).1 := by
  rcases h.eq_or_iso with rfl | ⟨ha, hb, -, hl, hu⟩
  · rfl
  · simp only [AtomS.getU, ha, hb, Bool.false_eq_true, if_false, AtomS.latOf, hu, hl]

theorem SObs.uisoequiv {s t : AtomS ℝ} (h : SObs s t) : s.uisoequiv = t.uisoequiv := by
  rcases h.eq_or_iso with rfl | ⟨ha, hb, -, -, hu⟩
  · rfl
  · simp only [AtomS.uisoequiv, ha, hb, Bool.not_false, if_true, hu]

theorem SObs.getUij {s t : AtomS ℝ} (h : SObs s t) (i j : Ix) : s.getUij i j = t.getUij i j := by
  rcases h.eq_or_iso with rfl | ⟨ha, hb, -, hl, hu⟩
  · rfl
  · simp only [AtomS.getUij, ha, hb, Bool.false_eq_true, if_false, AtomS.latOf, hu, hl]

/-! ### the steps of the state machine on an isotropic and on an anisotropic atom

With the flag a literal, the `if`s of `atom.py` reduce: each equation below is `rfl` then. -/

def Pair.diag : Pair → Bool
  | .p11 | .p22 | .p33 => true
  | _ => false

section steps
variable {s : AtomS ℝ}

theorem setAniso_same {b : Bool} (h : s.aniso = b) : s.setAniso b = s := by
  simp [AtomS.setAniso, h]

theorem setAniso_true_of_iso (ha : s.aniso = false) :
    s.setAniso true = { s with U := Mat3.smul s.U.a11 s.latOf.isotropicunit, aniso := true } := by
  obtain ⟨x, U, an, l⟩ := s
  subst ha
  rfl

theorem setAniso_aniso (s : AtomS ℝ) (b : Bool) : (s.setAniso b).aniso = b := by
  obtain ⟨_, _, an, _⟩ := s
  cases b <;> cases an <;> rfl

theorem setUiso_of_iso (ha : s.aniso = false) (v : ℝ) : s.setUiso v = { s with U := s.U.set .i0 .i0 v } := by
  obtain ⟨x, U, an, l⟩ := s
  subst ha
  rfl

theorem setUiso_of_aniso (ha : s.aniso = true) (v : ℝ) :
    s.setUiso v = { s with U := (if absα s.uisoequiv < AdpConst.eps then Mat3.smul v s.latOf.isotropicunit
      else s.U.scaleR (v / s.uisoequiv)) } := by
  obtain ⟨x, U, an, l⟩ := s
  subst ha
  simp only [AtomS.setUiso, if_true]
  split <;> rfl

theorem setUiso_aniso (s : AtomS ℝ) (v : ℝ) : (s.setUiso v).aniso = s.aniso := by
  cases ha : s.aniso with
  | false => rw [setUiso_of_iso ha]; exact ha
  | true => rw [setUiso_of_aniso ha]; exact ha

theorem setUij_aniso (s : AtomS ℝ) (i j : Ix) (v : ℝ) : (s.setUij i j v).aniso = s.aniso := rfl

/-- `_set_Uij` on an isotropic atom: a diagonal component is also the isotropic value -/
theorem setUij_a11_of_iso (ha : s.aniso = false) (p : Pair) (v : ℝ) :
    (s.setUij p.i p.j v).U.a11 = bif p.diag then v else s.U.a11 := by
  obtain ⟨x, U, an, l⟩ := s
  subst ha
  cases p <;> rfl

theorem setUij_of_aniso (ha : s.aniso = true) (i j : Ix) (v : ℝ) :
    s.setUij i j v = { s with U := (s.U.set i j v).set j i v } := by
  obtain ⟨x, U, an, l⟩ := s
  subst ha
  rfl

theorem uij_uij_comm_aniso (ha : s.aniso = true) {p q : Pair} (hpq : p ≠ q) (v w : ℝ) :
    (s.setUij p.i p.j v).setUij q.i q.j w = (s.setUij q.i q.j w).setUij p.i p.j v := by
  -- `setUij` leaves the flag alone by `rfl`, so `ha` also serves for the state after the first write
  rw [setUij_of_aniso ha _ _ v, setUij_of_aniso ha _ _ w, setUij_of_aniso (by exact ha) _ _ w,
    setUij_of_aniso (by exact ha) _ _ v]
  cases p <;> cases q <;> first | rfl | exact absurd rfl hpq

end steps

/-- a state-machine step that neither reads nor writes the position and respects `SObs` -/
structure AdpFn (f : AtomS ℝ → AtomS ℝ) : Prop where
  lat : ∀ s, (f s).lat = s.lat
  indep : ∀ s x, f { s with xyz := x } = { f s with xyz := x }
  congr : ∀ s t, SObs s t → SObs (f s) (f t)

theorem AdpFn.xyz {f : AtomS ℝ → AtomS ℝ} (h : AdpFn f) (s : AtomS ℝ) : (f s).xyz = s.xyz := by
  have := congrArg AtomS.xyz (h.indep s s.xyz)
  exact this

theorem setUiso_adpFn (v : ℝ) : AdpFn (AtomS.setUiso v) where
  lat s := by
    cases ha : s.aniso with
    | false => rw [setUiso_of_iso ha]
    | true => rw [setUiso_of_aniso ha]
  indep s x := by
    rcases Bool.eq_false_or_eq_true s.aniso with ha | ha
    · rw [setUiso_of_aniso ha, setUiso_of_aniso (s := { s with xyz := x }) ha]; rfl
    · rw [setUiso_of_iso ha, setUiso_of_iso (s := { s with xyz := x }) ha]
  congr s t h := by
    rcases h.eq_or_iso with rfl | ⟨ha, hb, hx, hl, -⟩
    · exact SObs.refl _
    · rw [setUiso_of_iso ha, setUiso_of_iso hb]
      exact SObs.of_iso ha hb hx hl rfl

theorem setAniso_adpFn (b : Bool) : AdpFn (AtomS.setAniso b) where
  lat s := by obtain ⟨_, _, an, _⟩ := s; cases b <;> cases an <;> rfl
  indep s x := by obtain ⟨_, _, an, _⟩ := s; cases b <;> cases an <;> rfl
  congr s t h := by
    rcases h.eq_or_iso with rfl | ⟨ha, hb, hx, hl, hu⟩
    · exact SObs.refl _
    · cases b with
      | false => rw [setAniso_same ha, setAniso_same hb]; exact h
      | true =>
        rw [setAniso_true_of_iso ha, setAniso_true_of_iso hb]
        exact ⟨hx, rfl, hl, by simp only [if_true, hu, AtomS.latOf, hl]⟩

theorem setUij_adpFn (p : Pair) (v : ℝ) : AdpFn (AtomS.setUij p.i p.j v) where
  lat s := rfl
  indep s x := rfl
  congr s t h := by
    rcases h.eq_or_iso with rfl | ⟨ha, hb, hx, hl, hu⟩
    · exact SObs.refl _
    · exact SObs.of_iso ha hb hx hl (by rw [setUij_a11_of_iso ha, setUij_a11_of_iso hb, hu])

/-! ### atoms -/

/-- what can be read from an atom after the row phase -/
def ObsEq (a b : Atom ℝ) : Prop :=
  a.element = b.element ∧ a.label = b.label ∧ a.occ = b.occ ∧ SObs a.s b.s

theorem ObsEq.refl (a : Atom ℝ) : ObsEq a a := ⟨rfl, rfl, rfl, SObs.refl _⟩
theorem ObsEq.of_eq {a b : Atom ℝ} (h : a = b) : ObsEq a b := h ▸ ObsEq.refl a
theorem ObsEq.trans {a b c : Atom ℝ} (h1 : ObsEq a b) (h2 : ObsEq b c) : ObsEq a c :=
  ⟨h1.1.trans h2.1, h1.2.1.trans h2.2.1, h1.2.2.1.trans h2.2.2.1, h1.2.2.2.trans h2.2.2.2⟩

/-- the parts of an atom a setter can write -/
inductive Part where
  | none | names | pos | occ | adp
deriving DecidableEq

def Eff.kind : Eff ℝ → Part
  | .nop => .none | .names _ => .names | .pos _ => .pos | .occ _ => .occ | .adp _ => .adp

/-- the displacement-parameter effects are steps of the `atom.py` state machine that ignore the position -/
def Eff.WF : Eff ℝ → Prop
  | .adp f => AdpFn f
  | _ => True

theorem eff_wf (it : Item) (v : Value ℝ) : (eff it v).WF := by
  cases it <;>
    first | exact trivial | exact setUiso_adpFn _ | exact setAniso_adpFn _ | exact setUij_adpFn _ _

theorem pos_adp_comm (f : Option (LatData ℝ) → Vec3 ℝ → Vec3 ℝ) {g : AtomS ℝ → AtomS ℝ} (hg : AdpFn g) (a : Atom ℝ) :
    Atom.movePos f (Atom.liftS g a) = Atom.liftS g (Atom.movePos f a) := by
  have e := hg.indep a.s (f a.s.lat a.s.xyz)
  simp only [Atom.movePos, Atom.liftS, hg.lat, hg.xyz]
  rw [e]
  simp only [hg.lat]

theorem Eff.run_comm {e1 e2 : Eff ℝ} (h1 : e1.WF) (h2 : e2.WF) (hk : e1.kind ≠ e2.kind) (a : Atom ℝ) :
    e1.run (e2.run a) = e2.run (e1.run a) := by
  cases e1 <;> cases e2 <;>
    first
    | rfl
    | exact absurd rfl hk
    | exact pos_adp_comm _ h2 a
    | exact (pos_adp_comm _ h1 a).symm

theorem Eff.run_congr {e : Eff ℝ} (he : e.WF) {a b : Atom ℝ} (h : ObsEq a b) : ObsEq (e.run a) (e.run b) := by
  obtain ⟨h1, h2, h3, h4⟩ := h
  cases e with
  | nop => exact ⟨h1, h2, h3, h4⟩
  | names f => exact ⟨by simp only [Eff.run, h1, h2], by simp only [Eff.run, h1, h2], h3, h4⟩
  | pos f =>
    refine ⟨h1, h2, h3, ?_⟩
    obtain ⟨x, y, z, w⟩ := h4
    exact ⟨by simp only [Eff.run, Atom.movePos, x, z], y, z, w⟩
  | occ v => exact ⟨h1, h2, rfl, h4⟩
  | adp f => exact ⟨h1, h2, h3, he.congr _ _ h4⟩

theorem Eff.run_lat {e : Eff ℝ} (he : e.WF) (a : Atom ℝ) : (e.run a).s.lat = a.s.lat := by
  cases e with
  | adp f => exact he.lat a.s
  | _ => rfl

/-! ### the shape of a row -/

/-- the quantity a column gives (two spellings of one quantity share the slot) -/
inductive Slot where
  | label | type | pos (k : Ix) | iso | adp | occ | uij (p : Pair)
deriving DecidableEq, Repr

def slot : Item → Option Slot
  | .ignore => none
  | .label => some .label
  | .typeSymbol => some .type
  | .fract k => some (.pos k)
  | .cartn k => some (.pos k)
  | .uiso => some .iso
  | .biso => some .iso
  | .adpType => some .adp
  | .thermalType => some .adp
  | .occupancy => some .occ
  | .anisoU p => some (.uij p)
  | .anisoB p => some (.uij p)

def isFract : Item → Bool | .fract _ => true | _ => false
def isCartn : Item → Bool | .cartn _ => true | _ => false

/-- kind of a displacement-parameter column, as far as `RowShape` can decide it -/
inductive DKind where
  | iso | flag (b : Bool) | uij (p : Pair)
deriving DecidableEq, Repr

def dkind (it : Item) (text : String) : Option DKind :=
  match it with
  | .uiso | .biso => some .iso
  | .adpType | .thermalType => some (.flag (adpFlag text))
  | .anisoU p | .anisoB p => some (.uij p)
  | _ => none

def DKind.writer : DKind → Bool
  | .iso => true
  | .flag _ => false
  | .uij p => p.diag

def DKind.isFlag : DKind → Bool | .flag _ => true | _ => false
def DKind.okA (an : Bool) : DKind → Bool | .iso => true | .flag b => !an || b | .uij _ => false
def DKind.okB : DKind → Bool | .iso => false | .flag b => b | .uij _ => true
def DKind.okC : DKind → Bool | .flag b => !b | _ => true

/-- the displacement-parameter columns of a row applied to an atom whose flag is `an` can be taken in any order:
(A) only a `U/B_iso` value and an adp-type column, the latter not switching the flag off;
(B) flag on: tensor components and adp-type columns that keep it on;
(C) flag off and staying off: at most one column that writes the isotropic value (`U/B_iso`, `U/B_11`, `_22`, `_33`). -/
def DOK (an : Bool) (ks : List DKind) : Bool :=
  (ks.all (DKind.okA an) && decide ((ks.filter DKind.isFlag).length ≤ 1))
  || (an && ks.all DKind.okB)
  || (!an && ks.all DKind.okC && decide ((ks.filter DKind.writer).length ≤ 1))

/-- hypotheses of `row_col_perm` on the columns of a row applied to an atom whose flag is `an` -/
def RowShape (an : Bool) (cols : List (Col ℝ)) : Prop :=
  (cols.filterMap (fun c => slot c.1)).Nodup ∧
  ((∀ c ∈ cols, isFract c.1 = false) ∨ (∀ c ∈ cols, isCartn c.1 = false)) ∧
  ((∀ c ∈ cols, c.1 ≠ .label) ∨ (∀ c ∈ cols, c.1 = .typeSymbol → normSymbol c.2.text ≠ "")) ∧
  DOK an (cols.filterMap (fun c => dkind c.1 c.2.text)) = true

instance (an : Bool) (cols : List (Col ℝ)) : Decidable (RowShape an cols) := by
  unfold RowShape; infer_instance


theorem DOK_perm {an : Bool} {ks ks' : List DKind} (h : ks.Perm ks') : DOK an ks = DOK an ks' := by
  simp only [DOK, h.all_eq, (h.filter _).length_eq]

theorem DOK_sublist {an : Bool} {ks ks' : List DKind} (h : ks'.Sublist ks) (hk : DOK an ks = true) : DOK an ks' = true := by
  have hall : ∀ p : DKind → Bool, ks.all p = true → ks'.all p = true := fun p hp =>
    List.all_eq_true.2 fun x hx => List.all_eq_true.1 hp x (h.subset hx)
  have hlen : ∀ p : DKind → Bool, (ks.filter p).length ≤ 1 → (ks'.filter p).length ≤ 1 := fun p hp =>
    Nat.le_trans (h.filter p).length_le hp
  simp only [DOK, Bool.or_eq_true, Bool.and_eq_true, decide_eq_true_eq] at hk ⊢
  rcases hk with (⟨h1, h2⟩ | ⟨h1, h2⟩) | ⟨⟨h1, h2⟩, h3⟩
  · exact Or.inl (Or.inl ⟨hall _ h1, hlen _ h2⟩)
  · exact Or.inl (Or.inr ⟨h1, hall _ h2⟩)
  · exact Or.inr ⟨⟨h1, hall _ h2⟩, hlen _ h3⟩

theorem DOK_pair {an : Bool} {k1 k2 : DKind} (h : DOK an [k1, k2] = true) :
    (k1.okA an = true ∧ k2.okA an = true ∧ ¬(k1.isFlag = true ∧ k2.isFlag = true)) ∨
    (an = true ∧ k1.okB = true ∧ k2.okB = true) ∨
    (an = false ∧ k1.okC = true ∧ k2.okC = true ∧ ¬(k1.writer = true ∧ k2.writer = true)) := by
  have two : ∀ p : DKind → Bool, ([k1, k2].filter p).length ≤ 1 → ¬(p k1 = true ∧ p k2 = true) := by
    intro p hp ⟨h1, h2⟩
    simp [h1, h2] at hp
  simp only [DOK, List.all_cons, List.all_nil, Bool.and_true, Bool.or_eq_true, Bool.and_eq_true, decide_eq_true_eq,
    Bool.not_eq_true'] at h
  rcases h with (⟨⟨h1, h2⟩, h3⟩ | ⟨h1, h2, h3⟩) | ⟨⟨h1, h2, h3⟩, h4⟩
  · exact .inl ⟨h1, h2, two _ h3⟩
  · exact .inr (.inl ⟨h1, h2, h3⟩)
  · exact .inr (.inr ⟨h1, h2, h3, two _ h4⟩)

def flagAfter (an : Bool) (k : Option DKind) : Bool :=
  match k with
  | some (.flag b) => b
  | _ => an

theorem DOK_step {an : Bool} {k : Option DKind} {ks : List DKind}
    (h : DOK an (match k with | some k => k :: ks | none => ks) = true) : DOK (flagAfter an k) ks = true := by
  cases k with
  | none => exact h
  | some k =>
    have hs : DOK an ks = true := DOK_sublist (List.sublist_cons_self k ks) h
    cases k with
    | iso => exact hs
    | uij p => exact hs
    | flag b =>
      simp only [flagAfter]
      simp only [DOK, Bool.or_eq_true, Bool.and_eq_true, decide_eq_true_eq, List.all_cons, List.filter_cons,
        DKind.isFlag, DKind.okA, DKind.okB, DKind.okC, DKind.writer, if_true, List.length_cons] at h ⊢
      rcases h with (⟨⟨h0, h1⟩, h2⟩ | ⟨h1, h0, h2⟩) | ⟨⟨h1, h0, h2⟩, h3⟩
      · -- (A): no further flag column
        have hnil : ks.filter DKind.isFlag = [] := List.eq_nil_of_length_eq_zero (by omega)
        refine Or.inl (Or.inl ⟨?_, by omega⟩)
        refine List.all_eq_true.2 fun x hx => ?_
        have hx1 := List.all_eq_true.1 h1 x hx
        cases x with
        | iso => rfl
        | uij p => simp [DKind.okA] at hx1
        | flag c =>
          have : DKind.flag c ∈ ks.filter DKind.isFlag := List.mem_filter.2 ⟨hx, rfl⟩
          rw [hnil] at this
          exact absurd this (by simp)
      · subst h1
        subst h0
        exact Or.inl (Or.inr ⟨rfl, h2⟩)
      · have hb : b = false := by simpa using h0
        subst hb
        exact Or.inr ⟨⟨rfl, h2⟩, h3⟩


/-- the two clauses of `RowShape` that only speak of the set of columns -/
theorem RowShape.of_subset {an : Bool} {l l' : List (Col ℝ)} (hs : l' ⊆ l) (h : RowShape an l)
    (h1 : (l'.filterMap (fun c => slot c.1)).Nodup) (h4 : DOK an (l'.filterMap (fun c => dkind c.1 c.2.text)) = true) :
    RowShape an l' :=
  ⟨h1, h.2.1.imp (fun h2 c hc => h2 c (hs hc)) (fun h2 c hc => h2 c (hs hc)),
    h.2.2.1.imp (fun h3 c hc => h3 c (hs hc)) (fun h3 c hc => h3 c (hs hc)), h4⟩

theorem RowShape.perm {an : Bool} {l l' : List (Col ℝ)} (hp : l.Perm l') (h : RowShape an l) : RowShape an l' :=
  h.of_subset hp.symm.subset ((hp.filterMap _).nodup_iff.1 h.1) (by rw [← DOK_perm (hp.filterMap _)]; exact h.2.2.2)

theorem RowShape.sublist {an : Bool} {l l' : List (Col ℝ)} (hs : l'.Sublist l) (h : RowShape an l) : RowShape an l' :=
  h.of_subset hs.subset (h.1.sublist (hs.filterMap _)) (DOK_sublist (hs.filterMap _) h.2.2.2)

theorem aniso_after (a : Atom ℝ) (x : Col ℝ) :
    (applySetter x.1 x.2 a).s.aniso = flagAfter a.s.aniso (dkind x.1 x.2.text) := by
  obtain ⟨it, v⟩ := x
  cases it <;> simp only [applySetter, eff, Eff.run, Atom.liftS, Atom.movePos, Atom.setOcc, dkind, flagAfter,
    setUiso_aniso, setAniso_aniso, setUij_aniso]

theorem lat_after (a : Atom ℝ) (x : Col ℝ) : (applySetter x.1 x.2 a).s.lat = a.s.lat :=
  Eff.run_lat (eff_wf x.1 x.2) a

theorem RowShape.step {a : Atom ℝ} {x : Col ℝ} {l : List (Col ℝ)} (h : RowShape a.s.aniso (x :: l)) :
    RowShape (applySetter x.1 x.2 a).s.aniso l := by
  have ht := RowShape.sublist (List.sublist_cons_self x l) h
  refine ⟨ht.1, ht.2.1, ht.2.2.1, ?_⟩
  rw [aniso_after]
  apply DOK_step
  have h4 := h.2.2.2
  rw [List.filterMap_cons] at h4
  cases hk : dkind x.1 x.2.text <;> simpa [hk] using h4

/-! ### exchanging two displacement-parameter steps -/

/-- the three kinds of steps of the ADP state machine the setters perform -/
inductive DOp where
  | iso (v : ℝ)
  | flag (b : Bool)
  | uij (p : Pair) (v : ℝ)

noncomputable def DOp.fn : DOp → AtomS ℝ → AtomS ℝ
  | .iso v => AtomS.setUiso v
  | .flag b => AtomS.setAniso b
  | .uij p v => AtomS.setUij p.i p.j v

/-- writes `_U[0,0]` of an isotropic atom -/
def DOp.writer : DOp → Bool
  | .iso _ => true
  | .flag _ => false
  | .uij p _ => p == .p11 || p == .p22 || p == .p33

def DOp.kind : DOp → DKind
  | .iso _ => .iso
  | .flag b => .flag b
  | .uij p _ => .uij p

theorem DOp.adpFn (d : DOp) : AdpFn d.fn := by
  cases d with
  | iso v => exact setUiso_adpFn v
  | flag b => exact setAniso_adpFn b
  | uij p v => exact setUij_adpFn p v

theorem Mat3.smul_scaleR (m : Mat3 ℝ) {a : ℝ} (ha : a ≠ 0) (v : ℝ) : (Mat3.smul a m).scaleR (v / a) = Mat3.smul v m := by
  have e : ∀ x : ℝ, a * x * (v / a) = v * x := fun x => by field_simp
  simp only [Mat3.scaleR, Mat3.smul, e]

theorem iso_flag_comm {s : AtomS ℝ} (hl : LatOK? s.lat) (v : ℝ) {b : Bool} (hb : (!s.aniso || b) = true) :
    (s.setUiso v).setAniso b = (s.setAniso b).setUiso v := by
  by_cases hab : s.aniso = b
  · rw [setAniso_same hab, setAniso_same ((setUiso_aniso s v).trans hab)]
  · have ha : s.aniso = false := by cases h : s.aniso <;> simp_all
    obtain rfl : b = true := by cases b <;> simp_all
    -- the state after switching the flag on: storage `u · isotropicunit`, whose `Uisoequiv` is `u`
    have inv : AdpInv (s.setAniso true) := by
      rw [setAniso_true_of_iso ha]
      have hlo : LatOK s.latOf := by
        unfold AtomS.latOf
        cases h : s.lat with
        | none => exact latOK_cartesian
        | some l => exact hl l h
      exact ⟨Mat3.isSymm_smul _ hlo.iso_symm, hl⟩
    have ue : (s.setAniso true).uisoequiv = s.U.a11 :=
      AtomS.uisoequiv_of_iso_storage inv (setAniso_aniso s true) _ (by rw [setAniso_true_of_iso ha]; rfl)
    rw [setUiso_of_aniso (setAniso_aniso s true), ue, setUiso_of_iso ha, setAniso_true_of_iso ha,
      setAniso_true_of_iso (s := { s with U := s.U.set .i0 .i0 v }) ha]
    split_ifs with hlt
    · rfl
    · have hne : s.U.a11 ≠ 0 := by
        intro h0
        apply hlt
        rw [h0, absα_zero]
        exact eps_pos
      show ({ s with U := Mat3.smul v s.latOf.isotropicunit, aniso := true } : AtomS ℝ) =
        { s with U := (Mat3.smul s.U.a11 s.latOf.isotropicunit).scaleR (v / s.U.a11), aniso := true }
      rw [Mat3.smul_scaleR _ hne]

theorem dop_comm_A {s : AtomS ℝ} (hl : LatOK? s.lat) {d1 d2 : DOp} (h1 : d1.kind.okA s.aniso = true)
    (h2 : d2.kind.okA s.aniso = true) (hf : ¬(d1.kind.isFlag = true ∧ d2.kind.isFlag = true))
    (hne : d1.kind ≠ d2.kind) : d2.fn (d1.fn s) = d1.fn (d2.fn s) := by
  cases d1 with
  | iso v =>
    cases d2 with
    | iso w => exact absurd rfl hne
    | flag b => exact iso_flag_comm hl v h2
    | uij q w => exact absurd h2 Bool.false_ne_true
  | flag b =>
    cases d2 with
    | iso w => exact (iso_flag_comm hl w h1).symm
    | flag c => exact absurd ⟨rfl, rfl⟩ hf
    | uij q w => exact absurd h2 Bool.false_ne_true
  | uij p v => exact absurd h1 Bool.false_ne_true

theorem DOp.fn_of_aniso {s : AtomS ℝ} (ha : s.aniso = true) {d : DOp} (hd : d.kind.okB = true) :
    (d.fn s).aniso = true ∧ (d.kind.isFlag = true → d.fn s = s) := by
  cases d with
  | iso v => exact absurd hd Bool.false_ne_true
  | flag b =>
    obtain rfl : b = true := hd
    exact ⟨setAniso_aniso s true, fun _ => setAniso_same ha⟩
  | uij p v => exact ⟨ha, fun h => absurd h Bool.false_ne_true⟩

theorem dop_comm_B {s : AtomS ℝ} (ha : s.aniso = true) {d1 d2 : DOp} (h1 : d1.kind.okB = true)
    (h2 : d2.kind.okB = true) (hne : d1.kind ≠ d2.kind) : d2.fn (d1.fn s) = d1.fn (d2.fn s) := by
  by_cases f1 : d1.kind.isFlag = true
  · rw [(DOp.fn_of_aniso ha h1).2 f1, (DOp.fn_of_aniso (DOp.fn_of_aniso ha h2).1 h1).2 f1]
  by_cases f2 : d2.kind.isFlag = true
  · rw [(DOp.fn_of_aniso ha h2).2 f2, (DOp.fn_of_aniso (DOp.fn_of_aniso ha h1).1 h2).2 f2]
  cases d1 with
  | uij p v =>
    cases d2 with
    | uij q w => exact uij_uij_comm_aniso ha (fun e => hne (congrArg DKind.uij e)) v w
    | iso w => exact absurd h2 Bool.false_ne_true
    | flag c => exact absurd rfl f2
  | iso v => exact absurd h1 Bool.false_ne_true
  | flag b => exact absurd rfl f1

theorem DOp.fn_of_iso {d : DOp} (hd : d.kind.okC = true) :
    ∃ v : ℝ, ∀ s : AtomS ℝ, s.aniso = false →
      (d.fn s).aniso = false ∧ (d.fn s).U.a11 = bif d.kind.writer then v else s.U.a11 := by
  cases d with
  | iso v => exact ⟨v, fun s ha => by simp only [DOp.fn, setUiso_of_iso ha]; exact ⟨ha, rfl⟩⟩
  | flag b =>
    obtain rfl : b = false := by simpa [DOp.kind, DKind.okC] using hd
    exact ⟨0, fun s ha => by simp only [DOp.fn, setAniso_same ha]; exact ⟨ha, rfl⟩⟩
  | uij p v => exact ⟨v, fun s ha => ⟨ha, setUij_a11_of_iso ha p v⟩⟩

theorem dop_comm_C {s : AtomS ℝ} (ha : s.aniso = false) {d1 d2 : DOp} (h1 : d1.kind.okC = true)
    (h2 : d2.kind.okC = true) (hw : ¬(d1.kind.writer = true ∧ d2.kind.writer = true)) :
    SObs (d2.fn (d1.fn s)) (d1.fn (d2.fn s)) := by
  obtain ⟨v1, e1⟩ := DOp.fn_of_iso h1
  obtain ⟨v2, e2⟩ := DOp.fn_of_iso h2
  refine SObs.of_iso (e2 _ (e1 s ha).1).1 (e1 _ (e2 s ha).1).1 ?_ ?_ ?_
  · rw [d2.adpFn.xyz, d1.adpFn.xyz, d1.adpFn.xyz, d2.adpFn.xyz]
  · rw [d2.adpFn.lat, d1.adpFn.lat, d1.adpFn.lat, d2.adpFn.lat]
  · rw [(e2 _ (e1 s ha).1).2, (e1 s ha).2, (e1 _ (e2 s ha).1).2, (e2 s ha).2]
    cases w1 : d1.kind.writer <;> cases w2 : d2.kind.writer <;> first | rfl | exact absurd ⟨w1, w2⟩ hw

theorem dop_comm {s : AtomS ℝ} (hl : LatOK? s.lat) {d1 d2 : DOp} (hne : d1.kind ≠ d2.kind)
    (h : DOK s.aniso [d1.kind, d2.kind] = true) : SObs (d2.fn (d1.fn s)) (d1.fn (d2.fn s)) := by
  rcases DOK_pair h with ⟨h1, h2, hf⟩ | ⟨ha, h1, h2⟩ | ⟨ha, h1, h2, hw⟩
  · rw [dop_comm_A hl h1 h2 hf hne]; exact SObs.refl _
  · rw [dop_comm_B ha h1 h2 hne]; exact SObs.refl _
  · exact dop_comm_C ha h1 h2 hw

/-! ### exchanging two adjacent columns -/

theorem setIx_comm (u : Vec3 ℝ) {k k' : Ix} (h : k ≠ k') (v w : ℝ) :
    (u.setIx k v).setIx k' w = (u.setIx k' w).setIx k v := by
  cases k <;> cases k' <;> first | exact absurd rfl h | rfl

theorem cart_frac {l : LatData ℝ} (hl : LatOK l) (c : Vec3 ℝ) : l.cart (frac l c) = c := by
  simp only [LatData.cart, frac, Mat3.vecMul_mul, hl.rec_base, Mat3.vecMul_one]

theorem frac_cart {l : LatData ℝ} (hl : LatOK l) (x : Vec3 ℝ) : frac l (l.cart x) = x := by
  simp only [LatData.cart, frac, Mat3.vecMul_mul, hl.base_rec, Mat3.vecMul_one]

theorem cartn_comm {lat : Option (LatData ℝ)} (hl : LatOK? lat) {k k' : Ix} (h : k ≠ k') (v w : ℝ) (x : Vec3 ℝ) :
    setCartnIx k' w lat (setCartnIx k v lat x) = setCartnIx k v lat (setCartnIx k' w lat x) := by
  cases lat with
  | none => exact setIx_comm x h v w
  | some l =>
    have hl := hl l rfl
    simp only [setCartnIx, cart_frac hl, setIx_comm _ h]

theorem names_comm (a : Atom ℝ) (vl vt : Value ℝ) (h : normSymbol vt.text ≠ "") :
    applySetter .typeSymbol vt (applySetter .label vl a) = applySetter .label vl (applySetter .typeSymbol vt a) := by
  simp only [applySetter, eff, Eff.run, labelNames, beq_iff_eq, h, if_false]

/-- the part of the atom the setter of an item writes (`Eff.kind` of its effect) -/
def ikind : Item → Part
  | .ignore => .none
  | .label | .typeSymbol => .names
  | .fract _ | .cartn _ => .pos
  | .occupancy => .occ
  | _ => .adp

theorem eff_kind (it : Item) (v : Value ℝ) : (eff it v).kind = ikind it := by cases it <;> rfl

theorem ikind_inv (it : Item) :
    (ikind it = .none → it = .ignore) ∧ (ikind it = .names → it = .label ∨ it = .typeSymbol) ∧
    (ikind it = .pos → ∃ k, it = .fract k ∨ it = .cartn k) ∧ (ikind it = .occ → it = .occupancy) := by
  cases it <;> simp [ikind]

def DKind.slot : DKind → Slot
  | .iso => .iso
  | .flag _ => .adp
  | .uij p => .uij p

theorem dop_spec {it : Item} (v : Value ℝ) (h : ikind it = .adp) :
    ∃ d : DOp, eff it v = .adp d.fn ∧ dkind it v.text = some d.kind ∧ slot it = some d.kind.slot := by
  cases it with
  | uiso | biso => exact ⟨.iso _, rfl, rfl, rfl⟩
  | adpType | thermalType => exact ⟨.flag _, rfl, rfl, rfl⟩
  | anisoU p | anisoB p => exact ⟨.uij p _, rfl, rfl, rfl⟩
  | _ => exact absurd h (by simp [ikind])

theorem slot_ne {an : Bool} {x y : Col ℝ} (h : RowShape an [x, y]) {sx : Slot} (hx : slot x.1 = some sx) :
    slot y.1 ≠ some sx := by
  intro hy
  have := h.1
  simp only [List.filterMap_cons, hx, hy, List.nodup_cons, List.mem_cons, true_or, not_true_eq_false, false_and] at this

variable (a : Atom ℝ) (x y : Col ℝ) (h : RowShape a.s.aniso [x, y])
include h

theorem swap_D (hl : LatOK? a.s.lat) (hx : ikind x.1 = .adp) (hy : ikind y.1 = .adp) :
    ObsEq (applySetter y.1 y.2 (applySetter x.1 x.2 a)) (applySetter x.1 x.2 (applySetter y.1 y.2 a)) := by
  obtain ⟨d1, e1, k1, s1⟩ := dop_spec x.2 hx
  obtain ⟨d2, e2, k2, s2⟩ := dop_spec y.2 hy
  have hne : d1.kind ≠ d2.kind := fun e => slot_ne h s1 (by rw [s2, e])
  have hd := h.2.2.2
  simp only [List.filterMap_cons, k1, k2, List.filterMap_nil] at hd
  simp only [applySetter, e1, e2, Eff.run, Atom.liftS]
  exact ⟨rfl, rfl, rfl, dop_comm hl hne hd⟩

theorem swap_names (hx : ikind x.1 = .names) (hy : ikind y.1 = .names) :
    applySetter y.1 y.2 (applySetter x.1 x.2 a) = applySetter x.1 x.2 (applySetter y.1 y.2 a) := by
  have hts : ∀ (vl vt : Value ℝ), (Item.label, vl) ∈ [x, y] → (Item.typeSymbol, vt) ∈ [x, y] → normSymbol vt.text ≠ "" :=
    fun vl vt hl ht => h.2.2.1.elim (fun h3 => absurd rfl (h3 (.label, vl) hl)) (fun h3 => h3 (.typeSymbol, vt) ht rfl)
  obtain ⟨ix, vx⟩ := x
  obtain ⟨iy, vy⟩ := y
  rcases (ikind_inv ix).2.1 hx with rfl | rfl <;> rcases (ikind_inv iy).2.1 hy with rfl | rfl
  · exact absurd rfl (slot_ne h (sx := .label) rfl)
  · exact names_comm a vx vy (hts vx vy (by simp) (by simp))
  · exact (names_comm a vy vx (hts vy vx (by simp) (by simp))).symm
  · exact absurd rfl (slot_ne h (sx := .type) rfl)

theorem swap_pos (hl : LatOK? a.s.lat) (hx : ikind x.1 = .pos) (hy : ikind y.1 = .pos) :
    applySetter y.1 y.2 (applySetter x.1 x.2 a) = applySetter x.1 x.2 (applySetter y.1 y.2 a) := by
  have hmix : ∀ (k k' : Ix) (v v' : Value ℝ), (Item.fract k, v) ∈ [x, y] → (Item.cartn k', v') ∈ [x, y] → False :=
    fun k k' v v' hf hc => h.2.1.elim (fun h2 => Bool.noConfusion (h2 (.fract k, v) hf)) (fun h2 => Bool.noConfusion (h2 (.cartn k', v') hc))
  obtain ⟨ix, vx⟩ := x
  obtain ⟨iy, vy⟩ := y
  obtain ⟨k, rfl | rfl⟩ := (ikind_inv ix).2.2.1 hx <;> obtain ⟨k', rfl | rfl⟩ := (ikind_inv iy).2.2.1 hy
  · have hne : k ≠ k' := fun e => slot_ne h (sx := .pos k) rfl (by rw [e]; rfl)
    simp only [applySetter, eff, Eff.run, Atom.movePos, setXyzIx, setIx_comm _ hne]
  · exact (hmix k k' vx vy (by simp) (by simp)).elim
  · exact (hmix k' k vy vx (by simp) (by simp)).elim
  · have hne : k ≠ k' := fun e => slot_ne h (sx := .pos k) rfl (by rw [e]; rfl)
    simp only [applySetter, eff, Eff.run, Atom.movePos, cartn_comm hl hne]

/-- two adjacent columns of a row that satisfies `RowShape` may be exchanged: columns that write different parts of the
atom always (`Eff.run_comm`), columns that write the same part by the clause of `RowShape` that speaks of it -/
theorem swap_two (hl : LatOK? a.s.lat) :
    ObsEq (applySetter y.1 y.2 (applySetter x.1 x.2 a)) (applySetter x.1 x.2 (applySetter y.1 y.2 a)) := by
  by_cases hk : ikind y.1 = ikind x.1
  · cases hx : ikind x.1 with
    | none => rw [(ikind_inv x.1).1 hx]; exact ObsEq.refl _
    | names => exact ObsEq.of_eq (swap_names a x y h hx (hk.trans hx))
    | pos => exact ObsEq.of_eq (swap_pos a x y h hl hx (hk.trans hx))
    | occ =>
      exact absurd (congrArg slot ((ikind_inv y.1).2.2.2 (hk.trans hx)))
        (slot_ne h (congrArg slot ((ikind_inv x.1).2.2.2 hx)))
    | adp => exact swap_D a x y h hl hx (hk.trans hx)
  · exact ObsEq.of_eq (Eff.run_comm (eff_wf _ _) (eff_wf _ _) (by rw [eff_kind, eff_kind]; exact hk) a)

end DS.CifRow

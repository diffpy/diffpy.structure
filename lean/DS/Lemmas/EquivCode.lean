import DS.Model.SymEquiv
import DS.Lemmas.OpCode
/-!
The evaluator of the equivalence certificate on natural numbers, `fastEquiv`, for the kernel (no Mathlib
import: the generated obligations `DS/Gen/E*.lean` import this file).

`checkEquiv` looks the partner of every operation up by walking a list and compares integer matrices
and vectors.  Here both operation lists are tables of codes (`OpCode.table`), `Pn`, `Qn`, `pn` are numerals
whose digits are their entries shifted by `off`, and the tests are equations between naturals in these digits,
written without subtraction: every monomial with a minus sign stands on the other side.  The lattice tests (a
few generators per setting) are those of `checkEquiv`.  `DS.SymEquiv.fastEquiv_sound`
(in `DS.Lemmas.SymEquiv`) shows `fastEquiv gops rops c = true → checkEquiv gops rops c = true`.
-/
namespace DS
namespace EquivCode
open OpCode SymType SymEquiv

/-- offset of the stored entries of `Pn`, `Qn`, `pn` -/
def off : Nat := 32768

/-- base of `mcode`, `vcode`: `2 · off` -/
def wd : Nat := 65536

/-- `off + p`, exact for `-off ≤ p` -/
def encZ : Int → Nat
  | .ofNat k => Nat.add off k
  | .negSucc k => Nat.sub off (Nat.succ k)

/-- `-off ≤ p < off`: then `encZ p` is exact and a digit in base `wd` -/
def okZ : Int → Bool
  | .ofNat k => Nat.blt k off
  | .negSucc k => Nat.blt k off

def okM (A : M) : Bool :=
  okZ A.a11 && okZ A.a12 && okZ A.a13 && okZ A.a21 && okZ A.a22 && okZ A.a23 &&
  okZ A.a31 && okZ A.a32 && okZ A.a33

def okV (v : V) : Bool := okZ v.x && okZ v.y && okZ v.z

/-- a matrix as a numeral of nine digits, row by row -/
def mcode (A : M) : Nat :=
  pack wd [encZ A.a11, encZ A.a12, encZ A.a13, encZ A.a21, encZ A.a22, encZ A.a23,
    encZ A.a31, encZ A.a32, encZ A.a33]

def vcode (v : V) : Nat := pack wd [encZ v.x, encZ v.y, encZ v.z]

def sum3 (a b c : Nat) : Nat := Nat.add (Nat.add a b) c

def dot3 (a1 a2 a3 b1 b2 b3 : Nat) : Nat :=
  Nat.add (Nat.add (Nat.mul a1 b1) (Nat.mul a2 b2)) (Nat.mul a3 b3)

/-- `b·c = r·a` for `b`, `a` stored shifted by one and `c`, `r` stored shifted by `off`:
`Σ(bₖ+1)(cₖ+off) + Σ(rₖ+off) + off·Σ(aₖ+1) = Σ(rₖ+off)(aₖ+1) + Σ(cₖ+off) + off·Σ(bₖ+1)` -/
def relOK (b1 b2 b3 c1 c2 c3 r1 r2 r3 a1 a2 a3 : Nat) : Bool :=
  Nat.beq
    (Nat.add (Nat.add (dot3 b1 b2 b3 c1 c2 c3) (sum3 r1 r2 r3)) (Nat.mul off (sum3 a1 a2 a3)))
    (Nat.add (Nat.add (dot3 r1 r2 r3 a1 a2 a3) (sum3 c1 c2 c3)) (Nat.mul off (sum3 b1 b2 b3)))

/-- entry `(i/3, j)` of `R' Pn = Pn R`; `P = mcode Pn`, `a`, `b` the codes of `(R, t)`, `(R', τ)` -/
def rotEntry (P a b i j : Nat) : Bool :=
  relOK (digit 32 b i) (digit 32 b (Nat.add i 1)) (digit 32 b (Nat.add i 2))
    (digit wd P j) (digit wd P (Nat.add j 3)) (digit wd P (Nat.add j 6))
    (digit wd P i) (digit wd P (Nat.add i 1)) (digit wd P (Nat.add i 2))
    (digit 32 a j) (digit 32 a (Nat.add j 3)) (digit 32 a (Nat.add j 6))

/-- `rotRel` on codes -/
def rotOK (P a b : Nat) : Bool :=
  rotEntry P a b 0 0 && rotEntry P a b 0 1 && rotEntry P a b 0 2 &&
  rotEntry P a b 3 0 && rotEntry P a b 3 1 && rotEntry P a b 3 2 &&
  rotEntry P a b 6 0 && rotEntry P a b 6 1 && rotEntry P a b 6 2

/-- `r·c = v` for `r`, `c` stored shifted by `off`:
`Σ(rₖ+off)(cₖ+off) + 3·off² = v + off·(Σ(rₖ+off) + Σ(cₖ+off))` -/
def dotOK (r1 r2 r3 c1 c2 c3 v : Nat) : Bool :=
  Nat.beq (Nat.add (dot3 r1 r2 r3 c1 c2 c3) (Nat.mul 3 (Nat.mul off off)))
    (Nat.add v (Nat.mul off (Nat.add (sum3 r1 r2 r3) (sum3 c1 c2 c3))))

/-- entry `(i/3, j)` of the product of the matrices with codes `A`, `C` is `v` -/
def prodEntry (A C i j v : Nat) : Bool :=
  dotOK (digit wd A i) (digit wd A (Nat.add i 1)) (digit wd A (Nat.add i 2))
    (digit wd C j) (digit wd C (Nat.add j 3)) (digit wd C (Nat.add j 6)) v

/-- the product of the matrices with codes `A`, `C` is `v · 1` -/
def prodOK (A C v : Nat) : Bool :=
  prodEntry A C 0 0 v && prodEntry A C 0 1 0 && prodEntry A C 0 2 0 &&
  prodEntry A C 3 0 0 && prodEntry A C 3 1 v && prodEntry A C 3 2 0 &&
  prodEntry A C 6 0 0 && prodEntry A C 6 1 0 && prodEntry A C 6 2 v

/-! Component `i` of `u = (1 − R') pn` is `uPos − uNeg`, for the row `b` of `R'` stored shifted by one
and `pn` stored shifted by `off`:
`uᵢ = (pᵢ+off) + off·Σ(bₖ+1) + Σ(pₖ+off) − (Σ(bₖ+1)(pₖ+off) + 4·off)`. -/

def uPos (pi p1 p2 p3 b1 b2 b3 : Nat) : Nat :=
  Nat.add (Nat.add pi (Nat.mul off (sum3 b1 b2 b3))) (sum3 p1 p2 p3)

def uNeg (p1 p2 p3 b1 b2 b3 : Nat) : Nat := Nat.add (dot3 b1 b2 b3 p1 p2 p3) (Nat.mul 4 off)

/-- `f·(r·t) + d·(uP − uN) − d·f·τ ≡ 0 (mod m)` for a row `r` of `Pn` stored shifted by `off`: the
monomials with a plus sign against those with a minus sign -/
def fwdTest (d f m r1 r2 r3 t1 t2 t3 uP uN τ : Nat) : Bool :=
  Nat.beq
    (Nat.mod (Nat.add (Nat.mul f (dot3 r1 r2 r3 t1 t2 t3)) (Nat.mul d uP)) m)
    (Nat.mod (Nat.add (Nat.add (Nat.mul f (Nat.mul off (sum3 t1 t2 t3))) (Nat.mul d uN))
      (Nat.mul (Nat.mul d f) τ)) m)

/-- `f·τ + uN`: with `uP`, a component of `f·τ − u` -/
def wPos (f τ uN : Nat) : Nat := Nat.add (Nat.mul f τ) uN

/-- `q·(wP − wN) − e·f·t ≡ 0 (mod m)` for a row `q` of `Qn` stored shifted by `off` -/
def bwdTest (e f m q1 q2 q3 wP1 wP2 wP3 wN1 wN2 wN3 t : Nat) : Bool :=
  Nat.beq
    (Nat.mod (Nat.add (dot3 q1 q2 q3 wP1 wP2 wP3) (Nat.mul off (sum3 wN1 wN2 wN3))) m)
    (Nat.mod (Nat.add (Nat.add (dot3 q1 q2 q3 wN1 wN2 wN3) (Nat.mul off (sum3 wP1 wP2 wP3)))
      (Nat.mul (Nat.mul e f) t)) m)

/-- `uPos` for row `k = i/3` of the operation with code `b` (`i` is the position of the row's first digit in
`b`, `k` that of the component in `p`); `p = vcode pn` -/
def uP (p b i k : Nat) : Nat :=
  uPos (digit wd p k) (digit wd p 0) (digit wd p 1) (digit wd p 2)
    (digit 32 b i) (digit 32 b (Nat.add i 1)) (digit 32 b (Nat.add i 2))

def uN (p b i : Nat) : Nat :=
  uNeg (digit wd p 0) (digit wd p 1) (digit wd p 2)
    (digit 32 b i) (digit 32 b (Nat.add i 1)) (digit 32 b (Nat.add i 2))

/-- component `k = i/3` of `fwdVec` is divisible by `m` -/
def fwdEntry (P p d f m a b i k : Nat) : Bool :=
  fwdTest d f m (digit wd P i) (digit wd P (Nat.add i 1)) (digit wd P (Nat.add i 2))
    (digit 32 a 9) (digit 32 a 10) (digit 32 a 11) (uP p b i k) (uN p b i) (digit 32 b (Nat.add 9 k))

/-- `checkFwdOne` on codes; `m = 24·d·f` -/
def fwdOK (P p d f m a b : Nat) : Bool :=
  rotOK P a b && fwdEntry P p d f m a b 0 0 && fwdEntry P p d f m a b 3 1 &&
  fwdEntry P p d f m a b 6 2

/-- the positive part of component `k = i/3` of `w = f·τ − u`; the negative part is `uP` -/
def wP (p f b i k : Nat) : Nat := wPos f (digit 32 b (Nat.add 9 k)) (uN p b i)

/-- component `k = i/3` of `bwdVec` is divisible by `m` -/
def bwdEntry (Q p e f m a b i k : Nat) : Bool :=
  bwdTest e f m (digit wd Q i) (digit wd Q (Nat.add i 1)) (digit wd Q (Nat.add i 2))
    (wP p f b 0 0) (wP p f b 3 1) (wP p f b 6 2) (uP p b 0 0) (uP p b 3 1) (uP p b 6 2)
    (digit 32 a (Nat.add 9 k))

/-- `checkBwdOne` on codes; `m = 24·e·f` -/
def bwdOK (P Q p e f m a b : Nat) : Bool :=
  rotOK P a b && bwdEntry Q p e f m a b 0 0 && bwdEntry Q p e f m a b 3 1 &&
  bwdEntry Q p e f m a b 6 2

/-! The two loops of `checkEquiv`, same recursion, with `G = table gops`, `R = table rops`; the list
of operations is walked only for its length, the operation at the running position `i` is read from
its table. -/

/-- `checkFwd`; `n = rops.length` -/
def fwd (P p d f m G R n : Nat) : Nat → List Op → List Nat → Bool
  | _, [], [] => true
  | i, _ :: as, j :: js =>
    Nat.blt j n && fwdOK P p d f m (digit wide G i) (digit wide R j) &&
    fwd P p d f m G R n (Nat.succ i) as js
  | _, _, _ => false

/-- `checkBwd`; `n = gops.length` -/
def bwd (P Q p e f m G R n : Nat) : Nat → List Op → List Nat → Bool
  | _, [], [] => true
  | j, _ :: bs, i :: is =>
    Nat.blt i n && bwdOK P Q p e f m (digit wide G i) (digit wide R j) &&
    bwd P Q p e f m G R n (Nat.succ j) bs is
  | _, _, _ => false

end EquivCode

namespace SymEquiv
open OpCode EquivCode SymType

/-- `checkEquiv`, the products `Pn Qn`, `Qn Pn` and the two loops over the operations evaluated on codes -/
def fastEquiv (gops rops : List Op) (c : EqCert) : Bool :=
  decide (0 < c.d) && decide (0 < c.e) && decide (0 < c.f) && decide (0 < c.Pn.det) &&
  checkLat c.Pn (c.d : Int) (latGens rops) (latGens gops) c.latF &&
  checkLat c.Qn (c.e : Int) (latGens gops) (latGens rops) c.latB &&
  gops.all inRangeF && rops.all inRangeF && okM c.Pn && okM c.Qn && okV c.pn &&
  withVal (table gops) fun G => withVal (table rops) fun R =>
  withVal (mcode c.Pn) fun P => withVal (mcode c.Qn) fun Q => withVal (vcode c.pn) fun p =>
  withVal c.d fun d => withVal c.e fun e => withVal c.f fun f =>
    withVal (Nat.mul d e) (fun v => prodOK P Q v && prodOK Q P v) &&
    withVal (Nat.mul 24 (Nat.mul d f)) (fun m => withVal rops.length fun n =>
      fwd P p d f m G R n 0 gops c.fwd) &&
    withVal (Nat.mul 24 (Nat.mul e f)) (fun m => withVal gops.length fun n =>
      bwd P Q p e f m G R n 0 rops c.bwd)

/-- `checkEquivSG` with `fastEquiv` for `checkEquiv` -/
def fastEquivSG (g : SG) (c : EqCert) : Bool :=
  fastEquiv g.ops (Ref.itRef (g.number % 1000)) c

end SymEquiv
end DS

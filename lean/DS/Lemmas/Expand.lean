import DS.Model.Expand
import DS.Lemmas.RealElem
import Mathlib.Data.List.Nodup
import Mathlib.Data.List.Perm.Basic
import Mathlib.Data.List.Sigma

/-!
Helper lemmas about the expansion model `DS.Expand` (supercell, findCenter, makeEllipsoid): how the lattice
formulas of `setLatPar` scale with the multipliers, the control flow and the errors of findCenter /
makeEllipsoid, and that no site occurs twice (block atoms labelled by parent index and translation).
-/

namespace DS.Expand
open DS
set_option linter.unusedSectionVars false

/-! ### the index box -/

theorem mem_ijkList {l m n : Nat} {t : Nat × Nat × Nat} :
    t ∈ ijkList l m n ↔ t.1 < l ∧ t.2.1 < m ∧ t.2.2 < n := by
  obtain ⟨i, j, k⟩ := t
  simp only [ijkList, List.mem_flatMap, List.mem_map, List.mem_range, Prod.mk.injEq]
  constructor
  · rintro ⟨i', hi, j', hj, k', hk, rfl, rfl, rfl⟩; exact ⟨hi, hj, hk⟩
  · rintro ⟨hi, hj, hk⟩; exact ⟨i, hi, j, hj, k, hk, rfl, rfl, rfl⟩

theorem length_ijkList (l m n : Nat) : (ijkList l m n).length = l * m * n := by
  simp only [ijkList, List.length_flatMap, List.length_map, List.length_range, List.map_const', List.sum_replicate,
    smul_eq_mul, Nat.mul_assoc]

theorem nodup_ijkList (l m n : Nat) : (ijkList l m n).Nodup := by
  unfold ijkList
  refine List.nodup_flatMap.2 ⟨fun i _ => List.nodup_flatMap.2 ⟨fun j _ => ?_, ?_⟩, ?_⟩
  · exact List.nodup_range.map (fun a b h => by simpa using h)
  · refine List.nodup_range.imp ?_
    intro a b hab
    simp only [Function.onFun, List.disjoint_left, List.mem_map, List.mem_range]
    rintro x ⟨k, _, rfl⟩ ⟨k', _, h⟩
    simp only [Prod.mk.injEq] at h
    exact hab h.2.1.symm
  · refine List.nodup_range.imp ?_
    intro a b hab
    simp only [Function.onFun, List.disjoint_left, List.mem_flatMap, List.mem_map, List.mem_range]
    rintro x ⟨j, _, k, _, rfl⟩ ⟨j', _, k', _, h⟩
    simp only [Prod.mk.injEq] at h
    exact hab h.1.symm


/-! ### lattice formulas under multiplication of the lengths

`normbase = diag(ar, br, cr)·base` and `recnormbase = recbase·diag(1/ar, 1/br, 1/cr)`; multiplying the lengths
puts `diag(l, m, n)` in front of `base` and divides `ar, br, cr` by `l, m, n`, so the two diagonal factors cancel. -/

section field
variable {K β : Type} [Field K] [Elem K]

def diag (l m n : K) : Mat3 K := ⟨l, 0, 0, 0, m, 0, 0, 0, n⟩

omit [Elem K] in
theorem diag_mul (l m n : K) (B : Mat3 K) :
    (diag l m n).mul B =
      ⟨l * B.a11, l * B.a12, l * B.a13, m * B.a21, m * B.a22, m * B.a23, n * B.a31, n * B.a32, n * B.a33⟩ := by
  simp only [Mat3.mul, diag, zero_mul, add_zero, zero_add]

omit [Elem K] in
theorem diag_mul_diag (a b c l m n : K) : (diag a b c).mul (diag l m n) = diag (a * l) (b * m) (c * n) := by
  rw [diag_mul]; simp only [diag, mul_zero]

omit [Elem K] in
theorem inv_diag {l m n : K} (hl : l ≠ 0) (hm : m ≠ 0) (hn : n ≠ 0) :
    (diag l m n).inv = diag (1 / l) (1 / m) (1 / n) := Mat3.inv_diag hl hm hn

omit [Elem K] in
theorem div_mul_mul_eq (s l a v : K) : s / (l * a * v) = s / (a * v) / l := by
  rw [div_div, mul_assoc, mul_comm]

/- `ar = sa / (a·V)` with `V` the unit volume, which depends on the angles only; likewise `br`, `cr` -/
theorem ar_scale (L : Cell K) (l m n : Nat) : (L.scale l m n).ar = L.ar / (l : K) := div_mul_mul_eq _ _ _ _
theorem br_scale (L : Cell K) (l m n : Nat) : (L.scale l m n).br = L.br / (m : K) := div_mul_mul_eq _ _ _ _
theorem cr_scale (L : Cell K) (l m n : Nat) : (L.scale l m n).cr = L.cr / (n : K) := div_mul_mul_eq _ _ _ _

/-- the formula of `setLatPar` for `stdbase`, evaluated at the multiplied lengths, is
`diag(l,m,n)` times the formula at the original lengths (no side condition: only field algebra) -/
theorem stdbase_scale (L : Cell K) (l m n : Nat) :
    (L.scale l m n).stdbase = (diag (l : K) m n).mul L.stdbase := by
  rw [diag_mul]
  simp only [Cell.stdbase, ar_scale]
  apply Mat3.ext' <;>
    simp only [Cell.cgr, Cell.sgr, Cell.ca, Cell.cb, Cell.cg, Cell.sa, Cell.sb, Cell.scale, mul_zero,
      div_eq_mul_inv, mul_inv, inv_inv] <;> ring

theorem base_scale (L : Cell K) (l m n : Nat) :
    (L.scale l m n).base = (diag (l : K) m n).mul L.base := by
  simp only [Cell.base, stdbase_scale, Mat3.mul_assoc]
  rfl

theorem base_scale_rows (L : Cell K) (l m n : Nat) :
    (L.scale l m n).base.row1 = Vec3.smul (l : K) L.base.row1 ∧
    (L.scale l m n).base.row2 = Vec3.smul (m : K) L.base.row2 ∧
    (L.scale l m n).base.row3 = Vec3.smul (n : K) L.base.row3 := by
  rw [base_scale, diag_mul]; exact ⟨rfl, rfl, rfl⟩

theorem normbase_eq (L : Cell K) : L.normbase = (diag L.ar L.br L.cr).mul L.base := by
  simp only [Cell.normbase, diag_mul, mul_comm]

theorem recnormbase_eq (L : Cell K) :
    L.recnormbase = L.recbase.mul (diag (1 / L.ar) (1 / L.br) (1 / L.cr)) := by
  simp only [Cell.recnormbase, Mat3.mul, diag, mul_zero, add_zero, zero_add, mul_one_div]

theorem normbase_scale (L : Cell K) {l m n : Nat} (hl : (l : K) ≠ 0) (hm : (m : K) ≠ 0) (hn : (n : K) ≠ 0) :
    (L.scale l m n).normbase = L.normbase := by
  rw [normbase_eq, normbase_eq, base_scale, ar_scale, br_scale, cr_scale, ← Mat3.mul_assoc, diag_mul_diag,
    div_mul_cancel₀ _ hl, div_mul_cancel₀ _ hm, div_mul_cancel₀ _ hn]

/-- `recbase` of the multiplied cell: columns divided by the multipliers -/
theorem recbase_scale (L : Cell K) {l m n : Nat} (hl : (l : K) ≠ 0) (hm : (m : K) ≠ 0) (hn : (n : K) ≠ 0) :
    (L.scale l m n).recbase = L.recbase.mul (diag (1 / (l : K)) (1 / (m : K)) (1 / (n : K))) := by
  rw [Cell.recbase, base_scale, Mat3.inv_mul_rev, inv_diag hl hm hn, Cell.recbase]

omit [Elem K] in
theorem one_div_mul_one_div_div {l : K} (hl : l ≠ 0) (a : K) : 1 / l * (1 / (a / l)) = 1 / a := by
  rw [one_div_mul_one_div, mul_div_cancel₀ _ hl]

theorem recnormbase_scale (L : Cell K) {l m n : Nat} (hl : (l : K) ≠ 0) (hm : (m : K) ≠ 0) (hn : (n : K) ≠ 0) :
    (L.scale l m n).recnormbase = L.recnormbase := by
  rw [recnormbase_eq, recnormbase_eq, recbase_scale L hl hm hn, ar_scale, br_scale, cr_scale, Mat3.mul_assoc,
    diag_mul_diag, one_div_mul_one_div_div hl, one_div_mul_one_div_div hm, one_div_mul_one_div_div hn]

/-- a site given in the multiplied cell as `(x + n)/mno` is the point `x + n` of the original cell -/
theorem cart_scale_div (L : Cell K) {l m n : Nat} (hl : (l : K) ≠ 0) (hm : (m : K) ≠ 0)
    (hn : (n : K) ≠ 0) (u : Vec3 K) :
    (L.scale l m n).cartesian ⟨u.x / l, u.y / m, u.z / n⟩ = L.cartesian u := by
  rw [Cell.cartesian, base_scale, ← Mat3.vecMul_mul]
  simp only [Mat3.vecMul, diag, mul_zero, add_zero, zero_add, div_mul_cancel₀ _ hl, div_mul_cancel₀ _ hm,
    div_mul_cancel₀ _ hn]
  rfl

/-- Cartesian position of an image in the multiplied cell = Cartesian position of the parent in the
original cell + `i·a⃗ + j·b⃗ + k·c⃗` (rows of the original `base`) -/
theorem image_cart (L : Cell K) (a : Atom K β) {l m n : Nat} (hl : (l : K) ≠ 0) (hm : (m : K) ≠ 0)
    (hn : (n : K) ≠ 0) (t : Nat × Nat × Nat) :
    (L.scale l m n).cartesian (image l m n a t).xyz =
      (L.cartesian a.xyz).add ((Vec3.smul (t.1 : K) L.base.row1).add
        ((Vec3.smul (t.2.1 : K) L.base.row2).add (Vec3.smul (t.2.2 : K) L.base.row3))) := by
  -- the image sits at `(xyz + t)/(l, m, n)`; what remains is linearity of `u ↦ u·base`
  refine (cart_scale_div L hl hm hn ⟨a.xyz.x + t.1, a.xyz.y + t.2.1, a.xyz.z + t.2.2⟩).trans ?_
  simp only [Cell.cartesian, Mat3.vecMul, Vec3.add, Vec3.smul, Mat3.row1, Mat3.row2, Mat3.row3, Vec3.mk.injEq]
  refine ⟨?_, ?_, ?_⟩ <;> ring
end field

/-! ### the `(1,1,1)` shortcut and the general path -/

section field
variable {K β : Type} [Field K]

theorem image_one (a : Atom K β) : image 1 1 1 a (0, 0, 0) = a := by
  cases a; simp [image]

theorem images_one (a : Atom K β) : images 1 1 1 a = [a] := by
  simp [images, ijkList, image_one]

theorem scale_one (L : Cell K) : L.scale 1 1 1 = L := by
  cases L; simp [Cell.scale]

theorem supercellGen_one (S : Stru K β) : supercellGen S 1 1 1 = S := by
  have h : (images 1 1 1 : Atom K β → _) = fun a => [a] := funext images_one
  cases S; simp [supercellGen, scale_one, h]

theorem supercell_eq (S : Stru K β) {l m n : Nat} (hl : 1 ≤ l) (hm : 1 ≤ m) (hn : 1 ≤ n) :
    supercell S [(l : Int), (m : Int), (n : Int)] = .ok (supercellGen S l m n) := by
  have h : ¬ (min (l : Int) (min (m : Int) (n : Int)) < 1) := by omega
  simp only [supercell, List.length_cons, List.length_nil, ne_eq, not_true_eq_false, if_false, h,
    Int.toNat_natCast]
  split
  · next h1 =>
    simp only [Prod.mk.injEq] at h1
    obtain ⟨rfl, rfl, rfl⟩ := h1
    rw [supercellGen_one]
  · rfl

end field

/-! ### two-step rearrangement -/

section twostep
variable {K β : Type} [Field K]

theorem cne [CharZero K] {x : Nat} (h : 0 < x) : (x : K) ≠ 0 := Nat.cast_ne_zero.2 (Nat.pos_iff_ne_zero.1 h)

/-- index of the one-step image that a two-step image `(t₁ then t₂)` lands on -/
def comb (l m n : Nat) (t1 t2 : Nat × Nat × Nat) : Nat × Nat × Nat :=
  (t1.1 + l * t2.1, t1.2.1 + m * t2.2.1, t1.2.2 + n * t2.2.2)

theorem image_image (a : Atom K β) {l1 m1 n1 : Nat} (l2 m2 n2 : Nat) (h1 : (l1 : K) ≠ 0) (h2 : (m1 : K) ≠ 0)
    (h3 : (n1 : K) ≠ 0) (t1 t2 : Nat × Nat × Nat) :
    image l2 m2 n2 (image l1 m1 n1 a t1) t2
      = image (l1 * l2) (m1 * m2) (n1 * n2) a (comb l1 m1 n1 t1 t2) := by
  have c : ∀ {l : K}, l ≠ 0 → ∀ x i j m : K, ((x + i) / l + j) / m = (x + (i + l * j)) / (l * m) :=
    fun hl x i j m => by rw [div_add' _ _ _ hl, div_div, add_assoc, mul_comm j]
  simp only [image, comb, Nat.cast_add, Nat.cast_mul, c h1, c h2, c h3]

theorem comb1_lt {l1 l2 i1 i2 : Nat} (h1 : i1 < l1) (h2 : i2 < l2) : i1 + l1 * i2 < l1 * l2 := by
  calc i1 + l1 * i2 < l1 + l1 * i2 := by omega
    _ = l1 * (i2 + 1) := by ring
    _ ≤ l1 * l2 := Nat.mul_le_mul_left _ h2

theorem comb1_inj {l1 i1 i2 j1 j2 : Nat} (h1 : i1 < l1) (h2 : j1 < l1)
    (h : i1 + l1 * i2 = j1 + l1 * j2) : i1 = j1 ∧ i2 = j2 := by
  have hm := congrArg (· % l1) h
  have hd := congrArg (· / l1) h
  simp only [Nat.add_mul_mod_self_left, Nat.mod_eq_of_lt h1, Nat.mod_eq_of_lt h2] at hm
  have hpos : 0 < l1 := by omega
  simp only [Nat.add_mul_div_left _ _ hpos, Nat.div_eq_of_lt h1, Nat.div_eq_of_lt h2, Nat.zero_add] at hd
  exact ⟨hm, hd⟩

theorem comb_perm {l1 m1 n1 : Nat} (l2 m2 n2 : Nat) (h1 : 0 < l1) (h2 : 0 < m1) (h3 : 0 < n1) :
    ((ijkList l1 m1 n1).flatMap fun t1 => (ijkList l2 m2 n2).map (comb l1 m1 n1 t1)).Perm
      (ijkList (l1 * l2) (m1 * m2) (n1 * n2)) := by
  refine (List.perm_ext_iff_of_nodup ?_ (nodup_ijkList _ _ _)).2 ?_
  · refine List.nodup_flatMap.2 ⟨fun t1 ht1 => ?_, ?_⟩
    · refine (nodup_ijkList _ _ _).map_on ?_
      rintro ⟨a, b, c⟩ _ ⟨a', b', c'⟩ _ h
      obtain ⟨x, y, z⟩ := t1
      have ht := mem_ijkList.1 ht1
      simp only [comb, Prod.mk.injEq] at h ht ⊢
      exact ⟨(comb1_inj ht.1 ht.1 h.1).2, (comb1_inj ht.2.1 ht.2.1 h.2.1).2, (comb1_inj ht.2.2 ht.2.2 h.2.2).2⟩
    · refine (nodup_ijkList _ _ _).imp_of_mem ?_
      rintro ⟨x, y, z⟩ ⟨x', y', z'⟩ hx hx' hne
      have ht := mem_ijkList.1 hx
      have ht' := mem_ijkList.1 hx'
      simp only [Function.onFun, List.disjoint_left, List.mem_map]
      rintro _ ⟨⟨a, b, c⟩, _, rfl⟩ ⟨⟨a', b', c'⟩, _, h⟩
      simp only [comb, Prod.mk.injEq] at h ht ht'
      apply hne
      rw [(comb1_inj ht'.1 ht.1 h.1).1, (comb1_inj ht'.2.1 ht.2.1 h.2.1).1, (comb1_inj ht'.2.2 ht.2.2 h.2.2).1]
  · rintro ⟨i, j, k⟩
    simp only [List.mem_flatMap, List.mem_map, mem_ijkList]
    constructor
    · rintro ⟨⟨x, y, z⟩, ht1, ⟨a, b, c⟩, ht2, h⟩
      simp only [comb, Prod.mk.injEq] at h ht1 ht2
      obtain ⟨rfl, rfl, rfl⟩ := h
      exact ⟨comb1_lt ht1.1 ht2.1, comb1_lt ht1.2.1 ht2.2.1, comb1_lt ht1.2.2 ht2.2.2⟩
    · rintro ⟨hi, hj, hk⟩
      exact ⟨(i % l1, j % m1, k % n1), ⟨Nat.mod_lt _ h1, Nat.mod_lt _ h2, Nat.mod_lt _ h3⟩,
        (i / l1, j / m1, k / n1),
        ⟨Nat.div_lt_of_lt_mul hi, Nat.div_lt_of_lt_mul hj, Nat.div_lt_of_lt_mul hk⟩,
        by simp only [comb, Nat.mod_add_div]⟩


theorem two_step_images (a : Atom K β) {l1 m1 n1 : Nat} (l2 m2 n2 : Nat) (h1 : 0 < l1) (h2 : 0 < m1)
    (h3 : 0 < n1) [CharZero K] :
    ((images l1 m1 n1 a).flatMap (images l2 m2 n2)).Perm (images (l1 * l2) (m1 * m2) (n1 * n2) a) := by
  have e : (images l1 m1 n1 a).flatMap (images l2 m2 n2)
      = ((ijkList l1 m1 n1).flatMap fun t1 => (ijkList l2 m2 n2).map (comb l1 m1 n1 t1)).map
          (image (l1 * l2) (m1 * m2) (n1 * n2) a) := by
    simp only [images, List.flatMap_map, List.map_flatMap, List.map_map]
    refine List.flatMap_congr fun t1 _ => List.map_congr_left fun t2 _ => ?_
    exact image_image a l2 m2 n2 (cne h1) (cne h2) (cne h3) t1 t2
  rw [e]
  exact (comb_perm l2 m2 n2 h1 h2 h3).map _

theorem two_step_atoms (as : List (Atom K β)) {l1 m1 n1 : Nat} (l2 m2 n2 : Nat) (h1 : 0 < l1) (h2 : 0 < m1)
    (h3 : 0 < n1) [CharZero K] :
    ((as.flatMap (images l1 m1 n1)).flatMap (images l2 m2 n2)).Perm
      (as.flatMap (images (l1 * l2) (m1 * m2) (n1 * n2))) := by
  rw [List.flatMap_assoc]
  exact List.Perm.flatMap_left _ fun a _ => two_step_images a l2 m2 n2 h1 h2 h3

theorem scale_scale (L : Cell K) (l1 m1 n1 l2 m2 n2 : Nat) :
    (L.scale l1 m1 n1).scale l2 m2 n2 = L.scale (l1 * l2) (m1 * m2) (n1 * n2) := by
  cases L
  simp only [Cell.scale, Cell.mk.injEq, and_true]
  push_cast
  refine ⟨?_, ?_, ?_⟩ <;> ring

end twostep

/-! ### rejection -/
section reject
variable {α β : Type} [Add α] [Mul α] [Div α] [NatCast α]

theorem list3 {γ : Type} (xs : List γ) (h : xs.length = 3) : ∃ a b c, xs = [a, b, c] := by
  rcases xs with _ | ⟨a, _ | ⟨b, _ | ⟨c, _ | ⟨d, t⟩⟩⟩⟩ <;> simp at h ⊢

theorem supercell_three (S : Stru α β) (l m n : Int) :
    supercell S [l, m, n] =
      if min l (min m n) < 1 then .error .ValueError
      else if (l.toNat, m.toNat, n.toNat) = (1, 1, 1) then .ok S
      else .ok (supercellGen S l.toNat m.toNat n.toNat) := by
  simp [supercell]

theorem supercell_badlen (S : Stru α β) (mno : List Int) (h : mno.length ≠ 3) :
    supercell S mno = .error .ValueError := by
  simp [supercell, h]

theorem supercell_error (S : Stru α β) (mno : List Int) :
    (∃ e, supercell S mno = .error e) ↔ (mno.length ≠ 3 ∨ ∃ x ∈ mno, x < 1) := by
  by_cases hlen : mno.length ≠ 3
  · simp [supercell_badlen S mno hlen, hlen]
  · obtain ⟨l, m, n, rfl⟩ := list3 mno (by simpa using hlen)
    rw [supercell_three]
    simp only [List.length_cons, List.length_nil, ne_eq, not_true_eq_false, false_or, List.mem_cons,
      List.not_mem_nil, or_false, exists_eq_or_imp, exists_eq_left]
    by_cases hmin : min l (min m n) < 1
    · simp only [hmin, if_true]
      exact ⟨fun _ => by omega, fun _ => ⟨_, rfl⟩⟩
    · simp only [hmin, if_false]
      constructor
      · rintro ⟨e, he⟩; split at he <;> cases he
      · intro h; omega

theorem supercell_error_kind (S : Stru α β) (mno : List Int) (e : Err) (h : supercell S mno = .error e) :
    e = .ValueError := by
  by_cases hlen : mno.length ≠ 3
  · rw [supercell_badlen S mno hlen] at h; cases h; rfl
  · obtain ⟨l, m, n, rfl⟩ := list3 mno (by simpa using hlen)
    rw [supercell_three] at h
    split at h
    · cases h; rfl
    · split at h <;> cases h

theorem supercell_ok_inv (S : Stru α β) (mno : List Int) (T : Stru α β) (h : supercell S mno = .ok T) :
    ∃ l m n : Nat, 1 ≤ l ∧ 1 ≤ m ∧ 1 ≤ n ∧ mno = [(l : Int), (m : Int), (n : Int)] := by
  have hne : ¬ ∃ e, supercell S mno = .error e := by rintro ⟨e, he⟩; rw [h] at he; cases he
  rw [supercell_error] at hne
  simp only [not_or, not_exists, not_and, ne_eq, not_not, not_lt] at hne
  obtain ⟨hlen, hall⟩ := hne
  obtain ⟨l, m, n, rfl⟩ := list3 mno hlen
  have hl := hall l (by simp); have hm := hall m (by simp); have hn := hall n (by simp)
  exact ⟨l.toNat, m.toNat, n.toNat, by omega, by omega, by omega, by
    simp only [List.cons.injEq, and_true]; omega⟩
end reject

/-! ### fresh allocation -/
section heap
variable {α β : Type}

theorem read_fresh (A B : List (Atom α β)) :
    (List.range' A.length B.length).filterMap (fun i => (A ++ B)[i]?) = B := by
  induction B generalizing A with
  | nil => simp
  | cons b B ih =>
    have h := ih (A ++ [b])
    simp only [List.length_append, List.length_cons, List.length_nil, List.append_assoc,
      List.cons_append, List.nil_append, Nat.zero_add] at h
    simp only [List.length_cons, List.range'_succ, List.filterMap_cons]
    rw [List.getElem?_append_right (Nat.le_refl _)]
    simp only [Nat.sub_self, List.getElem?_cons_zero]
    rw [h]

theorem read_old (A B : List (Atom α β)) (refs : List Nat) (h : ∀ r ∈ refs, r < A.length) :
    refs.filterMap (fun i => (A ++ B)[i]?) = refs.filterMap (fun i => A[i]?) := by
  induction refs with
  | nil => rfl
  | cons r rs ih =>
    have hr := h r (by simp)
    simp only [List.filterMap_cons, List.getElem?_append_left hr]
    rw [ih (fun x hx => h x (by simp [hx]))]

end heap


/-! ### findCenter / makeEllipsoid: control flow (any scalar type) -/
section flow
variable {α β : Type} [Add α] [Mul α] [Sub α] [Neg α] [Div α] [OfNat α 0] [OfNat α 1] [OfNat α 2]
  [Elem α] [NatCast α] [LT α] [DecidableRel (α := α) (· < ·)] [IntCeil α]

theorem findCenterAux_bound (L : Cell α) (as : List (Atom α β)) (i : Nat) (best : Option Nat) (bestd : α)
    (j : Nat) (h : findCenterAux L as i best bestd = some j) :
    best = some j ∨ (i ≤ j ∧ j < i + as.length) := by
  induction as generalizing i best bestd with
  | nil => left; simpa [findCenterAux] using h
  | cons a as ih =>
    simp only [findCenterAux] at h
    split at h
    · rcases ih _ _ _ h with h' | h'
      · right; cases h'; simp
      · right; simp only [List.length_cons]; omega
    · rcases ih _ _ _ h with h' | h'
      · left; exact h'
      · right; simp only [List.length_cons]; omega

theorem findCenter_lt (T : Stru α β) (j : Nat) (h : findCenter T = some j) : j < T.atoms.length := by
  rcases findCenterAux_bound _ _ _ _ _ _ h with h' | h'
  · cases h'
  · omega

theorem centreIndex_lt (T : Stru α β) (nc : Nat) (h : centreIndex T = some nc) : nc < T.atoms.length := by
  unfold centreIndex at h
  split at h
  · next i hi => cases h; exact findCenter_lt T _ hi
  · split at h
    · cases h
    · cases h; omega

/-- `newS[ncenter]` raises only on a structure without atoms -/
theorem centreIndex_eq_none (T : Stru α β) : centreIndex T = none ↔ T.atoms = [] := by
  unfold centreIndex
  split
  · next i hi =>
    have hlt := findCenter_lt T i hi
    refine ⟨nofun, fun h => ?_⟩
    rw [h] at hlt; exact absurd hlt (Nat.not_lt_zero _)
  · split
    · next h0 => exact ⟨fun _ => List.eq_nil_of_length_eq_zero h0, fun _ => rfl⟩
    · next h0 => exact ⟨nofun, fun h => absurd (by rw [h]; rfl) h0⟩

theorem ellipsoidWith_ok (S : Stru α β) (sabc : Vec3 α) (k : Int) (R : Stru α β)
    (h : ellipsoidWith S sabc k = .ok R) :
    ∃ T nc ca, supercell S [k, k, k] = .ok T ∧ centreIndex T = some nc ∧ T.atoms[nc]? = some ca ∧
      R = ⟨T.cell, T.atoms.filter (keeps T.cell sabc (T.cell.cartesian ca.xyz))⟩ := by
  unfold ellipsoidWith at h
  split at h
  · cases h
  · next T hT =>
    split at h
    · cases h
    · next nc hnc =>
      unfold cutWith at h
      split at h
      · cases h
      · next ca hca =>
        cases h
        exact ⟨T, nc, ca, hT, hnc, hca, rfl⟩

/-- the only errors: `ValueError` from `supercell` (block multiplier < 1), `IndexError` (no atoms) -/
theorem ellipsoidWith_error (S : Stru α β) (sabc : Vec3 α) (k : Int) (e : Err)
    (h : ellipsoidWith S sabc k = .error e) :
    (e = .ValueError ∧ k < 1) ∨ (e = .IndexError ∧ S.atoms = [] ∧ 1 ≤ k) := by
  unfold ellipsoidWith at h
  split at h
  · next e' he' =>
    cases h
    left
    refine ⟨supercell_error_kind _ _ _ he', ?_⟩
    have := (supercell_error S [k, k, k]).1 ⟨_, he'⟩
    simpa using this
  · next T hT =>
    have hk : 1 ≤ k := by
      obtain ⟨l, m, n, hl, _, _, hmno⟩ := supercell_ok_inv _ _ _ hT
      simp only [List.cons.injEq, and_true] at hmno
      omega
    split at h
    · next hnc =>
      cases h
      right
      refine ⟨rfl, ?_, hk⟩
      have hT0 : T.atoms = [] := (centreIndex_eq_none T).1 hnc
      rw [supercell_three] at hT
      split at hT
      · cases hT
      · split at hT
        · cases hT; exact hT0
        · cases hT
          -- every parent has at least the image `(0,0,0)`
          simp only [supercellGen, List.flatMap_eq_nil_iff] at hT0
          refine List.eq_nil_iff_forall_not_mem.2 fun a ha => ?_
          have h0 : (0, 0, 0) ∈ ijkList k.toNat k.toNat k.toNat := mem_ijkList.2 (by simp only; omega)
          have hi : image _ _ _ a (0, 0, 0) ∈ images k.toNat k.toNat k.toNat a := List.mem_map_of_mem h0
          rw [hT0 a ha] at hi
          exact List.not_mem_nil hi
    · next nc hnc =>
      unfold cutWith at h
      split at h
      · next hnone =>
        have := centreIndex_lt T nc hnc
        simp only [List.getElem?_eq_none_iff] at hnone
        omega
      · cases h

end flow

/-! ### no site twice -/
section nodup
variable {K β : Type} [Field K] [CharZero K]

/-- two fractional positions denote the same crystal site up to a lattice translation -/
def LatEquiv (u v : Vec3 K) : Prop :=
  ∃ p q r : ℤ, u.x - v.x = p ∧ u.y - v.y = q ∧ u.z - v.z = r

theorem image_xyz_inj (a : Atom K β) {l m n : Nat} (hl : 0 < l) (hm : 0 < m) (hn : 0 < n)
    (t t' : Nat × Nat × Nat) (h : (image l m n a t).xyz = (image l m n a t').xyz) : t = t' := by
  simp only [image, Vec3.mk.injEq, div_left_inj' (cne (K := K) hl), div_left_inj' (cne (K := K) hm),
    div_left_inj' (cne (K := K) hn), add_right_inj, Nat.cast_inj] at h
  exact Prod.ext h.1 (Prod.ext h.2.1 h.2.2)

theorem image_xyz_latEquiv (a b : Atom K β) {l m n : Nat} (hl : 0 < l) (hm : 0 < m) (hn : 0 < n)
    (t t' : Nat × Nat × Nat) (h : (image l m n a t).xyz = (image l m n b t').xyz) :
    LatEquiv a.xyz b.xyz := by
  simp only [image, Vec3.mk.injEq, div_left_inj' (cne (K := K) hl), div_left_inj' (cne (K := K) hm),
    div_left_inj' (cne (K := K) hn)] at h
  refine ⟨(t'.1 : ℤ) - t.1, (t'.2.1 : ℤ) - t.2.1, (t'.2.2 : ℤ) - t.2.2, ?_, ?_, ?_⟩ <;> push_cast
  · linear_combination h.1
  · linear_combination h.2.1
  · linear_combination h.2.2

theorem nodup_xyz_images (as : List (Atom K β)) {l m n : Nat} (hl : 0 < l) (hm : 0 < m) (hn : 0 < n)
    (h : as.Pairwise (fun a b => ¬ LatEquiv a.xyz b.xyz)) :
    ((as.flatMap (images l m n)).map (·.xyz)).Nodup := by
  rw [List.map_flatMap]
  refine List.nodup_flatMap.2 ⟨fun a _ => ?_, ?_⟩
  · simp only [images, List.map_map]
    refine (nodup_ijkList l m n).map_on ?_
    intro t _ t' _ ht
    exact image_xyz_inj a hl hm hn t t' ht
  · refine h.imp ?_
    intro a b hab
    simp only [Function.onFun, List.disjoint_left, images, List.map_map, List.mem_map, Function.comp]
    rintro x ⟨t, _, rfl⟩ ⟨t', _, ht'⟩
    exact hab (image_xyz_latEquiv a b hl hm hn t t' ht'.symm)

end nodup

/-! ### the ellipsoid test over ℝ -/
noncomputable instance : IntCeil ℝ := ⟨fun x => ⌈x⌉⟩

section real
variable {β : Type}

/-- `(x/a)² + (y/b)² + (z/c)²` of a Cartesian point relative to the centre -/
noncomputable def ellQ (sabc c r : Vec3 ℝ) : ℝ :=
  ((r.x - c.x) / sabc.x) ^ 2 + ((r.y - c.y) / sabc.y) ^ 2 + ((r.z - c.z) / sabc.z) ^ 2

theorem ellQ_nonneg (sabc c r : Vec3 ℝ) : 0 ≤ ellQ sabc c r := by unfold ellQ; positivity

theorem ellD_eq (sabc c r : Vec3 ℝ) : ellD sabc c r = Real.sqrt (ellQ sabc c r) := by
  simp only [ellD, ellQ, Elem.sqrt]
  congr 1; ring

theorem keeps_iff (L : Cell ℝ) (sabc c : Vec3 ℝ) (a : Atom ℝ β) :
    keeps L sabc c a = true ↔ ellQ sabc c (L.cartesian a.xyz) ≤ 1 := by
  simp only [keeps, Bool.not_eq_true', decide_eq_false_iff_not, not_lt, ellD_eq]
  rw [Real.sqrt_le_left (by norm_num : (0 : ℝ) ≤ 1)]
  norm_num

theorem ellQ_self (sabc c : Vec3 ℝ) : ellQ sabc c c = 0 := by simp [ellQ]

/-- a fractional position inside the unit cell `[0,1)³` -/
def InCell (u : Vec3 ℝ) : Prop := 0 ≤ u.x ∧ u.x < 1 ∧ 0 ≤ u.y ∧ u.y < 1 ∧ 0 ≤ u.z ∧ u.z < 1

theorem int_of_small {p : ℤ} {x y : ℝ} (hx0 : 0 ≤ x) (hx1 : x < 1) (hy0 : 0 ≤ y) (hy1 : y < 1)
    (h : x - y = p) : x = y := by
  have h1 : (p : ℝ) < 1 := by linarith
  have h2 : (-1 : ℝ) < p := by linarith
  norm_cast at h1 h2
  have : p = 0 := by omega
  rwa [this, Int.cast_zero, sub_eq_zero] at h

theorem latEquiv_inCell {u v : Vec3 ℝ} (hu : InCell u) (hv : InCell v) (h : LatEquiv u v) : u = v := by
  obtain ⟨p, q, r, h1, h2, h3⟩ := h
  obtain ⟨a1, a2, a3, a4, a5, a6⟩ := hu
  obtain ⟨b1, b2, b3, b4, b5, b6⟩ := hv
  cases u; cases v
  simp only [Vec3.mk.injEq]
  exact ⟨int_of_small a1 a2 b1 b2 h1, int_of_small a3 a4 b3 b4 h2, int_of_small a5 a6 b5 b6 h3⟩

end real

/-! ### makeEllipsoid on the heap -/

section heapell
variable {α β : Type} [Add α] [Mul α] [Sub α] [Neg α] [Div α] [OfNat α 0] [OfNat α 1] [OfNat α 2]
  [Elem α] [NatCast α] [LT α] [DecidableRel (α := α) (· < ·)] [IntCeil α]

theorem filterMap_filter_refs (A : List (Atom α β)) (q : Atom α β → Bool) (refs : List Nat) :
    (refs.filter (refTest A q)).filterMap (A[·]?)
      = (refs.filterMap (A[·]?)).filter q := by
  induction refs with
  | nil => rfl
  | cons r rs ih =>
    cases hr : A[r]? with
    | none => simp [refTest, hr, ih]
    | some p =>
      by_cases hq : q p = true
      · simp [refTest, hr, hq, ih]
      · simp [refTest, hr, hq, ih]

/-- a successful run allocated its block through `supercellH` and kept some of the block's references -/
theorem ellipsoidWithH_ok (h : Heap α β) (S : HStru α) (sabc : Vec3 α) (k : Int) (h' : Heap α β) (R : HStru α)
    (run : ellipsoidWithH h S sabc k = .ok (h', R)) :
    ∃ T, supercellH h S [k, k, k] = .ok (h', T) ∧ ∀ r ∈ R.refs, r ∈ T.refs := by
  unfold ellipsoidWithH at run
  split at run
  · cases run
  · next h'' T hT =>
    split at run
    · cases run
    · split at run
      · cases run
      · cases run
        exact ⟨T, hT, fun r hr => (List.mem_filter.1 hr).1⟩

/-- the value computed on the heap is the value of the pure model on the input's value -/
theorem ellipsoidWithH_value (h : Heap α β) (S : HStru α) (sabc : Vec3 α) (k : Int) :
    (ellipsoidWithH h S sabc k).map (fun p => p.2.value p.1) = ellipsoidWith (S.value h) sabc k := by
  unfold ellipsoidWithH ellipsoidWith supercellH
  cases hT : supercell (S.value h) [k, k, k] with
  | error e => rfl
  | ok T =>
    have hv : (HStru.value (⟨h.atoms ++ T.atoms⟩ : Heap α β)
        ⟨T.cell, List.range' h.atoms.length T.atoms.length⟩) = T := by
      simp only [HStru.value, Heap.read, read_fresh]
    simp only [hv]
    cases hc : centreIndex T with
    | none => rfl
    | some nc =>
      simp only [cutWith]
      cases hca : T.atoms[nc]? with
      | none => rfl
      | some ca =>
        simp only [Except.map, HStru.value, Heap.read, filterMap_filter_refs, read_fresh]

end heapell

/-! ### what `findCenter` returns (over ℝ) -/
section fc
variable {β : Type}

/-- the distance `findCenter` minimises -/
noncomputable def dmid (L : Cell ℝ) (a : Atom ℝ β) : ℝ := L.dist a.xyz ⟨1 / 2, 1 / 2, 1 / 2⟩

theorem findCenterAux_spec (L : Cell ℝ) (as : List (Atom ℝ β)) (i : Nat) (best : Option Nat) (bestd : ℝ) :
    (findCenterAux L as i best bestd = best ∧ ∀ a ∈ as, bestd ≤ dmid L a) ∨
    (∃ pre c post, as = pre ++ c :: post ∧ findCenterAux L as i best bestd = some (i + pre.length) ∧
      dmid L c < bestd ∧ (∀ p ∈ pre, dmid L c < dmid L p) ∧ (∀ p ∈ post, dmid L c ≤ dmid L p)) := by
  induction as generalizing i best bestd with
  | nil => left; simp [findCenterAux]
  | cons a as ih =>
    -- the loop goes on with a bound `b ≤ bestd`, `b ≤ dmid a` (the smaller of the two); a later atom that
    -- improves on `b` strictly is the answer for the whole list
    have later : ∀ best' b, b ≤ bestd → b ≤ dmid L a →
        (∃ pre c post, as = pre ++ c :: post ∧ findCenterAux L as (i + 1) best' b = some (i + 1 + pre.length) ∧
          dmid L c < b ∧ (∀ p ∈ pre, dmid L c < dmid L p) ∧ (∀ p ∈ post, dmid L c ≤ dmid L p)) →
        ∃ pre c post, a :: as = pre ++ c :: post ∧ findCenterAux L as (i + 1) best' b = some (i + pre.length) ∧
          dmid L c < bestd ∧ (∀ p ∈ pre, dmid L c < dmid L p) ∧ (∀ p ∈ post, dmid L c ≤ dmid L p) := by
      rintro best' b hb ha ⟨pre, c, post, e, h1, h2, h3, h4⟩
      refine ⟨a :: pre, c, post, by rw [e]; rfl, ?_, lt_of_lt_of_le h2 hb,
        List.forall_mem_cons.2 ⟨lt_of_lt_of_le h2 ha, h3⟩, h4⟩
      rw [h1, List.length_cons]; congr 1; omega
    simp only [findCenterAux]
    by_cases hlt : L.dist a.xyz ⟨1 / 2, 1 / 2, 1 / 2⟩ < bestd
    · rw [if_pos hlt]
      rcases ih (i + 1) (some i) (L.dist a.xyz ⟨1 / 2, 1 / 2, 1 / 2⟩) with ⟨h1, h2⟩ | h
      · exact Or.inr ⟨[], a, as, rfl, h1, hlt, nofun, h2⟩
      · exact Or.inr (later _ _ hlt.le le_rfl h)
    · rw [if_neg hlt]
      rcases ih (i + 1) best bestd with ⟨h1, h2⟩ | h
      · exact Or.inl ⟨h1, List.forall_mem_cons.2 ⟨not_lt.1 hlt, h2⟩⟩
      · exact Or.inr (later _ _ le_rfl (not_lt.1 hlt) h)
/-- `centreIndex` picks the first atom at minimal distance from the middle `(½,½,½)` of the cell,
provided that distance is below `len(S)`; otherwise (every atom at least `len(S)` away) the last atom -/
theorem centreIndex_spec (T : Stru ℝ β) (nc : Nat) (h : centreIndex T = some nc) :
    (∃ pre c post, T.atoms = pre ++ c :: post ∧ nc = pre.length ∧
      (∀ p ∈ pre, dmid T.cell c < dmid T.cell p) ∧ (∀ p ∈ post, dmid T.cell c ≤ dmid T.cell p)) ∨
    (T.atoms ≠ [] ∧ nc = T.atoms.length - 1 ∧ ∀ p ∈ T.atoms, (T.atoms.length : ℝ) ≤ dmid T.cell p) := by
  unfold centreIndex findCenter at h
  rcases findCenterAux_spec T.cell T.atoms 0 none (T.atoms.length : ℝ) with ⟨h1, h2⟩ | ⟨pre, c, post, e, h1, _, h3, h4⟩
  · rw [h1] at h
    simp only at h
    split at h
    · cases h
    · next hne =>
      cases h
      exact Or.inr ⟨fun h0 => hne (by simp [h0]), rfl, h2⟩
  · rw [h1] at h
    simp only [Nat.zero_add, Option.some.injEq] at h
    exact Or.inl ⟨pre, c, post, e, h.symm, h3, h4⟩

end fc

/-! ### labelling block atoms by (parent index, translation) -/

section label
variable {α β : Type} [Add α] [Mul α] [Div α] [NatCast α]

/-- the block atoms labelled by (index of the parent in the input, box translation) -/
def labelled (as : List (Atom α β)) (l m n : Nat) : List (Nat × (Nat × Nat × Nat) × Atom α β) :=
  as.zipIdx.flatMap fun ap => (ijkList l m n).map fun t => (ap.2, t, image l m n ap.1 t)

theorem labelled_atoms (as : List (Atom α β)) (l m n : Nat) :
    (labelled as l m n).map (·.2.2) = as.flatMap (images l m n) := by
  simp only [labelled, List.map_flatMap, List.map_map, Function.comp_def]
  conv_rhs => rw [← List.zipIdx_map_fst 0 as, List.flatMap_map]
  rfl

theorem labelled_keys_nodup (as : List (Atom α β)) (l m n : Nat) :
    ((labelled as l m n).map fun x => (x.1, x.2.1)).Nodup := by
  simp only [labelled, List.map_flatMap, List.map_map, Function.comp_def]
  refine List.nodup_flatMap.2 ⟨fun ap _ => ?_, ?_⟩
  · exact (nodup_ijkList l m n).map (fun a b h => by simpa using h)
  · have h := List.nodup_zipIdx_map_snd as
    rw [List.Nodup, List.pairwise_map] at h
    refine h.imp ?_
    intro a b hab
    simp only [Function.onFun, List.disjoint_left, List.mem_map]
    rintro x ⟨t, _, rfl⟩ ⟨t', _, ht'⟩
    simp only [Prod.mk.injEq] at ht'
    exact hab ht'.1.symm

theorem labelled_mem (as : List (Atom α β)) (l m n : Nat) (x : Nat × (Nat × Nat × Nat) × Atom α β)
    (hx : x ∈ labelled as l m n) :
    ∃ a, as[x.1]? = some a ∧ x.2.1 ∈ ijkList l m n ∧ x.2.2 = image l m n a x.2.1 := by
  simp only [labelled, List.mem_flatMap, List.mem_map] at hx
  obtain ⟨ap, hap, t, ht, rfl⟩ := hx
  exact ⟨ap.1, List.mem_zipIdx_iff_getElem?.1 hap, ht, rfl⟩

end label

end DS.Expand

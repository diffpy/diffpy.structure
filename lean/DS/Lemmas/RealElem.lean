import DS.Lemmas.Mat3
import Mathlib.Analysis.SpecialFunctions.Trigonometric.Inverse
import Mathlib.Tactic.Ring
import Mathlib.Tactic.FieldSimp
import Mathlib.Tactic.LinearCombination
import Mathlib.Algebra.Order.Floor.Ring

/-!
`Elem ℝ`: the instance at which the scalar-generic geometry models are reasoned about (the matrix
algebra they need is in `DS.Lemmas.Mat3`).
-/
namespace DS
open Real

noncomputable instance : Elem ℝ where
  sqrt := Real.sqrt
  cosd := fun x => Real.cos (x * π / 180)
  sind := fun x => Real.sin (x * π / 180)
  acosd := fun c => Real.arccos c * 180 / π
  floor := fun x => (⌊x⌋ : ℝ)
  ceil := fun x => (⌈x⌉ : ℝ)

end DS
